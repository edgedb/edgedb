/-
C20 topological sort (core only): `dedup`, `lookup` and the adjacency lists against the edge
relations; calls in sequence on the shared state (`run`) and
their Hoare rule; a `visit` frame as the `run` of its `calls`.
-/
import EdbVerif.Model.TopoSpec
import EdbVerif.Lemmas.Keyed
import EdbVerif.Lemmas.ListAux

namespace EdbVerif.Topo

theorem mem_dedup {x : Nat} : ∀ {l : List Nat}, x ∈ dedup l ↔ x ∈ l :=
  ListAux.mem_dedup rfl (fun _ _ => rfl)

theorem dedup_nodup : ∀ l : List Nat, (dedup l).Nodup :=
  ListAux.dedup_nodup rfl (fun _ _ => rfl)

theorem has_iff {g : Graph} {k : Nat} : g.has k = true ↔ k ∈ g.keys := by
  simp [Graph.has]

theorem mem_present {g : Graph} {l : List Nat} {x : Nat} :
    x ∈ present g l ↔ x ∈ l ∧ x ∈ g.keys := by
  simp [present, List.mem_filter, has_iff]

theorem keys_length (g : Graph) : g.keys.length = g.length := by
  simp [Graph.keys]

theorem lookup_of_mem {g : Graph} (hwf : WF g) {e : Entry} (he : e ∈ g) :
    lookup g e.key = some e :=
  Keyed.find_of_mem hwf he

theorem mem_weakAdj {g : Graph} {a b : Nat} (h : b ∈ weakAdj g a) : Weak g a b := by
  unfold weakAdj at h
  split at h
  · rename_i e he
    obtain ⟨hm, hk⟩ := Keyed.find_some he
    simp only [weakAdjOf, mem_dedup, mem_present] at h
    exact ⟨e, hm, hk, h.1, h.2⟩
  · cases h

theorem mem_adj {g : Graph} {a b : Nat} (h : b ∈ adj g a) : Hard g a b := by
  unfold adj at h
  split at h
  · rename_i e he
    obtain ⟨hm, hk⟩ := Keyed.find_some he
    simp only [adjOf, mem_dedup, mem_present, List.mem_append] at h
    exact ⟨e, hm, hk, h.1, h.2⟩
  · cases h

theorem mem_ctrl {g : Graph} {a b : Nat} (h : b ∈ ctrl g a) : Ctrl g a b := by
  unfold ctrl at h
  split at h
  · rename_i e he
    obtain ⟨hm, hk⟩ := Keyed.find_some he
    simp only [ctrlOf, mem_dedup, mem_present] at h
    exact ⟨e, hm, hk, h.1, h.2⟩
  · cases h

theorem weak_mem_weakAdj {g : Graph} (hwf : WF g) {a b : Nat} (h : Weak g a b) :
    b ∈ weakAdj g a := by
  obtain ⟨e, hm, rfl, hb, hk⟩ := h
  simp only [weakAdj, lookup_of_mem hwf hm, weakAdjOf, mem_dedup, mem_present]
  exact ⟨hb, hk⟩

theorem hard_mem_adj {g : Graph} (hwf : WF g) {a b : Nat} (h : Hard g a b) :
    b ∈ adj g a := by
  obtain ⟨e, hm, rfl, hb, hk⟩ := h
  simp only [adj, lookup_of_mem hwf hm, adjOf, mem_dedup, mem_present, List.mem_append]
  exact ⟨hb, hk⟩

theorem ctrl_mem_ctrl {g : Graph} (hwf : WF g) {a b : Nat} (h : Ctrl g a b) :
    b ∈ ctrl g a := by
  obtain ⟨e, hm, rfl, hb, hk⟩ := h
  simp only [ctrl, lookup_of_mem hwf hm, ctrlOf, mem_dedup, mem_present]
  exact ⟨hb, hk⟩

theorem Weak.src {g : Graph} {a b : Nat} (h : Weak g a b) : a ∈ g.keys :=
  h.elim fun _ h => h.2.1 ▸ List.mem_map_of_mem h.1
theorem Hard.src {g : Graph} {a b : Nat} (h : Hard g a b) : a ∈ g.keys :=
  h.elim fun _ h => h.2.1 ▸ List.mem_map_of_mem h.1
theorem Ctrl.src {g : Graph} {a b : Nat} (h : Ctrl g a b) : a ∈ g.keys :=
  h.elim fun _ h => h.2.1 ▸ List.mem_map_of_mem h.1
theorem Weak.tgt {g : Graph} {a b : Nat} (h : Weak g a b) : b ∈ g.keys :=
  h.elim fun _ h => h.2.2.2
theorem Hard.tgt {g : Graph} {a b : Nat} (h : Hard g a b) : b ∈ g.keys :=
  h.elim fun _ h => h.2.2.2
theorem Ctrl.tgt {g : Graph} {a b : Nat} (h : Ctrl g a b) : b ∈ g.keys :=
  h.elim fun _ h => h.2.2.2

theorem child_tgt {g : Graph} {item n : Nat}
    (h : n ∈ weakAdj g item ∨ n ∈ adj g item ∨ n ∈ ctrl g item) : n ∈ g.keys := by
  rcases h with h | h | h
  · exact (mem_weakAdj h).tgt
  · exact (mem_adj h).tgt
  · exact (mem_ctrl h).tgt

/-- hard ∪ control edges: the ones along which a `CycleError` reaches the caller -/
def R (g : Graph) (a b : Nat) : Prop := Hard g a b ∨ Ctrl g a b

/-- all edges: the ones `visit` follows -/
def T (g : Graph) (a b : Nat) : Prop := Hard g a b ∨ Ctrl g a b ∨ Weak g a b

theorem T.src {g : Graph} {a b : Nat} (h : T g a b) : a ∈ g.keys :=
  h.elim Hard.src fun h => h.elim Ctrl.src Weak.src
theorem T.tgt {g : Graph} {a b : Nat} (h : T g a b) : b ∈ g.keys :=
  h.elim Hard.tgt fun h => h.elim Ctrl.tgt Weak.tgt

/-- Calls made one after the other on the shared state, up to the first error that is not
    dropped (`sw a`). -/
def run {α : Type} (sw : α → Bool) (f : α → St → Res) : List α → St → Res
  | [], st => (st, none)
  | a :: as, st =>
    match f a st with
    | (s, none) => run sw f as s
    | (s, some c) => if sw a then run sw f as s else (s, some c)

theorem loop_eq_run (f : Nat → St → Res) (sw : Bool) (l : List Nat) :
    loop f sw l = run (fun _ => sw) f l := by
  induction l with
  | nil => rfl
  | cons n ns ih => funext st; rw [loop, run, ih]; rfl

theorem run_map {α β : Type} (sw : β → Bool) (f : β → St → Res) (h : α → β) (l : List α) :
    run sw f (l.map h) = run (fun a => sw (h a)) (fun a => f (h a)) l := by
  induction l with
  | nil => rfl
  | cons a as ih => funext st; rw [List.map_cons, run, run, ih]

theorem run_append {α : Type} (sw : α → Bool) (f : α → St → Res) (l₁ l₂ : List α) :
    ∀ st, run sw f (l₁ ++ l₂) st =
      match run sw f l₁ st with
      | (s, some c) => (s, some c)
      | (s, none) => run sw f l₂ s := by
  induction l₁ with
  | nil => intro st; rfl
  | cons a as ih =>
    intro st
    rw [List.cons_append, run, run]
    rcases f a st with ⟨s, _ | c⟩
    · exact ih s
    · cases sw a
      · rfl
      · exact ih s

theorem run_congr {α : Type} {sw : α → Bool} {f f' : α → St → Res} {l : List α}
    (h : ∀ a ∈ l, ∀ s, f a s = f' a s) : run sw f l = run sw f' l := by
  induction l with
  | nil => rfl
  | cons a as ih =>
    funext st
    rw [run, run, h a List.mem_cons_self st, ih fun b hb => h b (List.mem_cons_of_mem _ hb)]

theorem run_cons {α : Type} (sw : α → Bool) (f : α → St → Res) (a : α) (as : List α) (st : St) :
    ((f a st).2 = none ∨ sw a = true) ∧ run sw f (a :: as) st = run sw f as (f a st).1 ∨
    sw a = false ∧ ∃ c, (f a st).2 = some c ∧ run sw f (a :: as) st = ((f a st).1, some c) := by
  rw [run]
  rcases f a st with ⟨s, _ | c⟩
  · exact Or.inl ⟨Or.inl rfl, rfl⟩
  · cases sw a
    · exact Or.inr ⟨rfl, c, rfl, rfl⟩
    · exact Or.inl ⟨Or.inr rfl, rfl⟩

theorem run_inv {α : Type} {sw : α → Bool} {f : α → St → Res} (I : St → Prop) {l : List α}
    (hstep : ∀ a ∈ l, ∀ s, I s → I (f a s).1) : ∀ {st}, I st → I (run sw f l st).1 := by
  induction l with
  | nil => intro st hI; exact hI
  | cons a as ih =>
    intro st hI
    have h1 := hstep a List.mem_cons_self st hI
    rcases run_cons sw f a as st with ⟨_, e⟩ | ⟨_, c, _, e⟩ <;> rw [e]
    · exact ih (fun b hb => hstep b (List.mem_cons_of_mem _ hb)) h1
    · exact h1

/-- Every call keeps `I`; a call after which the run goes on establishes `C a`, which later
    calls do not destroy. -/
theorem run_rule {α : Type} {sw : α → Bool} {f : α → St → Res} (I : St → Prop)
    (C : α → St → Prop) (hstab : ∀ a b s, C a s → C a (f b s).1) {l : List α}
    (hstep : ∀ a ∈ l, ∀ s, I s →
      I (f a s).1 ∧ ((f a s).2 = none ∨ sw a = true → C a (f a s).1)) :
    ∀ {st}, I st → ∃ s, I s ∧
      ((run sw f l st = (s, none) ∧ ∀ a ∈ l, C a s) ∨
       ∃ c, run sw f l st = (s, some c) ∧
         ∃ a ∈ l, sw a = false ∧ ∃ s', I s' ∧ (f a s').2 = some c) := by
  induction l with
  | nil => intro st hI; exact ⟨st, hI, Or.inl ⟨rfl, fun _ h => nomatch h⟩⟩
  | cons a as ih =>
    intro st hI
    obtain ⟨h1, h2⟩ := hstep a List.mem_cons_self st hI
    have hstep' := fun b hb => hstep b (List.mem_cons_of_mem a hb)
    rcases run_cons sw f a as st with ⟨hgo, e⟩ | ⟨hsw, c, hc, e⟩ <;> rw [e]
    · have hCa := run_inv (sw := sw) (C a) (l := as) (fun b _ s => hstab a b s) (h2 hgo)
      obtain ⟨s, hs, ⟨e', hall⟩ | ⟨c, e', b, hb, hrest⟩⟩ := ih hstep' h1
      · rw [e'] at hCa
        exact ⟨s, hs, Or.inl ⟨e', List.forall_mem_cons.2 ⟨hCa, hall⟩⟩⟩
      · exact ⟨s, hs, Or.inr ⟨c, e', b, List.mem_cons_of_mem a hb, hrest⟩⟩
    · exact ⟨_, h1, Or.inr ⟨c, rfl, a, List.mem_cons_self, hsw, st, hI, hc⟩⟩

theorem run_ok {α : Type} {sw : α → Bool} {f : α → St → Res} (I : St → Prop)
    (C : α → St → Prop) (hstab : ∀ a b s, C a s → C a (f b s).1) {l : List α}
    (hstep : ∀ a ∈ l, ∀ s, I s → I (f a s).1 ∧ (f a s).2 = none ∧ C a (f a s).1) {st : St}
    (hI : I st) : ∃ s, I s ∧ run sw f l st = (s, none) ∧ ∀ a ∈ l, C a s := by
  obtain ⟨s, hs, h | ⟨c, _, a, ha, _, s', hs', hc⟩⟩ := run_rule (sw := sw) I C hstab
    (fun a ha s hs => ⟨(hstep a ha s hs).1, fun _ => (hstep a ha s hs).2.2⟩) hI
  · exact ⟨s, hs, h⟩
  · rw [(hstep a ha s' hs').2.1] at hc
    cases hc

theorem run_err {α : Type} {sw : α → Bool} {f : α → St → Res} {l : List α} {st : St} {c : Cyc}
    (h : (run sw f l st).2 = some c) : ∃ a ∈ l, sw a = false ∧ ∃ s, (f a s).2 = some c := by
  obtain ⟨s, _, ⟨e, _⟩ | ⟨c', e, a, ha, hsw, s', _, hc⟩⟩ := run_rule (sw := sw) (f := f)
    (fun _ => True) (fun _ _ => True) (fun _ _ _ _ => trivial) (l := l)
    (fun _ _ _ _ => ⟨trivial, fun _ => trivial⟩) (st := st) trivial <;> rw [e] at h <;> cases h
  exact ⟨a, ha, hsw, s', hc⟩

def push (item : Nat) (s : St) : St :=
  { visited := item :: s.visited, order := s.order ++ [item] }

/-- the outermost weak frame (`wcur = 1`) drops the error -/
def finish (wcur item : Nat) (fc : Bool) : Res → Res
  | (s, none) => if fc then (s, none) else (push item s, none)
  | (s, some c) => if wcur == 1 then (s, none) else (s, some c)

theorem finish_fst (wcur item : Nat) (fc : Bool) (r : Res) :
    (finish wcur item fc r).1 = r.1 ∨ (finish wcur item fc r).1 = push item r.1 := by
  rcases r with ⟨s, _ | c⟩
  · cases fc
    · exact Or.inr rfl
    · exact Or.inl rfl
  · simp only [finish]
    split <;> exact Or.inl rfl

theorem finish_err {wcur item : Nat} {fc : Bool} {r : Res} {c : Cyc}
    (h : (finish wcur item fc r).2 = some c) : r.2 = some c := by
  rcases r with ⟨s, _ | c'⟩
  · cases fc <;> cases h
  · simp only [finish] at h
    split at h
    · cases h
    · exact h

/-- The body of a `visit` frame, abstracted over the recursive call. -/
def frame (g : Graph) (child : Nat → Bool → Bool → St → Res) (wcur item : Nat)
    (fc wl : Bool) (st : St) : Res :=
  let r1 := loop (fun n s => child n false true s) (wcur == 0) (weakAdj g item) st
  let r2 : Res := match r1 with
    | (s, some c) => (s, some c)
    | (s, none) => loop (fun n s => child n false wl s) false (adj g item) s
  let r3 : Res := match r2 with
    | (s, some c) => (s, some c)
    | (s, none) => loop (fun n s => child n true wl s) false (ctrl g item) s
  finish wcur item fc r3

/-- `len(visiting_weak)` inside a frame: one entered over a weak link has added its item. -/
def wcurOf (w : Nat) (wl : Bool) : Nat := if wl then w + 1 else w

theorem visit_zero (g : Graph) (vis : List Nat) (w item : Nat) (fc wl : Bool) (st : St) :
    visit g 0 vis w item fc wl st = (st, none) := rfl

theorem visit_succ (g : Graph) (fuel : Nat) (vis : List Nat) (w item : Nat) (fc wl : Bool)
    (st : St) :
    visit g (fuel + 1) vis w item fc wl st =
      if vis.contains item then (st, some ⟨item, vis.filter (· != item)⟩)
      else if st.visited.contains item then (st, none)
      else frame g (fun n fc' wl' s => visit g fuel (vis ++ [item]) (wcurOf w wl) n fc' wl' s)
            (wcurOf w wl) item fc wl st := rfl

/-- `visit(item, for_control, weak_link)` as a frame calls it; `sw`: the loop it is made from
    drops a `CycleError` it raises. -/
structure Call where
  item : Nat
  fc : Bool
  wl : Bool
  sw : Bool

def calls (g : Graph) (wcur item : Nat) (wl : Bool) : List Call :=
  (weakAdj g item).map (⟨·, false, true, wcur == 0⟩) ++
    (adj g item).map (⟨·, false, wl, false⟩) ++ (ctrl g item).map (⟨·, true, wl, false⟩)

theorem mem_calls {g : Graph} {wcur item : Nat} {wl : Bool} {k : Call} :
    k ∈ calls g wcur item wl ↔
      (∃ n ∈ weakAdj g item, ⟨n, false, true, wcur == 0⟩ = k) ∨
      (∃ n ∈ adj g item, ⟨n, false, wl, false⟩ = k) ∨
      (∃ n ∈ ctrl g item, ⟨n, true, wl, false⟩ = k) := by
  simp only [calls, List.mem_append, List.mem_map, or_assoc]

theorem calls_T {g : Graph} {wcur item : Nat} {wl : Bool} {k : Call}
    (hk : k ∈ calls g wcur item wl) : T g item k.item := by
  rcases mem_calls.1 hk with ⟨n, hn, rfl⟩ | ⟨n, hn, rfl⟩ | ⟨n, hn, rfl⟩
  · exact Or.inr (Or.inr (mem_weakAdj hn))
  · exact Or.inl (mem_adj hn)
  · exact Or.inr (Or.inl (mem_ctrl hn))

theorem frame_eq (g : Graph) (child : Nat → Bool → Bool → St → Res) (wcur item : Nat)
    (fc wl : Bool) (st : St) :
    frame g child wcur item fc wl st =
      finish wcur item fc
        (run Call.sw (fun k s => child k.item k.fc k.wl s) (calls g wcur item wl) st) := by
  rw [frame, calls, run_append, run_append, run_map, run_map, run_map, loop_eq_run, loop_eq_run,
    loop_eq_run]

theorem visit_succ_run (g : Graph) (f : Nat) (vis : List Nat) (w item : Nat) (fc wl : Bool)
    (st : St) :
    visit g (f + 1) vis w item fc wl st =
      if item ∈ vis then (st, some ⟨item, vis.filter (· != item)⟩)
      else if item ∈ st.visited then (st, none)
      else finish (wcurOf w wl) item fc
        (run Call.sw (fun k s => visit g f (vis ++ [item]) (wcurOf w wl) k.item k.fc k.wl s)
          (calls g (wcurOf w wl) item wl) st) := by
  simp only [visit_succ, frame_eq, List.contains_iff_mem]

theorem visit_cases (g : Graph) (f : Nat) (vis : List Nat) (w item : Nat) (fc wl : Bool)
    (st : St) :
    (item ∈ vis ∧
      visit g (f + 1) vis w item fc wl st = (st, some ⟨item, vis.filter (· != item)⟩)) ∨
    (item ∉ vis ∧ item ∈ st.visited ∧ visit g (f + 1) vis w item fc wl st = (st, none)) ∨
    (item ∉ vis ∧ item ∉ st.visited ∧ visit g (f + 1) vis w item fc wl st =
      finish (wcurOf w wl) item fc
        (run Call.sw (fun k s => visit g f (vis ++ [item]) (wcurOf w wl) k.item k.fc k.wl s)
          (calls g (wcurOf w wl) item wl) st)) := by
  rw [visit_succ_run]
  by_cases hc : item ∈ vis
  · exact Or.inl ⟨hc, if_pos hc⟩
  · by_cases hv : item ∈ st.visited
    · exact Or.inr (Or.inl ⟨hc, hv, by rw [if_neg hc, if_pos hv]⟩)
    · exact Or.inr (Or.inr ⟨hc, hv, by rw [if_neg hc, if_neg hv]⟩)

end EdbVerif.Topo
