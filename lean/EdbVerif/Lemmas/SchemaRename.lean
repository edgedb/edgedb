/-
The rename phase: applying the rename commands one after the other equals the
simultaneous renaming `renameAll`, and `renameAll` preserves validity.
-/
import EdbVerif.Lemmas.SchemaApply

namespace EdbVerif.Schema

abbrev Ren := List (Key × String)

def tgt (r : Key × String) : Key := (r.1.1, r.2)
def toRename (r : Key × String) : Cmd := .rename r.1.1 r.1.2 r.2

/-- side conditions under which a list of renames can be applied in sequence -/
structure RenOK (s : Schema) (ρ : Ren) : Prop where
  srcNodup : (ρ.map (·.1)).Nodup
  src : ∀ r ∈ ρ, r.1 ∈ keys s
  tgtFresh : ∀ r ∈ ρ, tgt r ∉ keys s
  tgtNodup : (ρ.map tgt).Nodup

theorem rn_fst (ρ : Ren) (k : Key) : (rn ρ k).1 = k.1 := by
  unfold rn
  split <;> rfl

theorem rn_cons (r : Key × String) (ρ : Ren) (k : Key) :
    rn (r :: ρ) k = if r.1 = k then (k.1, r.2) else rn ρ k := by
  unfold rn
  rw [List.find?_cons]
  by_cases h : r.1 = k
  · rw [beq_iff_eq.2 h, if_pos h]
  · rw [beq_eq_false_iff_ne.2 h, if_neg h]

theorem rn_singleton (r : Key × String) (k : Key) : rn [r] k = if r.1 = k then (k.1, r.2) else k :=
  rn_cons r [] k

theorem rn_of_not_src {ρ : Ren} {k : Key} (h : k ∉ ρ.map (·.1)) : rn ρ k = k := by
  rw [rn, Keyed.find_eq_none_iff.2 h]

theorem rn_of_src {ρ : Ren} (hn : (ρ.map (·.1)).Nodup) {r : Key × String} (hr : r ∈ ρ) :
    rn ρ r.1 = tgt r := by
  rw [rn, Keyed.find_of_mem hn hr]
  rfl

theorem renameKey_eq_rn (c : Nat) (o n : String) : renameKey c o n = rn [((c, o), n)] := by
  funext k
  rw [rn_singleton, renameKey]
  by_cases h : (c, o) = k
  · rw [if_pos h, ← h, beq_iff_eq.2 rfl]
    rfl
  · rw [if_neg h, beq_eq_false_iff_ne.2 (Ne.symm h)]
    rfl

theorem renameAll_nil (s : Schema) : renameAll [] s = s := by
  refine (List.map_congr_left fun o _ => ?_).trans (List.map_id s)
  rw [renameObj, show rn [] = id from rfl, List.map_id]
  rfl

theorem renameObj_key (ρ : Ren) (o : Obj) : (renameObj ρ o).key = rn ρ o.key :=
  Prod.ext (rn_fst ρ o.key).symm rfl

theorem keys_renameAll (ρ : Ren) (s : Schema) : keys (renameAll ρ s) = (keys s).map (rn ρ) := by
  unfold keys renameAll
  rw [List.map_map, List.map_map]
  exact List.map_congr_left fun o _ => renameObj_key ρ o

theorem apply_rename {s : Schema} {c : Nat} {o n : String} (h1 : (c, o) ∈ keys s) (h2 : (c, n) ∉ keys s) :
    apply s (.rename c o n) = .ok (renameAll [((c, o), n)] s) := by
  simp only [apply, List.contains_iff_mem.2 h1, not_contains.2 h2, Bool.not_true, Bool.false_eq_true,
    if_false, renameKey_eq_rn]
  rfl

theorem rn_comp {r : Key × String} {ρ : Ren} (h : tgt r ∉ ρ.map (·.1)) (k : Key) :
    rn ρ (rn [r] k) = rn (r :: ρ) k := by
  rw [rn_singleton, rn_cons]
  by_cases hk : r.1 = k
  · rw [if_pos hk, if_pos hk, ← hk]
    exact rn_of_not_src h
  · rw [if_neg hk, if_neg hk]

theorem renameAll_comp {r : Key × String} {ρ : Ren} (h : tgt r ∉ ρ.map (·.1)) (s : Schema) :
    renameAll ρ (renameAll [r] s) = renameAll (r :: ρ) s := by
  unfold renameAll
  rw [List.map_map]
  apply List.map_congr_left
  intro ob _
  simp only [Function.comp]
  unfold renameObj
  have hk : ({ ob with name := (rn [r] ob.key).2, refs := ob.refs.map (rn [r]) } : Obj).key = rn [r] ob.key :=
    renameObj_key [r] ob
  simp only [hk, rn_comp h, List.map_map, Function.comp_def]

theorem renOK_tail {s : Schema} {r : Key × String} {ρ : Ren} (h : RenOK s (r :: ρ)) :
    RenOK (renameAll [r] s) ρ := by
  have hs := h.srcNodup
  have ht := h.tgtNodup
  simp only [List.map_cons, List.nodup_cons] at hs ht
  refine ⟨hs.2, ?_, ?_, ht.2⟩
  · intro r' hr'
    rw [keys_renameAll]
    refine List.mem_map.2 ⟨r'.1, h.src r' (List.mem_cons_of_mem _ hr'), ?_⟩
    rw [rn_singleton, if_neg fun e => hs.1 (List.mem_map.2 ⟨r', hr', e.symm⟩)]
  · intro r' hr' hmem
    rw [keys_renameAll] at hmem
    obtain ⟨k, hk, hk'⟩ := List.mem_map.1 hmem
    rw [rn_singleton] at hk'
    by_cases e : r.1 = k
    · rw [if_pos e, ← e] at hk'
      exact ht.1 (List.mem_map.2 ⟨r', hr', hk'.symm⟩)
    · rw [if_neg e] at hk'
      exact h.tgtFresh r' (List.mem_cons_of_mem _ hr') (hk' ▸ hk)

theorem applyAll_renames {s : Schema} {ρ : Ren} (h : RenOK s ρ) (rest : List Cmd) :
    applyAll s (ρ.map toRename ++ rest) = applyAll (renameAll ρ s) rest := by
  induction ρ generalizing s with
  | nil => rw [List.map_nil, List.nil_append, renameAll_nil]
  | cons r ρ ih =>
    have h1 : apply s (toRename r) = .ok (renameAll [r] s) :=
      apply_rename (h.src r List.mem_cons_self) (h.tgtFresh r List.mem_cons_self)
    rw [List.map_cons, List.cons_append, applyAll, h1]
    dsimp only
    rw [ih (renOK_tail h)]
    congr 1
    apply renameAll_comp
    intro hmem
    obtain ⟨r', hr', e⟩ := List.mem_map.1 hmem
    exact h.tgtFresh r List.mem_cons_self (e ▸ h.src r' (List.mem_cons_of_mem _ hr'))

theorem rn_inj_on {s : Schema} {ρ : Ren} (h : RenOK s ρ) {k1 k2 : Key} (h1 : k1 ∈ keys s)
    (h2 : k2 ∈ keys s) (e : rn ρ k1 = rn ρ k2) : k1 = k2 := by
  by_cases s1 : k1 ∈ ρ.map (·.1)
  · obtain ⟨r1, hr1, rfl⟩ := List.mem_map.1 s1
    rw [rn_of_src h.srcNodup hr1] at e
    by_cases s2 : k2 ∈ ρ.map (·.1)
    · obtain ⟨r2, hr2, rfl⟩ := List.mem_map.1 s2
      rw [rn_of_src h.srcNodup hr2] at e
      rw [Keyed.eq_of_key h.tgtNodup hr1 hr2 e]
    · rw [rn_of_not_src s2] at e
      exact absurd (e ▸ h2) (h.tgtFresh r1 hr1)
  · rw [rn_of_not_src s1] at e
    by_cases s2 : k2 ∈ ρ.map (·.1)
    · obtain ⟨r2, hr2, rfl⟩ := List.mem_map.1 s2
      rw [rn_of_src h.srcNodup hr2] at e
      exact absurd (e ▸ h1) (h.tgtFresh r2 hr2)
    · rw [rn_of_not_src s2] at e
      exact e

theorem valid_renameAll {s : Schema} {ρ : Ren} (hv : Valid s) (h : RenOK s ρ) : Valid (renameAll ρ s) := by
  constructor
  · rw [keys_renameAll]
    exact List.Nodup.map_on (fun k1 h1 k2 h2 e => rn_inj_on h h1 h2 e) hv.nodup
  · intro o' ho' r' hr'
    obtain ⟨o, ho, rfl⟩ := List.mem_map.1 ho'
    simp only [renameObj, List.mem_map] at hr'
    obtain ⟨r, hr, rfl⟩ := hr'
    rw [keys_renameAll]
    exact List.mem_map.2 ⟨r, hv.closed o ho r hr, rfl⟩

theorem find_renameAll {s : Schema} {ρ : Ren} (hv : Valid s) (h : RenOK s ρ) {k : Key} {o : Obj}
    (hf : find s k = some o) : find (renameAll ρ s) (rn ρ k) = some (renameObj ρ o) := by
  rw [find_some_iff (valid_renameAll hv h).nodup]
  refine ⟨List.mem_map.2 ⟨o, find_mem hf, rfl⟩, ?_⟩
  rw [renameObj_key, find_key hf]

end EdbVerif.Schema
