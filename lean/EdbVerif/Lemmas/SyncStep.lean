/-
C17: what one request does to the chosen worker, slot by slot.
-/
import EdbVerif.Lemmas.SyncBasic

namespace EdbVerif.Sync

theorem Side.get_congr (s s' : Side) (h1 : s.dbs = s'.dbs) (h2 : s.glob = s'.glob)
    (h3 : s.sys = s'.sys) (σ : Slot) : s.get σ = s'.get σ := by
  cases σ <;> simp [Side.get, h1, h2, h3]

/-- neither `LAST_STATE` nor `_last_pickled_state` is a slot -/
theorem Side.get_last (s : Side) (l : Option Tok) (σ : Slot) : ({ s with last := l } : Side).get σ = s.get σ :=
  Side.get_congr _ _ rfl rfl rfl σ

theorem Side.forget_get (b : Side) (σ : Slot) : b.forget.get σ = b.get σ :=
  Side.get_last b none σ

theorem used_eq_supplied_iff (r : CReq) (a : Side) (d : Db3) (h : a.dbs r.db = some d) :
    (⟨d.schema, a.glob, d.refl, d.dbcfg, a.sys⟩ : Used) = r.supplied ↔
      ∀ p ∈ r.slots, a.get p.1 = some p.2 := by
  simp only [CReq.slots, CReq.supplied, Used.mk.injEq, List.forall_mem_cons, Side.get, h,
    Option.map_some, Option.some.injEq, List.not_mem_nil, false_imp_iff, implies_true, and_true]
  -- `Used` lists the global schema second, `slots` third
  constructor <;> exact fun ⟨h1, h2, h3, h4, h5⟩ => ⟨h1, h3, h2, h4, h5⟩

theorem safe_iff (ws : WState) (r : CReq) :
    Safe ws r ↔ ∀ p ∈ r.slots, ((preargs ws.bel r).at r.db p.1).or (ws.act.get p.1) = some p.2 :=
  ⟨fun h p hp => (preargs_or_eq_some _ r p.1 p.2 hp _).2 fun hb => h hb p hp,
   fun h hb p hp => (preargs_or_eq_some _ r p.1 p.2 hp _).1 (h p hp) hb⟩

/-- A `compile` request after which nothing was compiled (the worker cannot read the request, or `__sync__`
    fails): nothing changes but that the pool forgets `_last_pickled_state`. -/
structure CompileFailed (ws ws' : WState) (o : CObs) : Prop where
  used : o.used = none
  res : o.res = .syncFail
  act : ws'.act = ws.act
  bel : ∀ σ, ws'.bel.get σ = ws.bel.get σ

/-- A `compile` request compiled with `u`: every slot of the worker takes the part sent for it, and so does every
    believed slot — except after status 2, when the belief stays behind. -/
structure CompileRan (ws ws' : WState) (r : CReq) (o : CObs) (u : Used) : Prop where
  used : o.used = some u
  safe : u = r.supplied ↔ Safe ws r
  res : o.res ≠ .syncFail
  cb : o.res ≠ .cbAssert
  act : ∀ σ, ws'.act.get σ = ((preargs ws.bel r).at r.db σ).or (ws.act.get σ)
  bel : (r.out = .resultUnpicklable ∧ ∀ σ, ws'.bel.get σ = ws.bel.get σ) ∨
    (r.out ≠ .resultUnpicklable ∧ ∀ σ, ws'.bel.get σ = ((preargs ws.bel r).at r.db σ).or (ws.bel.get σ))

theorem stepCompile_spec (env : Env) (st : State) (r : CReq) :
    ∃ ws', (stepCompile env st r).1 = upd st r.w ws' ∧ LastLe ws' ∧
      (CompileFailed (st r.w) ws' (stepCompile env st r).2 ∨
        ∃ u, CompileRan (st r.w) ws' r (stepCompile env st r).2 u) := by
  obtain ⟨b', hb'⟩ := withAck_defined (st r.w).bel r
  unfold stepCompile
  by_cases hl : r.out = .requestUnreadable
  · rw [if_pos hl]
    exact ⟨_, rfl, nofun, .inl ⟨rfl, rfl, rfl, Side.forget_get _⟩⟩
  rw [if_neg hl]
  unfold stepCompileRun
  dsimp only
  rcases wsync_spec env (st r.w).act r.db (preargs (st r.w).bel r) with
    hW | ⟨a', d, hW, hdb, _, hget⟩ <;> rw [hW]
  · -- the same result as for a request the worker cannot read
    exact ⟨_, rfl, nofun, .inl ⟨rfl, rfl, rfl, Side.forget_get _⟩⟩
  rw [hb']
  have hact : ∀ (l : Option Tok) (σ : Slot), ({ a' with last := l } : Side).get σ =
      ((preargs (st r.w).bel r).at r.db σ).or ((st r.w).act.get σ) :=
    fun l σ => (Side.get_last a' l σ).trans (hget σ)
  have hbel : ∀ (l : Option Tok) (σ : Slot), ({ b' with last := l } : Side).get σ =
      ((preargs (st r.w).bel r).at r.db σ).or ((st r.w).bel.get σ) :=
    fun l σ => (Side.get_last b' l σ).trans (withAck_get hb' σ)
  have hu : (⟨d.schema, a'.glob, d.refl, d.dbcfg, a'.sys⟩ : Used) = r.supplied ↔ Safe (st r.w) r := by
    rw [used_eq_supplied_iff r a' d hdb, safe_iff]
    simp only [hget]
  cases hout : r.out <;> dsimp only
  case requestUnreadable => exact absurd hout hl
  case resultUnpicklable =>
    exact ⟨_, rfl, nofun, .inr ⟨_, rfl, hu, nofun, nofun, hact _, .inl ⟨hout, Side.forget_get _⟩⟩⟩
  all_goals
    refine ⟨_, rfl, ?_, .inr ⟨_, rfl, hu, nofun, nofun, hact _,
      .inr ⟨(fun h => nomatch hout.symm.trans h), hbel _⟩⟩⟩
    -- `LastLe`: `_last_pickled_state` is the new `LAST_STATE` (outcome `ok`) or forgotten
    first | exact fun _ h => h | exact nofun

theorem stepCompile_frame' (env : Env) (st : State) (r : CReq) (i : Nat) (h : i ≠ r.w) :
    (stepCompile env st r).1 i = st i := by
  obtain ⟨_, hc, _⟩ := stepCompile_spec env st r
  rw [hc]; exact upd_other h

/-- A `compile_in_tx` request moves no slot; what the compiler receives is what `wtxPrepare` makes of what
    `txSend` decided to send. -/
structure TxStep (env : Env) (ws ws' : WState) (r : TReq) (o : TObs) : Prop where
  get : ∀ σ, ws'.bel.get σ = ws.bel.get σ ∧ ws'.act.get σ = ws.act.get σ
  send : o.send = txSend ws.bel r
  used : ∀ u, o.used = some u → wtxPrepare env ws.act r (txSend ws.bel r) = .ok u

theorem stepTx_spec (env : Env) (st : State) (r : TReq) :
    ∃ ws', (stepTx env st r).1 = upd st r.w ws' ∧ LastLe ws' ∧
      TxStep env (st r.w) ws' r (stepTx env st r).2 := by
  unfold stepTx
  dsimp only
  generalize hsd : txSend (st r.w).bel r = sd
  cases hp : wtxPrepare env (st r.w).act r sd with
  | error e => exact ⟨_, rfl, nofun, fun σ => ⟨Side.get_last .., rfl⟩, hsd.symm, nofun⟩
  | ok u =>
    have hu : ∀ u', some u = some u' → wtxPrepare env (st r.w).act r (txSend (st r.w).bel r) = .ok u' :=
      fun _ h => by cases h; rw [hsd]; exact hp
    generalize r.out = out
    cases out
    case ok => exact ⟨_, rfl, fun _ h => h, fun σ => ⟨Side.get_last .., Side.get_last ..⟩, hsd.symm, hu⟩
    case raiseMutated =>
      cases sd <;> exact ⟨_, rfl, nofun, fun σ => ⟨Side.get_last .., Side.get_last ..⟩, hsd.symm, hu⟩
    all_goals exact ⟨_, rfl, nofun, fun σ => ⟨Side.get_last .., Side.get_last ..⟩, hsd.symm, hu⟩

end EdbVerif.Sync
