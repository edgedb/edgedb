/-
C07 — facts about the stored schema data under `WF`: look-ups, the rank
(position in the topological listing), stored ancestors and cones.
-/
import EdbVerif.Model.PolicySpec
import EdbVerif.Lemmas.Keyed

namespace EdbVerif.Policy

variable {sch : Schema}

theorem find_some {t : TypeId} {d : TypeDecl} (h : find sch t = some d) : d ∈ sch ∧ d.id = t :=
  Keyed.find_some h

theorem find_of_mem (hn : (sch.map (·.id)).Nodup) {d : TypeDecl} (hd : d ∈ sch) :
    find sch d.id = some d :=
  Keyed.find_of_mem hn hd

theorem mem_of_ancestorsOf {t a : TypeId} (h : a ∈ ancestorsOf sch t) :
    ∃ d ∈ sch, d.id = t ∧ a ∈ d.ancestors := by
  unfold ancestorsOf at h
  split at h
  · next d hf => exact ⟨d, (find_some hf).1, (find_some hf).2, h⟩
  · cases h

theorem mem_referrers (g : TypeDecl → List TypeId) {c t : TypeId} :
    c ∈ (sch.filter fun d => (g d).contains t).map (·.id) ↔ ∃ d ∈ sch, d.id = c ∧ t ∈ g d :=
  List.mem_map.trans (exists_congr fun d => by
    rw [List.mem_filter, List.contains_iff_mem, and_assoc, and_comm (a := t ∈ g d)])

theorem mem_children {c t : TypeId} : c ∈ children sch t ↔ ∃ d ∈ sch, d.id = c ∧ t ∈ d.bases :=
  mem_referrers (·.bases)

theorem mem_descendants {x t : TypeId} :
    x ∈ descendants sch t ↔ ∃ d ∈ sch, d.id = x ∧ t ∈ d.ancestors :=
  mem_referrers (·.ancestors)

theorem inScope_iff {k : Key} {o : Obj} :
    inScope sch k o = true ↔ o.ty = k.ty ∨ (k.skip = false ∧ k.ty ∈ ancestorsOf sch o.ty) := by
  simp [inScope]

theorem inCone_iff {t d : TypeId} : inCone sch t d = true ↔ d = t ∨ t ∈ ancestorsOf sch d := by
  simp [inCone]

theorem inCone_self (sch : Schema) (t : TypeId) : inCone sch t t = true :=
  inCone_iff.2 (.inl rfl)

theorem declared_of_inCone {t s : TypeId} (h : inCone sch t s = true) : s = t ∨ s ∈ sch.map (·.id) :=
  (inCone_iff.1 h).imp_right fun h =>
    have ⟨_, hd, e, _⟩ := mem_of_ancestorsOf h
    e ▸ List.mem_map_of_mem hd

theorem inScope_skip (sch : Schema) (t : TypeId) (o : Obj) : inScope sch ⟨t, true⟩ o = (o.ty == t) :=
  Bool.or_false _

theorem inScope_noskip (sch : Schema) (t : TypeId) (o : Obj) :
    inScope sch ⟨t, false⟩ o = inCone sch t o.ty := rfl

theorem rank_lt_of_mem {d : TypeDecl} (hd : d ∈ sch) : rank sch d.id < sch.length :=
  List.findIdx_lt_length_of_exists ⟨d, hd, beq_self_eq_true _⟩

theorem find_none_of_rank {t : TypeId} (h : sch.length ≤ rank sch t) : find sch t = none :=
  List.find?_eq_none.2 fun x hx hp => Nat.not_lt.2 h (List.findIdx_lt_length_of_exists ⟨x, hx, hp⟩)

theorem polRefs_nil_of_rank {t : TypeId} (h : sch.length ≤ rank sch t) : polRefs sch t = [] := by
  unfold polRefs
  rw [find_none_of_rank h]

theorem topoFrom_split {d : TypeDecl} {r : List TypeDecl} {b : TypeId} (hb : b ∈ d.bases)
    {s pre : List TypeDecl} (h : TopoFrom pre (s ++ d :: r)) :
    ∃ e ∈ pre ++ s, e.id = b ∧ e.material = true := by
  induction s generalizing pre with
  | nil =>
    rw [List.append_nil]
    exact h.1 b hb
  | cons x s ih =>
    have := ih h.2
    rwa [List.append_assoc] at this

section
variable (wf : WF sch)
include wf

theorem base_earlier {d : TypeDecl} (hd : d ∈ sch) {b : TypeId} (hb : b ∈ d.bases) :
    rank sch b < rank sch d.id ∧ ∃ e ∈ sch, e.id = b ∧ e.material = true := by
  obtain ⟨s, r, rfl, hne⟩ := Keyed.exists_split wf.nodup hd
  obtain ⟨e, he, hid, hm⟩ := topoFrom_split hb wf.topo
  rw [List.nil_append] at he
  refine ⟨?_, e, List.mem_append_left _ he, hid, hm⟩
  -- `b` is found inside `s`, `d.id` is not: ids are distinct
  have hs : ∀ x ∈ s, (x.id == d.id) = false := fun x hx =>
    beq_false_of_ne (hne x (List.mem_append_left _ hx))
  have hlt : s.findIdx (·.id == b) < s.length :=
    List.findIdx_lt_length_of_exists ⟨e, he, beq_iff_eq.2 hid⟩
  unfold rank
  rw [List.findIdx_append, if_pos hlt, List.findIdx_append, List.findIdx_eq_length_of_false hs,
    if_neg (Nat.lt_irrefl _)]
  exact Nat.lt_of_lt_of_le hlt (Nat.le_add_left _ _)

theorem rank_child {c t : TypeId} (h : c ∈ children sch t) :
    rank sch t < rank sch c ∧ rank sch c < sch.length := by
  obtain ⟨d, hd, rfl, hb⟩ := mem_children.1 h
  exact ⟨(base_earlier wf hd hb).1, rank_lt_of_mem hd⟩

theorem children_nil_of_rank {t : TypeId} (h : sch.length ≤ rank sch t) : children sch t = [] :=
  List.eq_nil_iff_forall_not_mem.2 fun _ hc =>
    Nat.not_lt.2 h (Nat.lt_trans (rank_child wf hc).1 (rank_child wf hc).2)

theorem children_nodup (t : TypeId) : (children sch t).Nodup :=
  Keyed.nodup_map_filter wf.nodup

theorem descendants_nodup (t : TypeId) : (descendants sch t).Nodup :=
  Keyed.nodup_map_filter wf.nodup

theorem polRefs_of_mem {d : TypeDecl} (hd : d ∈ sch) : polRefs sch d.id = d.pols := by
  unfold polRefs; rw [find_of_mem wf.nodup hd]

theorem ancestorsOf_of_mem {d : TypeDecl} (hd : d ∈ sch) : ancestorsOf sch d.id = d.ancestors := by
  unfold ancestorsOf; rw [find_of_mem wf.nodup hd]

theorem isMaterial_of_mem {d : TypeDecl} (hd : d ∈ sch) : isMaterial sch d.id = d.material := by
  unfold isMaterial; rw [find_of_mem wf.nodup hd]

theorem child_material {c t : TypeId} (h : c ∈ children sch t) : isMaterial sch t = true := by
  obtain ⟨d, hd, rfl, hb⟩ := mem_children.1 h
  obtain ⟨_, e, he, rfl, hm⟩ := base_earlier wf hd hb
  rw [isMaterial_of_mem wf he, hm]

theorem anc_base {t d : TypeId} (h : t ∈ ancestorsOf sch d) :
    ∃ b, d ∈ children sch b ∧ (t = b ∨ t ∈ ancestorsOf sch b) := by
  obtain ⟨dd, hdd, rfl, ha⟩ := mem_of_ancestorsOf h
  obtain ⟨b, hb, r⟩ := wf.anc_sound dd hdd t ha
  exact ⟨b, mem_children.2 ⟨dd, hdd, rfl, hb⟩, r⟩

theorem child_anc {c t : TypeId} (h : c ∈ children sch t) : t ∈ ancestorsOf sch c := by
  obtain ⟨d, hd, rfl, hb⟩ := mem_children.1 h
  rw [ancestorsOf_of_mem wf hd]
  exact (wf.anc_complete d hd t hb).1

theorem anc_up {c b a : TypeId} (h : c ∈ children sch b) (ha : a ∈ ancestorsOf sch b) :
    a ∈ ancestorsOf sch c := by
  obtain ⟨d, hd, rfl, hb⟩ := mem_children.1 h
  rw [ancestorsOf_of_mem wf hd]
  exact (wf.anc_complete d hd b hb).2 a ha

/-- induction down from `t` over the types that store `t` as an ancestor -/
theorem anc_induction {t : TypeId} {P : TypeId → Prop} (child : ∀ c ∈ children sch t, P c)
    (step : ∀ {b c}, t ∈ ancestorsOf sch b → c ∈ children sch b → P b → P c)
    {d : TypeId} (h : t ∈ ancestorsOf sch d) : P d := by
  generalize hn : rank sch d = n
  induction n using Nat.strongRecOn generalizing d with
  | ind n ih =>
    obtain ⟨b, hdb, rfl | hb⟩ := anc_base wf h
    · exact child d hdb
    · exact step hb hdb (ih _ (hn ▸ (rank_child wf hdb).1) hb rfl)

theorem anc_trans {d c t : TypeId} (hc : c ∈ ancestorsOf sch d) (ht : t ∈ ancestorsOf sch c) :
    t ∈ ancestorsOf sch d :=
  anc_induction wf (P := fun d => t ∈ ancestorsOf sch d) (fun _ h => anc_up wf h ht)
    (fun _ h ih => anc_up wf h ih) hc

theorem anc_rank {d a : TypeId} (h : a ∈ ancestorsOf sch d) : rank sch a < rank sch d :=
  anc_induction wf (P := fun d => rank sch a < rank sch d) (fun _ h => (rank_child wf h).1)
    (fun _ h ih => Nat.lt_trans ih (rank_child wf h).1) h

theorem anc_first_step {t d : TypeId} (h : t ∈ ancestorsOf sch d) :
    ∃ c ∈ children sch t, d = c ∨ c ∈ ancestorsOf sch d :=
  anc_induction wf (P := fun d => ∃ c ∈ children sch t, d = c ∨ c ∈ ancestorsOf sch d)
    (fun c hc => ⟨c, hc, .inl rfl⟩)
    (fun _ h ⟨c, hc, r⟩ => ⟨c, hc, .inr (r.elim (fun e => e ▸ child_anc wf h) (anc_up wf h))⟩) h

theorem anc_material {d a : TypeId} (h : a ∈ ancestorsOf sch d) : isMaterial sch a = true :=
  have ⟨_, hc, _⟩ := anc_first_step wf h
  child_material wf hc

theorem sub_of_anc {t d : TypeId} (h : t ∈ ancestorsOf sch d) : Sub sch d t :=
  anc_induction wf (P := (Sub sch · t)) (fun _ h => .step h (.refl t)) (fun _ h ih => .step h ih) h

theorem anc_of_sub {d t : TypeId} (h : Sub sch d t) : d = t ∨ t ∈ ancestorsOf sch d := by
  induction h with
  | refl => exact .inl rfl
  | step hc _ ih => exact .inr (ih.elim (fun e => e ▸ child_anc wf hc) (anc_up wf hc))

theorem inScope_iff_sub (t : TypeId) (o : Obj) : inScope sch ⟨t, false⟩ o = true ↔ Sub sch o.ty t :=
  (inScope_noskip sch t o ▸ inCone_iff).trans
    ⟨fun h => h.elim (fun e => e ▸ .refl _) (sub_of_anc wf), anc_of_sub wf⟩

theorem inCone_of_mem_descendants {c d : TypeId} (h : d ∈ descendants sch c) : inCone sch c d = true := by
  obtain ⟨dd, hdd, rfl, ha⟩ := mem_descendants.1 h
  exact inCone_iff.2 (.inr (ancestorsOf_of_mem wf hdd ▸ ha))

theorem inCone_child {t c s : TypeId} (hc : c ∈ children sch t) (h : inCone sch c s = true) :
    t ∈ ancestorsOf sch s :=
  (inCone_iff.1 h).elim (fun e => e ▸ child_anc wf hc) (fun h => anc_trans wf h (child_anc wf hc))

end

end EdbVerif.Policy
