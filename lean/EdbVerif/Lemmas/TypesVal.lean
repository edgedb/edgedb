/-
C12 — typed values: run-time tags are exact; implicit conversions and explicit casts produce values of
the target type.
-/
import EdbVerif.Lemmas.TypesTable
import EdbVerif.Lemmas.TypesLift

namespace EdbVerif.Types
open EdbVerif.Gen.Types

theorem typeOf_of_hasType_both : (∀ (v : Val) (t : Ty), hasTypeB v t = true → typeOf v = t) ∧
    (∀ (_ : List Val) (_ : Ty), True) ∧
    (∀ (vs : List Val) (ts : List Ty), hasTypeL vs ts = true → typeOfL vs = ts) := by
  apply hasTypeB.mutual_induct
  · intro s n d s' h
    simp only [hasTypeB, Bool.and_eq_true, beq_iff_eq] at h; rw [typeOf, h.1]
  · intro s s' h
    simp only [hasTypeB, beq_iff_eq] at h; rw [typeOf, h]
  · intro b s' h
    simp only [hasTypeB, beq_iff_eq] at h; rw [typeOf, h]
  · intro s k s' h
    simp only [hasTypeB, Bool.and_eq_true, beq_iff_eq] at h; rw [typeOf, h.1]
  · intro c s v s' _ h
    simp only [hasTypeB, Bool.and_eq_true, beq_iff_eq] at h; rw [typeOf, h.1]
  · intro n k s' h
    simp only [hasTypeB, beq_iff_eq] at h; rw [typeOf, h]
  · intro t i t' h
    simp only [hasTypeB, beq_iff_eq] at h; rw [typeOf, h]
  · intro vs ts ih h
    rw [typeOf, ih h]
  · intro e vs t _ h
    simp only [hasTypeB, Bool.and_eq_true] at h; rw [typeOf, eq_of_beq h.1]
  · intro v t _ _ _ _ _ _ _ _ _ h
    simp [hasTypeB] at h
  · exact fun _ => trivial
  · exact fun _ _ _ _ _ => trivial
  · exact fun _ => rfl
  · intro v vs t ts ih1 ih2 h
    simp only [hasTypeL, Bool.and_eq_true] at h
    rw [typeOfL, ih1 h.1, ih2 h.2]
  · intro vs ts _ _ h
    simp [hasTypeL] at h

theorem typeOf_of_hasType (v : Val) (t : Ty) (h : hasTypeB v t = true) : typeOf v = t :=
  typeOf_of_hasType_both.1 v t h

theorem typeOfL_of_hasTypeL (vs : List Val) (ts : List Ty) (h : hasTypeL vs ts = true) :
    typeOfL vs = ts := typeOf_of_hasType_both.2.2 vs ts h

theorem allHaveType_iff (vs : List Val) (t : Ty) :
    allHaveType vs t = true ↔ ∀ v ∈ vs, hasTypeB v t = true := by
  induction vs with
  | nil => simp [allHaveType]
  | cons v vs ih => simp [allHaveType, ih]

theorem unwrap_base {v : Val} {x : Scalar} (h : hasTypeB v (.scalar (.base x)) = true) : unwrap v = v := by
  cases v with
  | derived _ _ _ => cases h
  | _ => rfl

theorem isOpaque_not_numeric {s : Scalar} (h : isOpaque s = true) :
    isNumeric s = false ∧ (s == .str) = false ∧ (s == .bool) = false := by
  simp only [isOpaque, Bool.and_eq_true, Bool.not_eq_true', bne_iff_ne, ne_eq] at h
  refine ⟨h.1.1, ?_, ?_⟩
  · simpa using h.1.2
  · simpa using h.2

theorem unwrap_typed {v : Val} {a : Sc} {x : Scalar} (hv : hasTypeB v (.scalar a) = true)
    (hx : a.top = some x) : hasTypeB (unwrap v) (.scalar (.base x)) = true := by
  cases a with
  | base x' =>
    simp only [Sc.top, Option.some.injEq] at hx
    subst hx
    rw [unwrap_base hv]; exact hv
  | derived ch x' =>
    simp only [Sc.top, Option.some.injEq] at hx
    subst hx
    cases v <;>
      simp only [hasTypeB, Bool.and_eq_true, beq_iff_eq, reduceCtorEq, false_and, Bool.false_eq_true,
        Sc.derived.injEq] at hv
    obtain ⟨⟨_, rfl⟩, hw⟩ := hv
    simp only [unwrap, unwrap_base hw]
    exact hw
  | enum n => simp [Sc.top] at hx

theorem convScalar_cast {v : Val} {x y : Scalar} (hv : hasTypeB v (.scalar (.base x)) = true)
    (hs : safeCastS x y = true) : hasTypeB (convScalar y v) (.scalar (.base y)) = true := by
  -- the tag of `v` fixes the kind of `x`; each way for `safeCastS x y` to hold that agrees with it (an implicit
  -- cast keeps the kind: `kind_of_castable`) puts `y` in the class for which `convScalar` re-tags that kind
  cases v with
  | num s n d =>
    simp only [hasTypeB, Bool.and_eq_true, beq_iff_eq, Sc.base.injEq] at hv
    obtain ⟨rfl, hn⟩ := hv
    by_cases hcn : isNumeric y = true
    · simp [convScalar, hcn, hasTypeB]
    · have hcn' : isNumeric y = false := by simpa using hcn
      simp only [safeCastS, Bool.or_eq_true, Bool.and_eq_true, beq_iff_eq] at hs
      rcases hs with ((h | h) | h) | h
      · subst h; rw [hn] at hcn'; cases hcn'
      · have := (kind_of_castable h).isNumeric; rw [hn, hcn'] at this; cases this
      · rw [h.2] at hcn'; cases hcn'
      · have : y = .str := h.1
        subst this
        simp [convScalar, hcn', hasTypeB]
  | str s =>
    simp only [hasTypeB, beq_iff_eq, Sc.base.injEq] at hv
    subst hv
    simp only [safeCastS, Bool.or_eq_true, Bool.and_eq_true, beq_iff_eq, isNumeric_str,
      Bool.false_and, Bool.false_eq_true, or_false, false_or] at hs
    have : y = .str := by
      rcases hs with (h | h) | h
      · exact h.symm
      · have := (kind_of_castable h).isStr
        simp only [BEq.rfl] at this
        exact (beq_iff_eq.1 this.symm)
      · exact absurd h.2 (by decide)
    subst this
    simp [convScalar, hasTypeB]
  | bool b =>
    simp only [hasTypeB, beq_iff_eq, Sc.base.injEq] at hv
    subst hv
    by_cases hcs : y = .str
    · subst hcs; simp [convScalar, hasTypeB]
    · have hcs' : (y == Scalar.str) = false := by simpa using hcs
      simp only [safeCastS, Bool.or_eq_true, Bool.and_eq_true, beq_iff_eq, isNumeric_bool,
        Bool.false_and, Bool.false_eq_true, or_false, false_or] at hs
      have : y = .bool := by
        rcases hs with (h | h) | h
        · exact h.symm
        · have := (kind_of_castable h).isBool
          simp only [BEq.rfl] at this
          exact (beq_iff_eq.1 this.symm)
        · exact absurd h.1 hcs
      subst this
      simp [convScalar, hasTypeB]
  | «opaque» s k =>
    simp only [hasTypeB, Bool.and_eq_true, beq_iff_eq, Sc.base.injEq] at hv
    obtain ⟨rfl, hn⟩ := hv
    have hno := isOpaque_not_numeric hn
    simp only [safeCastS, Bool.or_eq_true, Bool.and_eq_true, beq_iff_eq, hno.1,
      Bool.false_and, Bool.false_eq_true, or_false, hno.2.2, and_false] at hs
    have : isOpaque y = true := by
      rcases hs with h | h
      · subst h; exact hn
      · rw [← (kind_of_castable h).isOpaque]; exact hn
    simp [convScalar, this, hasTypeB]
  | _ => cases hv

theorem convSc_typed {v : Val} {a c : Sc} (hv : hasTypeB v (.scalar a) = true)
    (hc : convertibleSc a c = true) : hasTypeB (convVal (.scalar c) v) (.scalar c) = true := by
  rcases convertibleSc_iff.1 hc with rfl | ⟨x, y, hx, rfl, hxy⟩
  · cases a with
    | base x =>
      simp only [convVal, unwrap_base hv]
      exact convScalar_cast hv (by simp [safeCastS])
    | derived ch x => simp [convVal, hv]
    | enum n => simpa [convVal] using hv
  · simp only [convVal]
    exact convScalar_cast (unwrap_typed hv hx) (by simp [safeCastS, hxy])

theorem convSc_cast {v : Val} {a c : Sc} (hv : hasTypeB v (.scalar a) = true)
    (hc : canCastSc a c = true) :
    hasTypeB (convVal (.scalar c) v) (.scalar c) = true := by
  simp only [canCastSc, Bool.or_eq_true, beq_iff_eq] at hc
  rcases hc with rfl | hc
  · exact convSc_typed hv (convertibleSc_iff.2 (.inl rfl))
  · split at hc
    · rename_i x y hx hy
      simp only [Bool.and_eq_true] at hc
      have hw := unwrap_typed hv hx
      cases c with
      | base y' =>
        simp only [Sc.top, Option.some.injEq] at hy
        subst hy
        simp only [convVal]
        exact convScalar_cast hw hc.2
      | derived ch y' =>
        simp only [Sc.top, Option.some.injEq] at hy
        subst hy
        simp only [convVal]
        split
        · assumption
        · simp only [hasTypeB, BEq.rfl, Bool.true_and]
          exact convScalar_cast hw hc.2
      | enum n => simp [Sc.top] at hy
    · cases hc

theorem convAll_typed {a c : Ty} (h : ∀ v, hasTypeB v a = true → hasTypeB (convVal c v) c = true) :
    ∀ vs : List Val, allHaveType vs a = true → allHaveType (convAll c vs) c = true
  | [], _ => rfl
  | v :: vs, hv => by
    simp only [allHaveType, Bool.and_eq_true] at hv
    simp only [convAll, allHaveType, Bool.and_eq_true]
    exact ⟨h v hv.1, convAll_typed h vs hv.2⟩

theorem lift_convVal {r : Sc → Sc → Bool}
    (hr : ∀ a c v, r a c = true → hasTypeB v (.scalar a) = true →
      hasTypeB (convVal (.scalar c) v) (.scalar c) = true) :
    (∀ a c : Ty, lift r a c = true → ∀ v, hasTypeB v a = true → hasTypeB (convVal c v) c = true) ∧
    (∀ as cs : List Ty, liftL r as cs = true →
      ∀ vs, hasTypeL vs as = true → hasTypeL (convValL cs vs) cs = true) := by
  apply lift_induct
  · exact fun x y h v hv => hr x y v h hv
  · intro n v hv
    cases v <;> simp only [hasTypeB, Bool.false_eq_true] at hv
    simpa [convVal, hasTypeB] using hv
  · intro as cs ih v hv
    cases v <;> simp only [hasTypeB, Bool.false_eq_true] at hv
    exact ih _ hv
  · intro a c ih v hv
    cases v <;> simp only [hasTypeB, Bool.false_eq_true, Bool.and_eq_true] at hv
    simp only [convVal, hasTypeB, Bool.and_eq_true]
    exact ⟨Ty.beq_refl c, convAll_typed ih _ hv.2⟩
  · intro vs hv
    cases vs <;> simp only [hasTypeL, Bool.false_eq_true] at hv
    rfl
  · intro a c as cs ih1 ih2 vs hv
    cases vs <;> simp only [hasTypeL, Bool.false_eq_true, Bool.and_eq_true] at hv
    simp only [convValL, hasTypeL, Bool.and_eq_true]
    exact ⟨ih1 _ hv.1, ih2 _ hv.2⟩

theorem convVal_hasType (v : Val) (a c : Ty) (hv : hasTypeB v a = true) (hc : convertible a c = true) :
    hasTypeB (convVal c v) c = true :=
  (lift_convVal fun _ _ _ h hv => convSc_typed hv h).1 a c (convertible_lift.1 ▸ hc) v hv

theorem convValL_hasType : ∀ (vs : List Val) (as cs : List Ty), hasTypeL vs as = true →
    convertibleL as cs = true → hasTypeL (convValL cs vs) cs = true :=
  fun vs as cs hv hc =>
    (lift_convVal fun _ _ _ h hv => convSc_typed hv h).2 as cs (convertible_lift.2 ▸ hc) vs hv

theorem convAll_hasType : ∀ (vs : List Val) (a c : Ty), allHaveType vs a = true →
    convertible a c = true → allHaveType (convAll c vs) c = true :=
  fun vs a c hv hc => convAll_typed (fun v h => convVal_hasType v a c h hc) vs hv

theorem mem_convAll (t : Ty) (vs : List Val) (w : Val) :
    w ∈ convAll t vs ↔ ∃ v ∈ vs, w = convVal t v := by
  induction vs with
  | nil => simp [convAll]
  | cons v vs ih => simp [convAll, ih, eq_comm]

theorem convVal_cast (v : Val) (a c : Ty) (hv : hasTypeB v a = true) (hc : canCast a c = true) :
    hasTypeB (convVal c v) c = true :=
  (lift_convVal fun _ _ _ h hv => convSc_cast hv h).1 a c (canCast_lift.1 ▸ hc) v hv

theorem convValL_cast : ∀ (vs : List Val) (as cs : List Ty), hasTypeL vs as = true →
    canCastL as cs = true → hasTypeL (convValL cs vs) cs = true :=
  fun vs as cs hv hc =>
    (lift_convVal fun _ _ _ h hv => convSc_cast hv h).2 as cs (canCast_lift.2 ▸ hc) vs hv

theorem convAll_cast : ∀ (vs : List Val) (a c : Ty), allHaveType vs a = true →
    canCast a c = true → allHaveType (convAll c vs) c = true :=
  fun vs a c hv hc => convAll_typed (fun v h => convVal_cast v a c h hc) vs hv

theorem hasTypeL_get (env : List Val) (Γ : List Ty) (i : Nat) (v : Val) (t : Ty)
    (h : hasTypeL env Γ = true) (h1 : env[i]? = some v) (h2 : Γ[i]? = some t) : hasTypeB v t = true := by
  induction env generalizing Γ i with
  | nil => cases h1
  | cons w env ih =>
    cases Γ with
    | nil => cases h2
    | cons u Γ =>
      simp only [hasTypeL, Bool.and_eq_true] at h
      cases i with
      | zero => cases h1; cases h2; exact h.1
      | succ i => exact ih Γ i h.2 h1 h2

theorem convAll_of_list : ∀ (vs : List Val) (ts : List Ty) (c : Ty), hasTypeL vs ts = true →
    (∀ x ∈ ts, convertible x c = true) → allHaveType (convAll c vs) c = true
  | [], [], _, _, _ => rfl
  | v :: vs, t :: ts, c, hv, hc => by
    simp only [hasTypeL, Bool.and_eq_true] at hv
    simp only [convAll, allHaveType, Bool.and_eq_true]
    exact ⟨convVal_hasType v t c hv.1 (hc t List.mem_cons_self),
      convAll_of_list vs ts c hv.2 (fun x hx => hc x (List.mem_cons_of_mem _ hx))⟩
  | [], _ :: _, _, hv, _ | _ :: _, [], _, hv, _ => by cases hv

end EdbVerif.Types
