/-
Level 1 of C09: the compiler-side connection state refines the PostgreSQL-style block
`Spec` for every history (`refines`), by the invariant `Inv1` under the abstraction `absT`.  It
turns on what `popAll` and the two savepoint scans of `dbstate.py` compute
(`popAll_scanRollback`, `popAll_scanRelease`) against what the spec's searches find on the
corresponding frames.
-/
import EdbVerif.Model.TxSpec
import EdbVerif.Lemmas.Keyed
import EdbVerif.Lemmas.ListAux

namespace EdbVerif.Tx

theorem popAll_eq_filter (d : List TxState) (ids : List Nat) :
    popAll d ids = d.filter (fun x => !ids.contains x.id) := by
  induction ids generalizing d with
  | nil => exact (List.filter_eq_self.mpr (by simp)).symm
  | cons i ids ih =>
    have : popAll d (i :: ids) = popAll (dictPop d i) ids := rfl
    rw [this, ih, dictPop, List.filter_filter]
    apply List.filter_congr
    intro x _
    rw [List.contains_cons, Bool.not_or, Bool.and_comm]
    rfl

theorem dictSet_fresh (d : List TxState) (s : TxState) (h : ∀ x ∈ d, x.id ≠ s.id) :
    dictSet d s = d ++ [s] :=
  Keyed.upsert_of_fresh h

theorem dictGet_id {d : List TxState} {i : Nat} {x : TxState} (h : dictGet d i = some x) : x.id = i :=
  (Keyed.find_some h).2

theorem dictGet_mem {d : List TxState} {i : Nat} {x : TxState} (h : dictGet d i = some x) : x ∈ d :=
  List.mem_of_find?_eq_some h

theorem dictHas_eq (d : List TxState) (i : Nat) : dictHas d i = (dictGet d i).isSome := by
  rw [Bool.eq_iff_iff, dictGet, List.find?_isSome, dictHas, List.any_eq_true]

theorem dictGet_dictSet (d : List TxState) (s : TxState) (i : Nat) :
    dictGet (dictSet d s) i = if s.id = i then some s else dictGet d i :=
  Keyed.find_upsert d s i

theorem dictGet_filter_le (d : List TxState) (k i : Nat) :
    dictGet (d.filter (fun x => !(x.id > k))) i = if i ≤ k then dictGet d i else none := by
  have := Keyed.find_filter_key (key := fun x : TxState => x.id) (fun j => !(decide (j > k))) d i
  simpa [dictGet, Nat.not_lt] using this

/-- `pre` is what a scan of `(A ++ pre.reverse).reverse` has walked over, in the order of the scan. -/
theorem popAll_suffix (A pre : List TxState) (hnd : ((A ++ pre.reverse).map (·.id)).Nodup) :
    popAll (A ++ pre.reverse) (pre.map (·.id)) = A := by
  rw [List.map_append, List.nodup_append] at hnd
  rw [popAll_eq_filter, List.filter_append, List.filter_eq_self.2, List.filter_eq_nil_iff.2,
    List.append_nil]
  · intro x hx
    simpa using ⟨x, List.mem_reverse.1 hx, rfl⟩
  · intro x hx
    simp only [Bool.not_eq_eq_eq_not, Bool.not_true, List.contains_eq_mem, decide_eq_false_iff_not]
    intro hc
    exact hnd.2.2 x.id (List.mem_map_of_mem hx) x.id (by simpa using hc) rfl

theorem scanRelease_eq (n : Nat) (R : List TxState) :
    scanRelease n R = (scanRollback n R).map fun r => r.2 ++ [r.1.id] := by
  induction R with
  | nil => rfl
  | cons s R ih =>
    simp only [scanRelease, scanRollback, ih]
    split
    · rfl
    · cases scanRollback n R <;> rfl

theorem scanRollback_split (n : Nat) (R : List TxState) :
    (scanRollback n R = none ∧ ∀ x ∈ R, x.name ≠ some n) ∨
    ∃ pre f post, scanRollback n R = some (f, pre.map (·.id)) ∧ R = pre ++ f :: post ∧
      f.name = some n ∧ ∀ x ∈ pre, x.name ≠ some n := by
  induction R with
  | nil => exact .inl ⟨rfl, fun _ h => nomatch h⟩
  | cons s R ih =>
    by_cases hs : s.name = some n
    · exact .inr ⟨[], s, R, by rw [scanRollback, if_pos (by simpa using hs)]; rfl, rfl, hs,
        fun _ h => nomatch h⟩
    · have hs' : ¬ (s.name == some n) = true := by simpa using hs
      rcases ih with ⟨h, hno⟩ | ⟨pre, f, post, h, rfl, hf, hpre⟩
      · exact .inl ⟨by rw [scanRollback, if_neg hs', h], List.forall_mem_cons.2 ⟨hs, hno⟩⟩
      · exact .inr ⟨s :: pre, f, post, by rw [scanRollback, if_neg hs', h]; rfl, rfl, hf,
          List.forall_mem_cons.2 ⟨hs, hpre⟩⟩

/-- `sps = A ++ f :: B` with `f` the last savepoint called `n`: ROLLBACK TO keeps `A ++ [f]`,
    RELEASE keeps `A`. -/
theorem popAll_scanRollback (n : Nat) (sps : List TxState) (hnd : (sps.map (·.id)).Nodup) :
    (scanRollback n sps.reverse = none ∧ ∀ x ∈ sps, x.name ≠ some n) ∨
    ∃ A f B ids, scanRollback n sps.reverse = some (f, ids) ∧ sps = A ++ f :: B ∧
      f.name = some n ∧ (∀ x ∈ B, x.name ≠ some n) ∧
      popAll sps ids = A ++ [f] ∧ popAll sps (ids ++ [f.id]) = A := by
  rcases scanRollback_split n sps.reverse with ⟨h, hno⟩ | ⟨pre, f, post, h, hR, hf, hpre⟩
  · exact .inl ⟨h, fun x hx => hno x (List.mem_reverse.2 hx)⟩
  · have hsps := List.reverse_eq_iff.1 hR
    rw [List.reverse_append, List.reverse_cons] at hsps
    subst hsps
    refine .inr ⟨_, f, _, _, h, (List.append_cons ..).symm, hf, fun x hx => hpre x (List.mem_reverse.1 hx),
      popAll_suffix _ pre hnd, ?_⟩
    have := popAll_suffix post.reverse (pre ++ [f]) (by rwa [List.reverse_append, ← List.append_assoc])
    rwa [List.reverse_append, ← List.append_assoc, List.map_append] at this

theorem popAll_scanRelease (n : Nat) (sps : List TxState) (hnd : (sps.map (·.id)).Nodup) :
    (scanRelease n sps.reverse = none ∧ ∀ x ∈ sps, x.name ≠ some n) ∨
    ∃ A f B ids, scanRelease n sps.reverse = some ids ∧ sps = A ++ f :: B ∧
      f.name = some n ∧ (∀ x ∈ B, x.name ≠ some n) ∧ popAll sps ids = A := by
  rw [scanRelease_eq]
  rcases popAll_scanRollback n sps hnd with ⟨h, hno⟩ | ⟨A, f, B, ids, h, hs, hf, hB, _, hpop⟩
  · exact .inl ⟨by rw [h]; rfl, hno⟩
  · exact .inr ⟨A, f, B, _, by rw [h]; rfl, hs, hf, hB, hpop⟩

theorem findFrame_none (n : Nat) (L : List Frame) (hL : ∀ x ∈ L, x.1 ≠ n) : findFrame n L = none := by
  induction L with
  | nil => rfl
  | cons x L ih =>
    rw [findFrame, if_neg (by simpa using hL x List.mem_cons_self)]
    exact ih fun y hy => hL y (List.mem_cons_of_mem _ hy)

theorem findFrame_split (n : Nat) (L : List Frame) (f : Frame) (rest : List Frame)
    (hL : ∀ x ∈ L, x.1 ≠ n) (hf : f.1 = n) :
    findFrame n (L ++ f :: rest) = some (f :: rest) ∧
    releaseSplit n (L ++ f :: rest) = some (L.map (·.1) ++ [n], rest) := by
  induction L with
  | nil => simp [findFrame, releaseSplit, hf]
  | cons x L ih =>
    have ih := ih fun y hy => hL y (List.mem_cons_of_mem _ hy)
    have hx : ¬ (x.1 == n) = true := by simpa using hL x List.mem_cons_self
    rw [List.cons_append, findFrame, releaseSplit, if_neg hx, if_neg hx, ih.1, ih.2]
    exact ⟨rfl, rfl⟩

@[simp] theorem curTx_setTx (c : ConState) (t : Txn) : curTx (setTx c c.cur t) = some t := by
  simp [curTx, getTx, setTx]

theorem getTx_setTx_ne (c : ConState) (k k' : Nat) (t : Txn) (h : k ≠ k') :
    getTx (setTx c k' t) k = getTx c k := by
  simp [getTx, setTx, List.lookup, beq_false_of_ne h]

theorem setTx_cur (c : ConState) (k : Nat) (t : Txn) : (setTx c k t).cur = c.cur := rfl
theorem setTx_count (c : ConState) (k : Nat) (t : Txn) : (setTx c k t).count = c.count := rfl
theorem setTx_log (c : ConState) (k : Nat) (t : Txn) : (setTx c k t).log = c.log := rfl

variable {c : ConState} {t : Txn}

theorem curTx_initCurrentTx (c : ConState) (pl : Payload) :
    curTx (initCurrentTx c pl) =
      some { id := c.count + 1, implicit := true,
             current := ⟨c.count + 1, none, pl, c.count + 1⟩,
             state0 := ⟨c.count + 1, none, pl, c.count + 1⟩, sps := [] } := by
  simp [curTx, getTx, initCurrentTx]

theorem startTx_eq (h : curTx c = some t) :
    startTx c = if t.implicit then .ok (setTx c c.cur { t with implicit := false })
      else .error .alreadyInTx := by
  simp only [startTx, h]

theorem commitTx_eq (h : curTx c = some t) :
    commitTx c = if t.implicit then .error .notInTx
      else .ok (initCurrentTx c t.current.pl, t.current) := by
  simp only [commitTx, h]

theorem rollbackTx_eq (h : curTx c = some t) :
    rollbackTx c = .ok (initCurrentTx c t.state0.pl, t.state0) := by
  simp only [rollbackTx, h]

theorem update_eq (h : curTx c = some t) (u : Upd) :
    update c u =
      .ok (setTx c c.cur { t with current := { t.current with pl := u.apply t.current.pl } }) := by
  simp only [update, h]

theorem declareSavepoint_eq (h : curTx c = some t) (n : Nat) :
    declareSavepoint c n = if t.implicit then .error .spOutsideBlock else
      .ok ({ setTx { c with count := c.count + 1 } c.cur
               { t with sps := dictSet t.sps { t.current with id := c.count + 1, name := some n } } with
             log := dictSet c.log { t.current with id := c.count + 1, name := some n } }, c.count + 1) := by
  simp only [declareSavepoint, h]

theorem releaseSavepoint_eq (h : curTx c = some t) (n : Nat) :
    releaseSavepoint c n = if t.implicit then .error .spOutsideBlock else
      match scanRelease n t.sps.reverse with
      | none => .error .noSavepoint
      | some ids => .ok (setTx c c.cur { t with sps := popAll t.sps ids }) := by
  simp only [releaseSavepoint, h]
  rfl

theorem rollbackToSavepoint_eq (h : curTx c = some t) (n : Nat) :
    rollbackToSavepoint c n = if t.implicit then .error .spOutsideBlock else
      match scanRollback n t.sps.reverse with
      | none => .error .noSavepoint
      | some (sp, ids) => .ok (setTx c c.cur { t with current := sp, sps := popAll t.sps ids }, sp) := by
  simp only [rollbackToSavepoint, h]
  rfl

/-- `bound` makes the id `c.count + 1` of the next savepoint new; `named` is why the `getD 0` in
    `frameOf` never fires. -/
structure Inv1 (c : ConState) (t : Txn) : Prop where
  cur   : curTx c = some t
  nodup : (t.sps.map (·.id)).Nodup
  bound : ∀ s ∈ t.sps, s.id ≤ c.count
  named : ∀ s ∈ t.sps, ∃ m, s.name = some m

/-- The function under the `map` in `abs`: `abs c = (curTx c).map absT` by `rfl`. -/
def absT (t : Txn) : Spec :=
  { base := t.state0.pl, explicit := !t.implicit, cur := t.current.pl,
    frames := t.sps.reverse.map frameOf }

theorem abs_eq (c : ConState) (t : Txn) (h : curTx c = some t) : abs c = some (absT t) := by
  simp [abs, h, absT]

theorem inv1_fresh (c : ConState) (pl : Payload) :
    ∃ t, Inv1 (initCurrentTx c pl) t ∧ absT t = Spec.init pl :=
  ⟨_, ⟨curTx_initCurrentTx c pl, List.nodup_nil, List.forall_mem_nil _, List.forall_mem_nil _⟩, rfl⟩

/-- `inv1_fresh` at the empty state, typed with `ConState.init` for the rewrites of its callers. -/
theorem inv1_init (t0 : Nat) (pl : Payload) :
    ∃ t, Inv1 (ConState.init t0 pl) t ∧ absT t = Spec.init pl :=
  inv1_fresh _ pl

theorem Inv1.sublist (hI : Inv1 c t) {c' : ConState} {t' : Txn}
    (hcur : curTx c' = some t') (hsub : t'.sps.Sublist t.sps) (hcount : c.count ≤ c'.count) :
    Inv1 c' t' :=
  ⟨hcur, (hsub.map _).nodup hI.nodup, fun s hs => Nat.le_trans (hI.bound s (hsub.subset hs)) hcount,
    fun s hs => hI.named s (hsub.subset hs)⟩

theorem Inv1.append (hI : Inv1 c t) {c' : ConState} {t' : Txn} {sp : TxState}
    (hcur : curTx c' = some t') (hsps : t'.sps = t.sps ++ [sp]) (hid : sp.id = c.count + 1)
    (hcount : c'.count = c.count + 1) (hname : ∃ m, sp.name = some m) : Inv1 c' t' := by
  refine ⟨hcur, ?_, ?_, ?_⟩
  · rw [hsps]
    exact Keyed.nodup_map_snoc hI.nodup fun x hx =>
      Nat.ne_of_lt (hid.symm ▸ Nat.lt_succ_of_le (hI.bound x hx) : x.id < sp.id)
  · rw [hsps, hcount]
    exact ListAux.forall_mem_snoc (fun s hs => Nat.le_succ_of_le (hI.bound s hs)) (Nat.le_of_eq hid)
  · rw [hsps]
    exact ListAux.forall_mem_snoc hI.named hname

theorem Inv1.frames_ne (hI : Inv1 c t) {n : Nat} {L : List TxState}
    (hsub : ∀ x ∈ L, x ∈ t.sps) (hL : ∀ x ∈ L, x.name ≠ some n) :
    ∀ x ∈ L.reverse.map frameOf, x.1 ≠ n := fun x hx => by
  obtain ⟨y, hy, rfl⟩ := List.mem_map.1 hx
  have hy := List.mem_reverse.1 hy
  obtain ⟨m, hm⟩ := hI.named y (hsub y hy)
  rw [frameOf, hm]
  exact fun hmn => hL y hy (hm.trans (congrArg some hmn))

theorem Inv1.frames_split (hI : Inv1 c t) {n : Nat} {A B : List TxState}
    {f : TxState} (hsps : t.sps = A ++ f :: B) (hf : f.name = some n) (hB : ∀ x ∈ B, x.name ≠ some n) :
    findFrame n (t.sps.reverse.map frameOf) = some (frameOf f :: A.reverse.map frameOf) ∧
    releaseSplit n (t.sps.reverse.map frameOf) =
      some ((B.reverse.map frameOf).map (·.1) ++ [n], A.reverse.map frameOf) := by
  have := findFrame_split n _ (frameOf f) (A.reverse.map frameOf)
    (hI.frames_ne (fun x hx => by simp [hsps, hx]) hB) (by rw [frameOf, hf]; rfl)
  rwa [hsps, List.reverse_append, List.reverse_cons, List.map_append, List.map_append, List.append_assoc]

theorem Inv1.frames_none (hI : Inv1 c t) {n : Nat}
    (h : ∀ x ∈ t.sps, x.name ≠ some n) : findFrame n (t.sps.reverse.map frameOf) = none :=
  findFrame_none n _ (hI.frames_ne (fun _ hx => hx) h)

theorem Spec.step_release_found (p : Spec) (n : Nat) (f : Frame) (rest : List Frame)
    (h : p.explicit = true) (hf : findFrame n p.frames = some (f :: rest)) :
    p.step (.release n) = ({ p with frames := rest }, .ok ()) := by
  simp [Spec.step, h, hf]

theorem Spec.step_release_none (p : Spec) (n : Nat)
    (h : p.explicit = true) (hf : findFrame n p.frames = none) :
    p.step (.release n) = (p, .error .noSavepoint) := by
  simp [Spec.step, h, hf]

theorem Spec.step_rollbackTo_found (p : Spec) (n : Nat) (f : Frame) (rest : List Frame)
    (h : p.explicit = true) (hf : findFrame n p.frames = some (f :: rest)) :
    p.step (.rollbackTo n) = ({ p with cur := f.2, frames := f :: rest }, .ok ()) := by
  simp [Spec.step, h, hf]

theorem Spec.step_rollbackTo_none (p : Spec) (n : Nat)
    (h : p.explicit = true) (hf : findFrame n p.frames = none) :
    p.step (.rollbackTo n) = (p, .error .noSavepoint) := by
  simp [Spec.step, h, hf]

def Refines (t : Txn) (e : Ev) : M (ConState × Ret) → Prop
  | .error err => (absT t).step e = (absT t, .error err)
  | .ok (c', _) => ∃ t', Inv1 c' t' ∧ (absT t).step e = (absT t', .ok ())

theorem exec_refines (hI : Inv1 c t) (e : Ev) : Refines t e (exec c e) := by
  have hcur := hI.cur
  -- accepted: the current transaction rewritten without a new savepoint, or a new implicit one
  have hset : ∀ (t' : Txn) (r : Ret), t'.sps.Sublist t.sps → (absT t).step e = (absT t', .ok ()) →
      Refines t e (.ok (setTx c c.cur t', r)) := fun t' _ hsub h2 =>
    ⟨t', hI.sublist (curTx_setTx c t') hsub (Nat.le_refl _), h2⟩
  have hnew : ∀ (pl : Payload) (r : Ret), (absT t).step e = (Spec.init pl, .ok ()) →
      Refines t e (.ok (initCurrentTx c pl, r)) := fun pl _ h2 =>
    let ⟨t', hI', ha⟩ := inv1_fresh c pl
    ⟨t', hI', ha ▸ h2⟩
  have hexp : (absT t).explicit = !t.implicit := rfl
  cases e with
  | start =>
    simp only [exec, startTx_eq hcur]
    by_cases hi : t.implicit
    · simp only [hi, if_true, Except.map]
      exact hset { t with implicit := false } .unit (List.Sublist.refl _) (by simp [absT, Spec.step, hi])
    · simp only [hi, Except.map]
      show _ = _
      simp [absT, Spec.step, hi]
  | commit =>
    simp only [exec, commitTx_eq hcur]
    by_cases hi : t.implicit
    · simp only [hi, if_true, Except.map]
      show _ = _
      simp [absT, Spec.step, hi]
    · simp only [hi, Except.map]
      exact hnew t.current.pl .unit (by simp [absT, Spec.step, hi, Spec.init])
  | rollback =>
    simp only [exec, rollbackTx_eq hcur, Except.map]
    exact hnew t.state0.pl .unit (by simp [absT, Spec.step, Spec.init])
  | upd u =>
    simp only [exec, update_eq hcur, Except.map]
    exact hset { t with current := { t.current with pl := u.apply t.current.pl } } .unit
      (List.Sublist.refl _) (by simp [absT, Spec.step])
  | declare n =>
    simp only [exec, declareSavepoint_eq hcur]
    by_cases hi : t.implicit
    · simp only [hi, if_true, Except.map]
      show _ = _
      simp [absT, Spec.step, hi]
    · let sp : TxState := { t.current with id := c.count + 1, name := some n }
      have hds : dictSet t.sps sp = t.sps ++ [sp] :=
        dictSet_fresh _ _ fun x hx => Nat.ne_of_lt (Nat.lt_succ_of_le (hI.bound x hx))
      rw [if_neg hi]
      exact ⟨{ t with sps := t.sps ++ [sp] },
        hI.append (by simp [curTx, getTx, setTx, hds, sp]) rfl rfl rfl ⟨n, rfl⟩,
        by simp [absT, Spec.step, hi, frameOf, sp]⟩
  | release n =>
    simp only [exec, releaseSavepoint_eq hcur]
    by_cases hi : t.implicit
    · simp only [hi, if_true, Except.map]
      show _ = _
      simp [absT, Spec.step, hi]
    · rw [if_neg hi]
      rcases popAll_scanRelease n t.sps hI.nodup with ⟨hsc, hno⟩ | ⟨A, f, B, ids, hsc, hsps, hf, hB, hpop⟩
      · simp only [hsc, Except.map]
        exact Spec.step_release_none _ n (by simp [hexp, hi]) (hI.frames_none hno)
      · simp only [hsc, hpop, Except.map]
        exact hset { t with sps := A } .unit (hsps ▸ List.sublist_append_left A _)
          (Spec.step_release_found _ n _ _ (by simp [hexp, hi]) (hI.frames_split hsps hf hB).1)
  | rollbackTo n =>
    simp only [exec, rollbackToSavepoint_eq hcur]
    by_cases hi : t.implicit
    · simp only [hi, if_true, Except.map]
      show _ = _
      simp [absT, Spec.step, hi]
    · rw [if_neg hi]
      rcases popAll_scanRollback n t.sps hI.nodup with
        ⟨hsc, hno⟩ | ⟨A, f, B, ids, hsc, hsps, hf, hB, hpop, _⟩
      · simp only [hsc, Except.map]
        exact Spec.step_rollbackTo_none _ n (by simp [hexp, hi]) (hI.frames_none hno)
      · simp only [hsc, hpop, Except.map]
        refine hset { t with current := f, sps := A ++ [f] } .unit
          (hsps ▸ (List.Sublist.refl A).append (List.Sublist.cons_cons f (List.nil_sublist B))) ?_
        rw [Spec.step_rollbackTo_found _ n _ _ (by simp [hexp, hi]) (hI.frames_split hsps hf hB).1]
        simp [absT, frameOf]

theorem step_refines (c : ConState) (t : Txn) (hI : Inv1 c t) (e : Ev) :
    ∃ t', Inv1 (step c e).1 t' ∧ absT t' = ((absT t).step e).1 ∧
      cls (step c e).2 = ((absT t).step e).2 := by
  have h := exec_refines hI e
  unfold step
  generalize exec c e = r at h
  cases r with
  | error err => rw [show (absT t).step e = _ from h]; exact ⟨t, hI, rfl, rfl⟩
  | ok v =>
    obtain ⟨t', hI', h2⟩ := h
    rw [h2]
    exact ⟨t', hI', rfl, rfl⟩

theorem run_refines (c : ConState) (t : Txn) (hI : Inv1 c t) (h : List Ev) :
    ∃ t', Inv1 (run c h).1 t' ∧ absT t' = ((absT t).run h).1 ∧
      (run c h).2.map cls = ((absT t).run h).2 := by
  induction h generalizing c t with
  | nil => exact ⟨t, hI, rfl, rfl⟩
  | cons e es ih =>
    obtain ⟨t1, hI1, ha1, ho1⟩ := step_refines c t hI e
    obtain ⟨t2, hI2, ha2, ho2⟩ := ih (step c e).1 t1 hI1
    refine ⟨t2, hI2, ?_, ?_⟩
    · simp only [Spec.run]; rw [ha2, ha1]
    · simp only [run, Spec.run, List.map_cons]; rw [ho2, ho1, ha1]

theorem reachable_inv {p : Spec} (hr : Reachable c) (ha : abs c = some p) : ∃ t, Inv1 c t ∧ absT t = p := by
  obtain ⟨t0, pl, h, rfl⟩ := hr
  obtain ⟨t, hI, _⟩ := inv1_init t0 pl
  obtain ⟨t', hI', _, _⟩ := run_refines _ t hI h
  exact ⟨t', hI', Option.some.inj ((abs_eq _ t' hI'.cur).symm.trans ha)⟩

/-- any history from a reachable state; `refines` is the case of a fresh state, `reachable_step` of
    one event -/
theorem reachable_run (c : ConState) (hr : Reachable c) (p : Spec) (ha : abs c = some p) (h : List Ev) :
    abs (run c h).1 = some (p.run h).1 ∧ (run c h).2.map cls = (p.run h).2 := by
  obtain ⟨t, hI, rfl⟩ := reachable_inv hr ha
  obtain ⟨t', hI', hab, ho⟩ := run_refines c t hI h
  exact ⟨by rw [abs_eq _ t' hI'.cur, hab], ho⟩

theorem refines (t0 : Nat) (pl : Payload) (h : List Ev) :
    abs (run (ConState.init t0 pl) h).1 = some ((Spec.init pl).run h).1 ∧
    (run (ConState.init t0 pl) h).2.map cls = ((Spec.init pl).run h).2 := by
  obtain ⟨t, hI, ha⟩ := inv1_init t0 pl
  exact reachable_run _ ⟨t0, pl, [], rfl⟩ _ (ha ▸ abs_eq _ t hI.cur) h

theorem run_snoc (c : ConState) (h : List Ev) (e : Ev) :
    (run c (h ++ [e])).1 = (step (run c h).1 e).1 := by
  induction h generalizing c with
  | nil => rfl
  | cons x xs ih => exact ih _

theorem reachable_step (c : ConState) (hr : Reachable c) (p : Spec) (ha : abs c = some p) (e : Ev) :
    abs (step c e).1 = some (p.step e).1 ∧ cls (step c e).2 = (p.step e).2 ∧
      Reachable (step c e).1 := by
  obtain ⟨t, hI, rfl⟩ := reachable_inv hr ha
  obtain ⟨t', hI', hab, ho⟩ := step_refines c t hI e
  refine ⟨by rw [abs_eq _ t' hI'.cur, hab], ho, ?_⟩
  obtain ⟨t0, pl, h, rfl⟩ := hr
  exact ⟨t0, pl, h ++ [e], (run_snoc _ h e).symm⟩

theorem step_rejected_unchanged (c : ConState) (e : Ev) (err : Err)
    (h : (step c e).2 = .error err) : (step c e).1 = c := by
  unfold step at h ⊢
  cases hx : exec c e with
  | ok v => rw [hx] at h; cases h
  | error e' => rfl

theorem cls_eq_error {r : M Ret} {err : Err} (h : cls r = .error err) : r = .error err := by
  cases r with
  | ok _ => cases h
  | error _ => exact Except.error.inj h ▸ rfl

/-- what the spec refuses in a reachable state, the implementation refuses with the same error,
    and nothing moves -/
theorem reachable_rejected (c : ConState) (hr : Reachable c) (p : Spec) (ha : abs c = some p) (e : Ev)
    (err : Err) (he : (p.step e).2 = .error err) : step c e = (c, .error err) := by
  have h := cls_eq_error (he ▸ (reachable_step c hr p ha e).2.1)
  exact Prod.ext (step_rejected_unchanged c e err h) h

/-- events that neither open nor close a block -/
def Ev.inner : Ev → Bool
  | .start | .commit | .rollback => false
  | _ => true

theorem Spec.step_inner (p : Spec) (e : Ev) (he : e.inner = true) :
    (p.step e).1.base = p.base ∧ (p.step e).1.explicit = p.explicit := by
  cases e with
  | start | commit | rollback => cases he
  | upd u => exact ⟨rfl, rfl⟩
  | declare n =>
    rw [Spec.step]
    split <;> exact ⟨rfl, rfl⟩
  | release n | rollbackTo n =>
    rw [Spec.step]
    split
    · exact ⟨rfl, rfl⟩
    · split <;> exact ⟨rfl, rfl⟩

theorem Spec.run_inner (p : Spec) (h : List Ev) (hin : ∀ e ∈ h, e.inner = true) :
    (p.run h).1.base = p.base ∧ (p.run h).1.explicit = p.explicit := by
  induction h generalizing p with
  | nil => exact ⟨rfl, rfl⟩
  | cons e es ih =>
    have h1 := Spec.step_inner p e (hin e (by simp))
    have h2 := ih (p.step e).1 (fun e he => hin e (by simp [he]))
    exact ⟨h2.1.trans h1.1, h2.2.trans h1.2⟩

theorem Spec.run_append (p : Spec) (h1 h2 : List Ev) :
    (p.run (h1 ++ h2)).1 = ((p.run h1).1.run h2).1 := by
  induction h1 generalizing p with
  | nil => rfl
  | cons e es ih => exact ih _

theorem Spec.run_start_inner_rollback (p : Spec) (h : List Ev) (hin : ∀ e ∈ h, e.inner = true) :
    (p.run (.start :: h ++ [.rollback])).1 =
      { base := p.base, explicit := false, cur := p.base, frames := [] } := by
  have h1 : (p.run [.start]).1.base = p.base := by
    show (p.step .start).1.base = _
    rw [Spec.step]
    split <;> rfl
  have h2 := (Spec.run_inner (p.run [.start]).1 h hin).1
  refine (Spec.run_append p [.start] (h ++ [.rollback])).trans ?_
  rw [Spec.run_append, ← h1, ← h2]
  rfl

end EdbVerif.Tx
