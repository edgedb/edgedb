/-
`_update_obj_name`: the three name maps afterwards; from a consistent schema no internal error.
-/
import EdbVerif.Lemmas.StoreMap

namespace EdbVerif.Store

variable {s : State} {m m1 : NameMaps} {id : Nat} {c : Cls}

/- The model writes its binds as `match`es; these two invert one, at the type at which `_update_obj_name` binds
   (a lemma polymorphic in it does not unify with the model's `match`). -/

theorem ok_of_match_ok {x : Except Err NameMaps} {f : NameMaps → Except Err NameMaps} {r : NameMaps}
    (h : (match (generalizing := false) x with | .error e => Except.error e | .ok a => f a) = .ok r) :
    ∃ a, x = .ok a ∧ f a = .ok r := by
  cases x with
  | error e => cases h
  | ok a => exact ⟨a, rfl, h⟩

theorem error_of_match_error {x : Except Err NameMaps} {f : NameMaps → Except Err NameMaps} {e : Err}
    (h : (match (generalizing := false) x with | .error e => Except.error e | .ok a => f a) = .error e) :
    x = .error e ∨ ∃ a, x = .ok a ∧ f a = .error e := by
  cases x with
  | error e' => exact .inl h
  | ok a => exact .inr ⟨a, rfl, h⟩

theorem dropMain_char {o : Name} (h : dropMain m c o = .ok m1) :
    (∀ n, mget m1.n2i n = if c.isGlobal = false ∧ o = n then none else mget m.n2i n) ∧
    (∀ k, mget m1.g k = if c.isGlobal = true ∧ (c, o) = k then none else mget m.g k) ∧
    m1.sn = m.sn := by
  unfold dropMain at h
  cases hg : c.isGlobal <;> simp only [hg, Bool.false_eq_true, ↓reduceIte] at h
  all_goals (split at h <;> cases h)
  all_goals simp [mget_merase, eq_comm]

theorem dropShort_char {o : Name} (h : dropShort m id c o = .ok m1) :
    m1.n2i = m.n2i ∧ m1.g = m.g ∧
    (∀ e, e ∈ m1.sn ↔ e ∈ m.sn ∧ ¬(c.hasSn = true ∧ e = (c, o.short, id))) := by
  unfold dropShort at h
  cases hs : c.hasSn <;> simp only [hs, Bool.false_eq_true, ↓reduceIte] at h
  · cases h; simp
  · split at h
    · cases h; simp
    · cases h

theorem dropStage_char {old : Option Name}
    (h : (match (generalizing := false) old with | none => Except.ok m | some o => dropName m id c o) = .ok m1) :
    (∀ n, mget m1.n2i n = if c.isGlobal = false ∧ old = some n then none else mget m.n2i n) ∧
    (∀ c' n, mget m1.g (c', n) = if c.isGlobal = true ∧ c' = c ∧ old = some n then none else mget m.g (c', n)) ∧
    (∀ e, e ∈ m1.sn ↔ e ∈ m.sn ∧ ¬(c.hasSn = true ∧ ∃ o, old = some o ∧ e = (c, o.short, id))) := by
  cases old with
  | none => cases h; simp
  | some o =>
    obtain ⟨m0, h0, h⟩ := ok_of_match_ok h
    obtain ⟨a1, a2, a3⟩ := dropMain_char h0
    obtain ⟨b1, b2, b3⟩ := dropShort_char h
    refine ⟨fun n => ?_, fun c' n => ?_, fun e => ?_⟩
    · rw [b1, a1]; simp only [Option.some.injEq]
    · rw [b2, a2]; simp only [Prod.mk.injEq, Option.some.injEq, @eq_comm _ c c']
    · rw [b3, a3]; simp

theorem putMain_char {n : Name} (h : putMain s m id c n = .ok m1) :
    (∀ n', mget m1.n2i n' = if c.isGlobal = false ∧ n' = n then some id else mget m.n2i n') ∧
    (∀ k, mget m1.g k = if c.isGlobal = true ∧ k = (c, n) then some id else mget m.g k) ∧
    m1.sn = m.sn ∧
    (c.isGlobal = false → mget m.n2i n = none) ∧
    (c.isGlobal = true → mget m.g (c, n) = none) := by
  unfold putMain at h
  cases hg : c.isGlobal <;> simp only [hg, Bool.false_eq_true, ↓reduceIte] at h
  · repeat' split at h
    all_goals cases h
    rename_i hnone
    simp [mget_mset, hnone]
  · repeat' split at h
    all_goals cases h
    rename_i hnone
    simp [mget_mset, hnone]

theorem putShort_char (m : NameMaps) (id : Nat) (c : Cls) (n : Name) :
    (putShort m id c n).n2i = m.n2i ∧ (putShort m id c n).g = m.g ∧
    ∀ e, e ∈ (putShort m id c n).sn ↔ (c.hasSn = true ∧ e = (c, n.short, id)) ∨ e ∈ m.sn := by
  unfold putShort
  split <;> simp [*]

theorem putStage_char {new : Option Name}
    (h : (match (generalizing := false) new with | none => Except.ok m | some n => putName s m id c n) = .ok m1) :
    (∀ n, mget m1.n2i n = if c.isGlobal = false ∧ new = some n then some id else mget m.n2i n) ∧
    (∀ c' n, mget m1.g (c', n) =
      if c.isGlobal = true ∧ c' = c ∧ new = some n then some id else mget m.g (c', n)) ∧
    (∀ e, e ∈ m1.sn ↔ (c.hasSn = true ∧ ∃ n, new = some n ∧ e = (c, n.short, id)) ∨ e ∈ m.sn) ∧
    (∀ n, c.isGlobal = false → new = some n → mget m.n2i n = none) ∧
    (∀ n, c.isGlobal = true → new = some n → mget m.g (c, n) = none) := by
  cases new with
  | none => cases h; simp
  | some n =>
    obtain ⟨m0, h0, h⟩ := ok_of_match_ok h
    cases h
    obtain ⟨a1, a2, a3, a4, a5⟩ := putMain_char h0
    obtain ⟨b1, b2, b3⟩ := putShort_char m0 id c n
    refine ⟨fun n' => ?_, fun c' n' => ?_, fun e => ?_, fun n' hg hn => ?_, fun n' hg hn => ?_⟩
    · rw [b1, a1]; simp only [Option.some.injEq, @eq_comm _ n n']
    · rw [b2, a2]; simp only [Prod.mk.injEq, Option.some.injEq, @eq_comm _ n n']
    · rw [b3, a3]; simp
    · cases hn; exact a4 hg
    · cases hn; exact a5 hg

/-- What `_update_obj_name(id, c, n0, n1)` did to the three name maps. -/
structure NameChar (s : State) (id : Nat) (c : Cls) (n0 n1 : Option Name) (nm : NameMaps) : Prop where
  n2i : ∀ n, mget nm.n2i n =
    if c.isGlobal = false ∧ n1 = some n then some id
    else if c.isGlobal = false ∧ n0 = some n then none else mget s.nameToId n
  g : ∀ c' n, mget nm.g (c', n) =
    if c.isGlobal = true ∧ c' = c ∧ n1 = some n then some id
    else if c.isGlobal = true ∧ c' = c ∧ n0 = some n then none else mget s.globalNameToId (c', n)
  sn : ∀ e, e ∈ nm.sn ↔
    (c.hasSn = true ∧ ∃ n, n1 = some n ∧ e = (c, n.short, id)) ∨
    (e ∈ s.shortNameToId ∧ ¬(c.hasSn = true ∧ ∃ o, n0 = some o ∧ e = (c, o.short, id)))
  fresh_q : ∀ n, c.isGlobal = false ∧ n1 = some n →
    mget s.nameToId n = none ∨ (c.isGlobal = false ∧ n0 = some n)
  fresh_g : ∀ c' n, c.isGlobal = true ∧ c' = c ∧ n1 = some n →
    mget s.globalNameToId (c', n) = none ∨ (c.isGlobal = true ∧ c' = c ∧ n0 = some n)

theorem updateObjName_char {n0 n1 : Option Name} {nm : NameMaps}
    (h : updateObjName s id c n0 n1 = .ok nm) : NameChar s id c n0 n1 nm := by
  obtain ⟨m1, h1, h⟩ := ok_of_match_ok h
  obtain ⟨d1, d2, d3⟩ := dropStage_char h1
  obtain ⟨p1, p2, p3, p4, p5⟩ := putStage_char h
  refine ⟨fun n => ?_, fun c' n => ?_, fun e => ?_, fun n ⟨hg, hn⟩ => ?_, fun c' n ⟨hg, hc, hn⟩ => ?_⟩
  · rw [p1, d1]; rfl
  · rw [p2, d2]; rfl
  · rw [p3, d3]; rfl
  · have := p4 n hg hn
    rw [d1] at this
    split at this
    · exact .inr ‹_›
    · exact .inl this
  · subst hc
    have := p5 n hg hn
    rw [d2] at this
    split at this
    · exact .inr ‹_›
    · exact .inl this

theorem NameChar.same (hI : Inv s) {n0 : Option Name}
    (h0 : ∀ o, n0 = some o → ∃ d, Rec s id c d ∧ nameOf c d = some o) :
    NameChar s id c n0 n0 s.nameMaps := by
  refine ⟨fun n => ?_, fun c' n => ?_, fun e => ?_, fun _ => .inr, fun _ _ => .inr⟩
  · by_cases h : c.isGlobal = false ∧ n0 = some n
    · obtain ⟨d, hr, hn⟩ := h0 n h.2
      simp [h, State.nameMaps, hI.names.name_q id c d n hr hn h.1]
    · simp [h, State.nameMaps]
  · by_cases h : c.isGlobal = true ∧ c' = c ∧ n0 = some n
    · obtain ⟨d, hr, hn⟩ := h0 n h.2.2
      obtain ⟨h1, rfl, h3⟩ := h
      simp [h1, h3, State.nameMaps, hI.names.name_g id c' d n hr hn h1]
    · simp [h, State.nameMaps]
  · constructor
    · intro he
      by_cases hp : c.hasSn = true ∧ ∃ o, n0 = some o ∧ e = (c, o.short, id)
      · exact .inl hp
      · exact .inr ⟨he, hp⟩
    · rintro (⟨hs, n, hn, rfl⟩ | ⟨he, _⟩)
      · obtain ⟨d, hr, hn'⟩ := h0 n hn
        exact hI.names.name_s id c d n hr hn' hs
      · exact he

theorem getById_of_type {j : Nat} {c' : Cls} (h : mget s.idToType j = some c') : getById s j = .ok c' := by
  unfold getById; rw [h]

theorem getById_of_listed (hI : Inv s) {n : Name} {j : Nat} (h : mget s.nameToId n = some j) :
    ∃ c', getById s j = .ok c' :=
  let ⟨c', _, hr, _⟩ := hI.names.q_name n j h
  ⟨c', getById_of_type hr.1⟩

theorem getById_of_glisted (hI : Inv s) {k : Cls × Name} {j : Nat} (h : mget s.globalNameToId k = some j) :
    ∃ c', getById s j = .ok c' :=
  let ⟨_, hr, _⟩ := hI.names.g_name k.1 k.2 j h
  ⟨k.1, getById_of_type hr.1⟩

theorem dropStage_ok (hI : Inv s) {old : Option Name}
    (h0 : ∀ o, old = some o → ∃ d, Rec s id c d ∧ nameOf c d = some o) (e : Err) :
    (match (generalizing := false) old with
      | none => Except.ok s.nameMaps | some o => dropName s.nameMaps id c o) ≠ .error e := by
  cases old with
  | none => nofun
  | some o =>
    obtain ⟨d, hrec, hn⟩ := h0 o rfl
    intro h
    rcases error_of_match_error h with h1 | ⟨m1, h1, h2⟩
    · unfold dropMain at h1
      cases hg : c.isGlobal
      · simp [hg, State.nameMaps, hI.names.name_q id c d o hrec hn hg] at h1
      · simp [hg, State.nameMaps, hI.names.name_g id c d o hrec hn hg] at h1
    · unfold dropShort at h2
      cases hs : c.hasSn
      · simp [hs] at h2
      · have hm := hI.names.name_s id c d o hrec hn hs
        rw [← show m1.sn = s.shortNameToId from (dropMain_char h1).2.2] at hm
        rw [hs, if_pos rfl, if_pos (List.any_eq_true.2 ⟨_, hm, by simp⟩)] at h2
        cases h2

theorem hasModule_ok (hI : Inv s) (md : Nat) : ∃ b, hasModule s md = .ok b := by
  unfold hasModule
  split
  · exact ⟨false, rfl⟩
  · rename_i j h
    obtain ⟨c', hc'⟩ := getById_of_glisted hI h
    rw [hc']
    exact ⟨true, rfl⟩

theorem putStage_no_internal (hI : Inv s) {new : Option Name} {e : Err}
    (hq : ∀ {n j}, mget m.n2i n = some j → mget s.nameToId n = some j)
    (hg : ∀ {k j}, mget m.g k = some j → mget s.globalNameToId k = some j)
    (h : (match (generalizing := false) new with
      | none => Except.ok m | some n => putName s m id c n) = .error e) : e.internal = false := by
  cases new with
  | none => cases h
  | some n =>
    rcases error_of_match_error h with h1 | ⟨_, _, h2⟩
    · unfold putMain at h1
      cases hcg : c.isGlobal <;> simp only [hcg, Bool.false_eq_true, ↓reduceIte] at h1
      · split at h1
        · cases h1; rfl
        · rename_i md _
          obtain ⟨b, hb⟩ := hasModule_ok hI md
          rw [hb] at h1
          simp only at h1
          split at h1
          · cases h1; rfl
          · split at h1
            · rename_i j hj
              obtain ⟨c', hc'⟩ := getById_of_listed hI (hq hj)
              rw [hc'] at h1; cases h1; rfl
            · cases h1
      · split at h1
        · rename_i j hj
          obtain ⟨c', hc'⟩ := getById_of_glisted hI (hg hj)
          rw [hc'] at h1; cases h1; rfl
        · cases h1
    · cases h2

theorem updateObjName_no_internal (hI : Inv s) {n0 n1 : Option Name} {e : Err}
    (h0 : ∀ o, n0 = some o → ∃ d, Rec s id c d ∧ nameOf c d = some o)
    (h : updateObjName s id c n0 n1 = .error e) : e.internal = false := by
  rcases error_of_match_error h with h1 | ⟨m1, h1, h2⟩
  · exact (dropStage_ok hI h0 e h1).elim
  · obtain ⟨d1, d2, _⟩ := dropStage_char h1
    refine putStage_no_internal hI (fun hj => ?_) (fun hj => ?_) h2
    · rw [d1] at hj
      split at hj
      · cases hj
      · exact hj
    · rw [d2] at hj
      split at hj
      · cases hj
      · exact hj

/-- What a call of `_update_obj_name` yields from a consistent schema when `n0` is the name the object bears:
    the three maps as `NameChar` describes them, or one of its own refusals (`SchemaError`, unknown module,
    the `QualName` assertion), never a `KeyError` / `LookupError`. -/
def NameSpec (s : State) (id : Nat) (c : Cls) (n0 n1 : Option Name) : Except Err NameMaps → Prop
  | .ok nm => NameChar s id c n0 n1 nm
  | .error e => e.internal = false

theorem updateObjName_spec (hI : Inv s) {n0 n1 : Option Name}
    (h0 : ∀ o, n0 = some o → ∃ d, Rec s id c d ∧ nameOf c d = some o) :
    NameSpec s id c n0 n1 (updateObjName s id c n0 n1) := by
  cases h : updateObjName s id c n0 n1 with
  | ok nm => exact updateObjName_char h
  | error e => exact updateObjName_no_internal hI h0 h

end EdbVerif.Store
