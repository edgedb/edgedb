/-
C16 safety: `InvQ` sees a state only through `VS`, and every operation on connections, counters and
tasks is `VS` to its argument.
-/
import EdbVerif.Lemmas.PoolPrims

namespace EdbVerif.Pool

/-- `b'` looks like `b` to the waiter bookkeeping (its stack may have shrunk) -/
def QLe (b' b : Block) : Prop :=
  b'.uid = b.uid ∧ b'.queue = b.queue ∧ b'.waitersNum = b.waitersNum ∧ b'.stack.length ≤ b.stack.length

theorem QLe.refl (b : Block) : QLe b b := ⟨rfl, rfl, rfl, Nat.le_refl _⟩

theorem QLe.trans {a b c : Block} (h1 : QLe a b) (h2 : QLe b c) : QLe a c :=
  ⟨h1.1.trans h2.1, h1.2.1.trans h2.2.1, h1.2.2.1.trans h2.2.2.1, Nat.le_trans h1.2.2.2 h2.2.2.2⟩

/-- `s'` is `s` as far as `InvQ` can see -/
structure VS (s' s : State) : Prop where
  sub : ∀ b' ∈ s'.blocks, ∃ b ∈ s.blocks, QLe b' b
  sup : ∀ b ∈ s.blocks, ∃ b' ∈ s'.blocks, QLe b' b
  w : s'.waiters = s.waiters
  h : s'.holders = s.holders
  p : s'.prunes = s.prunes

theorem VS.refl (s : State) : VS s s :=
  ⟨fun b hb => ⟨b, hb, QLe.refl b⟩, fun b hb => ⟨b, hb, QLe.refl b⟩, rfl, rfl, rfl⟩

theorem VS.trans {a b c : State} (h1 : VS a b) (h2 : VS b c) : VS a c := by
  refine ⟨?_, ?_, h1.w.trans h2.w, h1.h.trans h2.h, h1.p.trans h2.p⟩
  · intro x hx
    obtain ⟨y, hy, hxy⟩ := h1.sub x hx
    obtain ⟨z, hz, hyz⟩ := h2.sub y hy
    exact ⟨z, hz, hxy.trans hyz⟩
  · intro z hz
    obtain ⟨y, hy, hyz⟩ := h2.sup z hz
    obtain ⟨x, hx, hxy⟩ := h1.sup y hy
    exact ⟨x, hx, hxy.trans hyz⟩

theorem VS.ofMem {s' s : State} (hb : ∀ b, b ∈ s'.blocks ↔ b ∈ s.blocks)
    (hw : s'.waiters = s.waiters) (hh : s'.holders = s.holders) (hp : s'.prunes = s.prunes) : VS s' s :=
  ⟨fun b h => ⟨b, (hb b).mp h, QLe.refl b⟩, fun b h => ⟨b, (hb b).mpr h, QLe.refl b⟩, hw, hh, hp⟩

theorem VS.fields {s' s : State} (hb : s'.blocks = s.blocks) (hw : s'.waiters = s.waiters)
    (hh : s'.holders = s.holders) (hp : s'.prunes = s.prunes) : VS s' s :=
  VS.ofMem (fun b => by rw [hb]) hw hh hp

theorem VS.ofCore {s' s : State} (h : SameCore s' s) : VS s' s :=
  let ⟨_, _, hb, _, _, _, _, hw, hh, hp, _, _⟩ := h
  VS.fields hb hw hh hp

theorem VS.modOn (s : State) (u : Nat) (f : Block → Block)
    (hf : ∀ b ∈ s.blocks, b.uid = u → QLe (f b) b) : VS (s.mod u f) s :=
  have h := sim_modB QLe.refl hf
  ⟨h.1, h.2, rfl, rfl, rfl⟩

theorem VS.mod (s : State) (u : Nat) (f : Block → Block) (hf : ∀ b, QLe (f b) b) : VS (s.mod u f) s :=
  VS.modOn s u f fun b _ _ => hf b

theorem VS.mod1 {s : State} (hu : (s.blocks.map (·.uid)).Nodup) {u : Nat} {b : Block}
    (hb : s.find u = some b) (f : Block → Block) (hf : QLe (f b) b) : VS (s.mod u f) s :=
  VS.modOn s u f fun x hx hxu => by
    rwa [State.eq_of_find hu hb hx hxu]

theorem VS.map (s : State) (f : Block → Block) (hf : ∀ b, QLe (f b) b) :
    VS { s with blocks := s.blocks.map f } s :=
  have h := sim_map fun b _ => hf b
  ⟨h.1, h.2, rfl, rfl, rfl⟩

theorem Inert.qle {f : Block → Block} (hf : Inert f) (b : Block) : QLe (f b) b := by
  rw [hf b]; exact ⟨rfl, rfl, rfl, Nat.le_refl _⟩

theorem InvQ.ofVS {s' s : State} (h : InvQ s) (v : VS s' s) : InvQ s' := by
  refine ⟨v.w ▸ h.wids, ?_, ?_, ?_, ?_, ?_, ?_, by rw [v.p, v.w]; exact h.noPrune,
    by rw [v.w, v.h]; exact h.hdis, v.h ▸ h.hreq⟩
  · intro b' hb'
    obtain ⟨b, hb, hq⟩ := v.sub b' hb'
    rw [hq.2.1]; exact h.qnd b hb
  · intro b' hb' r hr
    obtain ⟨b, hb, hq⟩ := v.sub b' hb'
    rw [hq.2.1] at hr
    rw [v.w, hq.1]; exact h.qmem b hb r hr
  · intro w hw hst
    rw [v.w] at hw
    obtain ⟨b, hb, hu, hm⟩ := h.qall w hw hst
    obtain ⟨b', hb', hq⟩ := v.sup b hb
    exact ⟨b', hb', hq.1.trans hu, hq.2.1 ▸ hm⟩
  · intro w hw
    rw [v.w] at hw
    obtain ⟨b, hb, hu⟩ := h.known w hw
    obtain ⟨b', hb', hq⟩ := v.sup b hb
    exact ⟨b', hb', hq.1.trans hu⟩
  · intro b' hb'
    obtain ⟨b, hb, hq⟩ := v.sub b' hb'
    rw [v.w, hq.2.2.1, hq.1]; exact h.num b hb
  · intro b' hb' hne
    obtain ⟨b, hb, hq⟩ := v.sub b' hb'
    have := h.inv2 b hb (hq.2.1 ▸ hne)
    rw [wokenOf, v.w, hq.1]
    exact Nat.le_trans hq.2.2.2 this

/-- `InvQ` reads none of the other fields -/
theorem InvQ.rest {s : State} (h : InvQ s) (mx : Nat) (cur : Int) (nu nc nt : Nat) (st : Bool)
    (wl oq : List Nat) (na : Int) (ht : Bool) (gr gt : Nat) (ts : List (Nat × Task))
    (hm : List (Nat × Nat)) (lv : List Nat) (er : Option String) :
    InvQ ⟨mx, cur, s.blocks, nu, nc, nt, st, wl, oq, na, ht, gr, gt, ts, s.waiters, s.holders, s.prunes,
      hm, lv, er⟩ :=
  h.ofVS (VS.fields rfl rfl rfl rfl)

theorem VS.via {s' s1 s : State} (v : VS s1 s) (hb : s'.blocks = s1.blocks) (hw : s'.waiters = s1.waiters)
    (hh : s'.holders = s1.holders) (hp : s'.prunes = s1.prunes) : VS s' s :=
  VS.trans (VS.fields hb hw hh hp) v

theorem VS.toEnd (s : State) (u : Nat) : VS { s with blocks := toEnd s.blocks u } s :=
  VS.ofMem (fun _ => mem_toEnd) rfl rfl rfl

theorem VS.toFront (s : State) (u : Nat) : VS { s with blocks := toFront s.blocks u } s :=
  VS.ofMem (fun _ => mem_toFront) rfl rfl rfl

/-- what `InvQ` reads of a block (of the stack, its length) -/
def Block.qv (b : Block) : Nat × List Nat × Int × List Nat := (b.uid, b.queue, b.waitersNum, b.stack)

theorem QLe.of_view {b' b : Block} (h : b'.qv = b.qv) : QLe b' b := by
  simp only [Block.qv, Prod.mk.injEq] at h
  exact ⟨h.1, h.2.1, h.2.2.1, by rw [h.2.2.2]; exact Nat.le_refl _⟩

theorem VS.erase (s : State) (u c : Nat) :
    VS (s.mod u fun b => { b with conns := b.conns.filter (·.1 != c) }) s :=
  VS.mod _ u _ fun _ => .of_view rfl

theorem addTask_vs (s : State) (t : Task) : VS (s.addTask t) s := VS.fields rfl rfl rfl rfl

theorem schedNew_vs {s : State} {u : Nat} : VS (schedNew s u) s := by
  unfold schedNew
  cases s.find u with
  | none => exact VS.fields rfl rfl rfl rfl
  | some b =>
    dsimp only
    generalize hs1 : State.mod _ u _ = s1
    have v1 : VS s1 s := by
      rw [← hs1]
      exact (VS.mod _ u _ (by intro; exact .of_view rfl)).trans (VS.fields rfl rfl rfl rfl)
    exact (addTask_vs ..).trans (of_ite (P := fun x => VS x s) (fun _ => (VS.toEnd s1 u).trans v1) fun _ => v1)

theorem schedDiscard_vs {s : State} {u c : Nat} {bh : Bool} : VS (schedDiscard s u c bh) s :=
  addTask_vs ..

theorem schedXfer_vs {s : State} {f c t : Nat} {bh : Bool} : VS (schedXfer s f c t bh) s := by
  unfold schedXfer
  split
  · split
    · dsimp only
      generalize hs2 : State.mod _ t _ = s2
      have v1 : VS s2 s := by
        rw [← hs2]
        exact (VS.mod _ t _ (by intro; exact .of_view rfl)).trans (VS.erase s f c)
      exact (addTask_vs ..).trans (of_ite (P := fun x => VS x s)
        (fun _ => ((VS.toEnd { s2 with blocks := toEnd s2.blocks t } f).trans (VS.toEnd s2 t)).trans v1)
        fun _ => v1)
    · exact VS.fields rfl rfl rfl rfl
  · exact VS.fields rfl rfl rfl rfl

theorem VS.fail {s' s : State} (v : VS s' s) (m : String) : VS (s'.fail m) s := v.via rfl rfl rfl rfl

theorem setTask_vs (s : State) (tid : Nat) (t : Task) : VS (s.setTask tid t) s := VS.fields rfl rfl rfl rfl

theorem taskStart_vs {s : State} {tid : Nat} : VS (taskStart s tid) s := by
  unfold taskStart
  split
  · exact setTask_vs ..
  · rename_i u c hh _
    split
    · exact (setTask_vs ..).fail _
    · split
      · exact VS.via (VS.erase s u c) rfl rfl rfl rfl
      · exact (setTask_vs ..).fail _
  · exact setTask_vs ..
  · exact setTask_vs ..
  · exact (VS.refl s).fail _

theorem discDone_vs {s : State} {tid : Nat} {ok : Bool} : VS (discDone s tid ok) s := by
  unfold discDone
  split <;> exact VS.fields rfl rfl rfl rfl

theorem steal_vs {s : State} (hu : (s.blocks.map (·.uid)).Nodup) {u : Nat} {s1 : State} {o : Option Nat}
    (heq : steal s u = (s1, o)) : VS s1 s := by
  have : VS (steal s u).1 s := by
    unfold steal
    split
    · rename_i b hb
      split
      · exact VS.refl s
      · rename_i c rest hst
        exact VS.mod1 hu hb _ ⟨rfl, rfl, rfl, by
          show rest.length ≤ b.stack.length
          rw [hst]; simp⟩
    · exact VS.refl s
  rwa [heq] at this

theorem pruneAll_q {s : State} (h : InvQ s) : InvQ (pruneAll s) := by
  refine h.ofVS ?_
  unfold pruneAll
  exact List.foldlRecOn (motive := fun s' => VS s' s) _ (fun s c => s.addTask (.discAll c false))
    (VS.map s (fun b => { b with stack := [], conns := [] }) fun _ => ⟨rfl, rfl, rfl, Nat.zero_le _⟩)
    fun _ v _ _ => v.via rfl rfl rfl rfl

end EdbVerif.Pool
