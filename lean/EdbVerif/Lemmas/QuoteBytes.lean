/-
C18, bytes literals: `visit_BytesConstant` read back by the tokenizer model
(`ppBytes_lex`): the bytes scanner follows the string scanner on ASCII bodies, and
every `_bytes_escape` unit is walked through and decoded to its byte (`escByte_piece`).
-/
import EdbVerif.Lemmas.QuoteBasic

namespace EdbVerif.Lex
open EdbVerif.Quote

theorem scanBytes_of_scanOK (body rest : List Char) (h : scanOK '\'' body = true)
    (ha : ∀ c ∈ body, c.toNat ≤ 0x7f) :
    scanBytes false '\'' (body ++ '\'' :: rest) = .ok (body, rest) := by
  fun_induction scanOK '\'' body with
  | case1 => cases rest <;> simp [scanBytes]
  | case2 c =>
    simp only [Bool.and_eq_true, decide_eq_true_eq, Option.isNone_iff_eq_none] at h
    have : ¬ (127 < c.toNat) := Nat.not_lt.mpr (ha c (by simp))
    cases rest <;> simp [scanBytes, h.1.1, h.1.2, this]
  | case3 d ds ih =>
    simp only [Bool.and_eq_true, decide_eq_true_eq] at h
    simp [scanBytes, ih h.2 (fun x hx => ha x (by simp [hx]))]
  | case4 c d ds hc ih =>
    simp only [Bool.and_eq_true, decide_eq_true_eq, Option.isNone_iff_eq_none] at h
    have : ¬ (127 < c.toNat) := Nat.not_lt.mpr (ha c (by simp))
    have ih' := ih h.2 (fun x hx => ha x (List.mem_cons_of_mem _ hx))
    simp only [List.cons_append] at ih' ⊢
    simp [scanBytes, hc, this, h.1.1, ih']

/-- `p` is a complete unit that `unqBytes` decodes to `out` (the bytes twin of `UnqPiece`) -/
def UnqBPiece (p : List Char) (out : List UInt8) : Prop :=
  ∀ tl, unqBytes 0 false (p ++ tl) =
    match unqBytes 0 false tl with
    | .ok r => .ok (out ++ r)
    | .error e => .error e

theorem unqBytes_flatMap (f : UInt8 → List Char) (s : List UInt8)
    (h : ∀ c ∈ s, UnqBPiece (f c) [c]) : unqBytes 0 false (s.flatMap f) = .ok s := by
  induction s with
  | nil => simp [unqBytes]
  | cons c cs ih =>
    have := h c (by simp) (cs.flatMap f)
    simp only [List.flatMap_cons, this, ih (fun x hx => h x (by simp [hx]))]
    simp

theorem unqBytes_drop (ws : Bool) (e tl : List Char) :
    unqBytes e.length ws (e ++ tl) = unqBytes 0 ws tl := by
  induction e with
  | nil => rfl
  | cons c cs ih => simpa [unqBytes] using ih

theorem unqBPiece_escape (e : List Char) (out : List UInt8)
    (h : ∀ tl, bytesEscape (e ++ tl) = .ok (out, e.length, false)) : UnqBPiece ('\\' :: e) out := by
  intro tl
  simp only [List.cons_append, unqBytes, Bool.false_and, Bool.false_eq_true, if_false, if_true, h tl,
    unqBytes_drop]
  rfl

theorem bytesEscape_x (a b : Char) (tl : List Char) (n : Nat) (hp : parseHex [a, b] = some n) :
    bytesEscape ('x' :: a :: b :: tl) = .ok ([UInt8.ofNat n], 3, false) := by
  unfold bytesEscape
  simp [hp]

theorem escByte_piece (b : UInt8) :
    scanOK '\'' (escByte b) = true ∧ (∀ c ∈ escByte b, c.toNat ≤ 0x7f) ∧ UnqBPiece (escByte b) [b] := by
  by_cases h : b.toNat = 92
  · obtain rfl : b = 92 := UInt8.toNat_inj.mp h
    exact ⟨rfl, by decide, unqBPiece_escape ['\\'] _ fun _ => rfl⟩
  by_cases h1 : b.toNat = 39
  · obtain rfl : b = 39 := UInt8.toNat_inj.mp h1
    exact ⟨rfl, by decide, unqBPiece_escape ['\''] _ fun _ => rfl⟩
  by_cases h2 : b.toNat = 9
  · obtain rfl : b = 9 := UInt8.toNat_inj.mp h2
    exact ⟨rfl, by decide, unqBPiece_escape ['t'] _ fun _ => rfl⟩
  by_cases h3 : b.toNat = 10
  · obtain rfl : b = 10 := UInt8.toNat_inj.mp h3
    exact ⟨rfl, by decide, unqBPiece_escape ['n'] _ fun _ => rfl⟩
  have hr : escByte b = if b.toNat ≤ 0x1f ∨ 0x7e ≤ b.toNat then '\\' :: 'x' :: hex2 b.toNat
      else [Char.ofNat b.toNat] := by
    simp [escByte, h, h1, h2, h3]
  have hlt : b.toNat < 256 := UInt8.toNat_lt b
  rw [hr]
  split
  · have hhex := (isHexLower_hex b.toNat).1
    refine ⟨scanOK_numEsc _ (Or.inl rfl) 'x' (by decide) _ hhex, ?_,
      unqBPiece_escape ('x' :: hex2 b.toNat) [b] fun tl => ?_⟩
    · intro c hc
      simp only [List.mem_cons] at hc
      rcases hc with rfl | rfl | hc
      · decide
      · decide
      · exact Nat.le_of_lt_succ (isHexLower_ascii c (hhex c hc))
    · have := bytesEscape_x _ _ tl _ (parseHex_hex2 b.toNat hlt)
      rwa [UInt8.ofNat_toNat] at this
  · rename_i h4
    generalize hc : Char.ofNat b.toNat = c
    have hn : c.toNat = b.toNat := hc ▸ charOfNat_toNat b.toNat (by omega)
    have hne1 : c ≠ '\\' := by rintro rfl; exact h hn.symm
    have hne2 : c ≠ '\'' := by rintro rfl; exact h1 hn.symm
    have hp := checkProhibited_none c true (by omega) (isBidi_lt c (by omega))
    refine ⟨by rw [scanOK_plain _ c hne1 hne2 hp]; rfl, by simp only [List.mem_singleton, forall_eq]; omega,
      fun tl => ?_⟩
    have : ¬ (128 ≤ b.toNat) := by omega
    simp only [List.cons_append, List.nil_append, unqBytes, Bool.false_and, Bool.false_eq_true, if_false,
      hne1, byteOf, hn, UInt8.ofNat_toNat, this]
    rfl

theorem ppBytes_lex (U : UClass) (b : List UInt8) (rest : List Char) :
    lexOne U (ppBytes b ++ rest) = .ok (⟨.binStr, .bytes b⟩, rest) := by
  have h1 := scanBytes_of_scanOK _ rest (scanOK_flatMap '\'' escByte b fun x _ => (escByte_piece x).1)
    fun c hc => by
      obtain ⟨x, _, hx⟩ := List.mem_flatMap.mp hc
      exact (escByte_piece x).2.1 c hx
  have h2 := unqBytes_flatMap escByte b (fun x _ => (escByte_piece x).2.2)
  simp only [ppBytes, List.cons_append, List.append_assoc, List.nil_append, lexOne_b]
  simp [lexString, h1, h2]

end EdbVerif.Lex
