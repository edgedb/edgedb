/-
Soundness of the `__infer_*` rules of cardinality.py on MiniQL with respect to `eval`, rule by rule, together
with the typing of the results (`HasTy`) that the path rule rests on (`CardOK`).
-/
import EdbVerif.Lemmas.MiniQLAux

namespace EdbVerif.MiniQL
open EdbVerif.Gen.Card EdbVerif.Card

theorem mem_extent {sch : Schema} {db : DB} {t : Nat} {v : Val} (h : v ∈ db.extent (sch.lineage t)) :
    HasTy sch db (.obj [t]) v := by
  unfold DB.extent at h
  obtain ⟨o, ho, rfl⟩ := List.mem_map.1 h
  obtain ⟨hmem, hty⟩ := List.mem_filter.1 ho
  exact ⟨o.1, o.2, t, rfl, hmem, by simp, by simpa using hty⟩

theorem hasTy_unionTy {sch : Schema} {db : DB} {a b : Ty} {v : Val}
    (hacc : (match a, b with
      | .obj _, .obj _ => true
      | x, y => x == y) = true) :
    (HasTy sch db a v → HasTy sch db (unionTy a b) v) ∧
      (HasTy sch db b v → HasTy sch db (unionTy a b) v) := by
  cases a with
  | other =>
    cases b with
    | other => simp [unionTy]
    | obj us => simp at hacc
  | obj ts =>
    cases b with
    | other => simp at hacc
    | obj us =>
      simp only [unionTy]
      split
      · rename_i h
        simp only [beq_iff_eq] at h
        subst h
        exact ⟨id, id⟩
      · constructor
        · rintro ⟨i, ty, t, h1, h2, h3, h4⟩
          exact ⟨i, ty, t, h1, h2, List.mem_append_left _ h3, h4⟩
        · rintro ⟨i, ty, t, h1, h2, h3, h4⟩
          exact ⟨i, ty, t, h1, h2, List.mem_append_right _ h3, h4⟩

def CardOK (sch : Schema) (db : DB) (Γ : VCtx) (env : List Val) (q : Q) : Prop :=
  γ (inferCard sch Γ q) (eval sch db env q).length ∧
    ∀ v ∈ eval sch db env q, HasTy sch db (tyOf sch (Γ.map (·.ty)) q) v

theorem var_ok {sch : Schema} {db : DB} {Γ : VCtx} {env : List Val} (he : EnvOK sch db Γ env) {i : Nat}
    (hi : i < Γ.length) : CardOK sch db Γ env (.var i) := by
  induction he generalizing i with
  | nil => exact absurd hi (Nat.not_lt_zero _)
  | cons hx _ ih =>
    cases i with
    | zero => exact ⟨rfl, fun w hw => List.mem_singleton.1 hw ▸ hx⟩
    | succ j => exact ih (Nat.lt_of_succ_lt_succ hi)

theorem constSet_sound {sch : Schema} {db : DB} (hc : Conforms sch db) (es : List CElem) :
    γ (constSetCard sch es) (es.flatMap (evalElem db)).length := by
  have hle : (es.length == 1) = true → (es.flatMap (evalElem db)).length ≤ 1 := fun h => by
    rw [List.length_flatMap, ← eq_of_beq h, ← List.length_map (as := es)]
    exact sum_le_length (List.forall_mem_map.2 fun e _ => evalElem_len_le db e)
  have hge : es.any (CElem.definite sch) = true → 1 ≤ (es.flatMap (evalElem db)).length := fun h => by
    obtain ⟨e, hmem, hdef⟩ := List.any_eq_true.1 h
    exact evalElem_len_def hc hdef ▸ flatMap_len_ge es (evalElem db) hmem
  unfold constSetCard
  generalize es.any (CElem.definite sch) = r at hge
  generalize (es.length == 1) = s at hle
  cases r <;> cases s
  · trivial
  · exact hle rfl
  · exact hge rfl
  · exact Nat.le_antisymm (hle rfl) (hge rfl)

theorem param_sound {sch : Schema} {db : DB} (hc : Conforms sch db) (i : Nat) :
    γ (paramCard sch i) (db.param i).length := by
  unfold paramCard
  split
  · rename_i h
    exact param_len_req hc h
  · exact param_len_le db i

theorem tuple_sound {cs : List Card} {ls : List (List Val)} (h : All2 γ cs (ls.map List.length)) :
    γ (cartesianCardinality cs) (tupProd ls).length :=
  tupProd_length ls ▸ cartesian_sound h

theorem union2_sound {ca cb : Card} {la lb : List Val} (ha : γ ca la.length) (hb : γ cb lb.length) :
    γ (unionCardinality [ca, cb]) (la ++ lb).length := by
  rw [List.length_append]
  exact union_sound (ns := [_, _]) (.cons ha (.cons hb .nil))

theorem coalesce2_sound {ca cb : Card} {la lb : List Val} (ha : γ ca la.length) (hb : γ cb lb.length) :
    γ (maxCard2 ca cb) (if la.isEmpty then lb else la).length := by
  have := coalesce_sound (.cons ha (.cons hb .nil)) (maxCard2_eq ca cb)
  rw [firstNonzero_pair] at this
  cases la <;> exact this

theorem ifElse_eval_sound {ca cc cb : Card} {la lb lc : List Val} (p : Val → Bool)
    (ha : γ ca la.length) (hb : γ cb lb.length) (hc : γ cc lc.length) :
    γ (cartesianCardinality [ca, cc, cb]) (lc.flatMap fun v => if p v then la else lb).length := by
  rw [List.length_flatMap]
  refine ifElse_sound ha hb (by rw [List.length_map]; exact hc) (List.forall_mem_map.2 fun v _ => ?_)
  split
  · exact Or.inl rfl
  · exact Or.inr rfl

theorem inferCard_filter {sch : Schema} {Γ : VCtx} {a w : Q} (hn : noExclRule sch Γ (.filter a w) = true) :
    inferCard sch Γ (.filter a w) = cartesianCardinality [inferCard sch Γ a, .AT_MOST_ONE] := by
  have h := (Bool.and_eq_true_iff.1 hn).2
  rw [Bool.not_eq_true'] at h
  simp only [inferCard, filterCard, h, Bool.and_false, Bool.false_eq_true, ↓reduceIte]

theorem limitConstCard_sound {c : Card} {l : Nat} (n : Nat) (h : γ c l) :
    γ (limitConstCard c n) (min n l) := by
  match n with
  | 0 => exact zero_lower_sound h (Nat.min_le_right _ _)
  | 1 => exact Nat.min_comm _ _ ▸ limit_one_sound h
  | _ + 2 => exact Nat.min_comm _ _ ▸ limit_const_sound h (Nat.le_add_left 1 _)

theorem option_sublist {α : Type} {o : Option Nat} {f : Nat → List α} {l : List α}
    (h : ∀ n, (f n).Sublist l) :
    (match o with
      | some n => f n
      | none => l).Sublist l := by
  cases o
  · exact List.Sublist.refl _
  · exact h _

theorem limit_sublist (sch : Schema) (db : DB) (env : List Val) (a k : Q) :
    (eval sch db env (.limit a k)).Sublist (eval sch db env a) :=
  option_sublist fun n => List.take_sublist n _

theorem offset_sublist (sch : Schema) (db : DB) (env : List Val) (a k : Q) :
    (eval sch db env (.offset a k)).Sublist (eval sch db env a) :=
  option_sublist fun n => List.drop_sublist n _

theorem accepts_path {sch : Schema} {Γ : VCtx} {src : Q} {p : Nat} (ha : accepts sch Γ (.path src p) = true) :
    ∃ d ts, sch.ptr? p = some d ∧ tyOf sch (Γ.map (·.ty)) src = .obj ts ∧
      ∀ t ∈ ts, t ∈ sch.lineage d.srcTy := by
  have h := (Bool.and_eq_true_iff.1 ha).2
  generalize hp : sch.ptr? p = o at h
  generalize ht : tyOf sch (Γ.map (·.ty)) src = ty at h
  match o, ty, h with
  | some d, .obj ts, h =>
    exact ⟨d, ts, rfl, rfl, fun t ht =>
      by simpa using List.all_eq_true.1 (Bool.and_eq_true_iff.1 h).2 t ht⟩

theorem eval_path {sch : Schema} {db : DB} {env : List Val} {src : Q} {p : Nat} {d : PtrDecl}
    (hp : sch.ptr? p = some d) :
    eval sch db env (.path src p) =
      if d.link.isSome then dedup ((eval sch db env src).flatMap (followPtr db p))
      else (eval sch db env src).flatMap (followPtr db p) := by
  show (match sch.ptr? p with
    | some d => _
    | none => _) = _
  rw [hp]

theorem path_src {sch : Schema} {db : DB} (hc : Conforms sch db) {Γ : VCtx} {env : List Val} {src : Q}
    {p : Nat} {d : PtrDecl} (ha : accepts sch Γ (.path src p) = true) (hp : sch.ptr? p = some d)
    (ih : ∀ v ∈ eval sch db env src, HasTy sch db (tyOf sch (Γ.map (·.ty)) src) v) :
    ∀ v ∈ eval sch db env src, ∃ id ty, v = .obj id ∧ (id, ty) ∈ db.objs ∧ ty ∈ sch.lineage d.srcTy := by
  intro v hv
  obtain ⟨d', ts, hp', hts, hall⟩ := accepts_path ha
  cases hp.symm.trans hp'
  obtain ⟨id, ty, t, h1, h2, h3, h4⟩ := hts ▸ ih v hv
  exact ⟨id, ty, h1, h2, hc.trans _ _ _ (hall t h3) h4⟩

theorem path_ok {sch : Schema} {db : DB} (hc : Conforms sch db) {Γ : VCtx} {env : List Val} {src : Q}
    {p : Nat} (ha : accepts sch Γ (.path src p) = true) (ih : CardOK sch db Γ env src) :
    CardOK sch db Γ env (.path src p) := by
  obtain ⟨d, _, hp, _⟩ := accepts_path ha
  have hsrc := path_src hc ha hp ih.2
  have hout : γ (cartesianCardinality [inferCard sch Γ src, d.card])
      ((eval sch db env src).flatMap (followPtr db p)).length := by
    rw [cartesian_pair_comm]
    apply flatMap_sound ih.1
    intro v hv
    obtain ⟨id, ty, rfl, hid, hty⟩ := hsrc v hv
    exact hc.card p d id ty hp hid hty
  have hcard : inferCard sch Γ (.path src p) = cartesianCardinality [inferCard sch Γ src, d.card] := by
    show ptrCardOf sch p _ = _
    simp only [ptrCardOf, hp]
  have hty : tyOf sch (Γ.map (·.ty)) (.path src p) = d.tgtTy := by
    show (match sch.ptr? p with
      | some d => _
      | none => _) = _
    rw [hp]
  unfold CardOK
  rw [eval_path hp, hcard, hty]
  constructor
  · split
    · exact γ_subbag hout (dedup_length_le _) (dedup_length_pos _)
    · exact hout
  · intro v hv
    unfold PtrDecl.tgtTy
    cases hl : d.link with
    | none => exact trivial
    | some t =>
      rw [hl] at hv
      obtain ⟨s, hs1, hs2⟩ := List.mem_flatMap.1 ((mem_dedup _ v).1 hv)
      obtain ⟨id, ty, rfl, hid, hty⟩ := hsrc s hs1
      exact hc.tgt p d t id ty hp hl hid hty v hs2

end EdbVerif.MiniQL
