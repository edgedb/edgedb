/-
From the C20 theorems about `sortEx` to the ordering facts the scheduling
theorem needs: the commands in the order returned for `depGraph` are a
permutation of the commands and every command comes after the ones it needs.
-/
import EdbVerif.Lemmas.SchemaSched
import EdbVerif.Lemmas.Topo

namespace EdbVerif.Schema

theorem depGraph_eq (A' : Schema) (cmds : List Cmd) :
    depGraph A' cmds = Topo.posGraph (depsOf A' cmds) cmds :=
  Topo.posGraph_of_aux (fun _ => rfl) (fun _ _ _ => rfl) _

theorem mem_depsOf {A' : Schema} {cmds : List Cmd} {a : Cmd} {j : Nat} :
    j ∈ depsOf A' cmds a ↔ ∃ b, cmds[j]? = some b ∧ needs A' a b = true := by
  rw [depsOf, List.mem_filter, List.mem_range]
  constructor
  · rintro ⟨hj, hn⟩
    rw [List.getElem?_eq_getElem hj] at hn
    exact ⟨_, List.getElem?_eq_getElem hj, hn⟩
  · rintro ⟨b, hb, hn⟩
    exact ⟨(List.getElem?_eq_some_iff.1 hb).1, by rw [hb]; exact hn⟩

theorem order_facts {A' : Schema} {cmds : List Cmd} {o : List Nat}
    (h : Topo.sortEx (depGraph A' cmds) false = .ok o) :
    (o.filterMap (fun i => cmds[i]?)).Perm cmds ∧
    DepClosed A' cmds (o.filterMap (fun i => cmds[i]?)) := by
  rw [depGraph_eq] at h
  obtain ⟨hperm, hbefore⟩ := Topo.sortEx_posGraph h
  refine ⟨hperm, fun pre a suf hs b hb hn => ?_⟩
  obtain ⟨j, hj⟩ := List.mem_iff_getElem?.1 hb
  exact hbefore pre a suf hs j b (mem_depsOf.2 ⟨b, hj, hn⟩) hj

end EdbVerif.Schema
