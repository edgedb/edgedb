/-
C18: the `while` loop of `dollar_quote_literal` terminates within `len(text) + 2` candidates — `dollarTag` (fuel
`text.length + 2`) never returns `none`; so does every tag search of that shape (`tagLoop_total`).  Pigeonhole:
a rejected candidate `t = $h$` occurs in `text ++ t.dropLast` at a position `p < len(text)` and is determined
by `p` and the text alone (`h` is the run of non-`$` characters after `text[p]`); the candidates are pairwise
distinct; so at most `len(text)` candidates are rejected.
-/
import EdbVerif.Lemmas.QuoteDollar

namespace EdbVerif.Lex
open EdbVerif.Quote

theorem takeWhile_stop (p : Char → Bool) (x : Char) (hx : p x = false) (w b : List Char) :
    (w ++ x :: b).takeWhile p = w.takeWhile p := by
  induction w with
  | nil => simp [hx]
  | cons c cs ih =>
    simp only [List.cons_append, List.takeWhile_cons, ih]

def notDollar (c : Char) : Bool := c != '$'

/-- the only candidate that can occur in `text ++ …` starting at position `p` -/
def tagAt (text : List Char) (p : Nat) : List Char :=
  '$' :: (text.drop (p + 1)).takeWhile notDollar ++ ['$']

theorem rejected_is_tagAt (text h : List Char) (hh : ∀ c ∈ h, notDollar c = true)
    (hc : contains ('$' :: h ++ ['$']) (text ++ '$' :: h) = true) :
    ∃ p, p < text.length ∧ '$' :: h ++ ['$'] = tagAt text p := by
  obtain ⟨a, b, hs⟩ := (contains_iff _ _).mp hc
  replace hs := hs.symm
  have hlen := congrArg List.length hs
  simp at hlen
  have hp : a.length < text.length := by omega
  refine ⟨a.length, hp, ?_⟩
  have hd := congrArg (List.drop a.length) hs
  rw [List.drop_append_of_le_length (by omega), List.append_assoc a, List.drop_left,
    List.drop_eq_getElem_cons hp] at hd
  simp only [List.cons_append] at hd
  injection hd with h1 h2
  -- `h2`: the text after position `|a|`, then `$h`, is `h$…`; so its leading run of non-`$` characters is `h`
  have t1 := congrArg (List.takeWhile notDollar) h2
  rw [takeWhile_stop notDollar '$' (by decide), List.append_assoc, List.takeWhile_append_of_pos hh,
    List.singleton_append, List.takeWhile_cons_of_neg (by decide), List.append_nil] at t1
  simp [tagAt, t1]

theorem tagLoop_total (tg : Nat → List Char)
    (hshape : ∀ n, ∃ nm, tg n = '$' :: nm ++ ['$'] ∧ ∀ c ∈ nm, notDollar c = true)
    (hinj : ∀ a b, tg a = tg b → a = b) (body : List Char) :
    ∀ f n, (∀ k, k < n → contains (tg k) (body ++ (tg k).dropLast) = true) →
      body.length < f + n → tagLoop tg body f n ≠ none := by
  intro f
  induction f with
  | zero =>
    intro n hrej hlt
    exfalso
    have hsub : (List.range n).map tg ⊆ (List.range body.length).map (tagAt body) := by
      intro x hx
      simp only [List.mem_map, List.mem_range] at hx
      obtain ⟨k, hk, rfl⟩ := hx
      obtain ⟨nm, hs, hb⟩ := hshape k
      have hc := hrej k hk
      rw [hs, List.dropLast_concat] at hc
      obtain ⟨p, hp, e⟩ := rejected_is_tagAt body nm hb hc
      exact List.mem_map.mpr ⟨p, List.mem_range.mpr hp, by rw [← e, hs]⟩
    have hnd : ((List.range n).map tg).Nodup :=
      List.pairwise_map.mpr (List.nodup_range.imp fun hne e => hne (hinj _ _ e))
    have := hnd.length_le_of_subset hsub
    simp at this
    omega
  | succ f ih =>
    intro n hrej hlt
    simp only [tagLoop]
    split
    · rename_i hc
      exact ih (n + 1) (fun k hk => (Nat.lt_succ_iff_lt_or_eq.mp hk).elim (hrej k) (· ▸ hc)) (by omega)
    · simp

theorem tagLoop_isSome (tg : Nat → List Char)
    (hshape : ∀ n, ∃ nm, tg n = '$' :: nm ++ ['$'] ∧ ∀ c ∈ nm, notDollar c = true)
    (hinj : ∀ a b, tg a = tg b → a = b) (body : List Char) :
    ∃ t, tagLoop tg body (body.length + 2) 0 = some t :=
  Option.ne_none_iff_exists'.mp
    (tagLoop_total tg hshape hinj body (body.length + 2) 0 (fun k hk => absurd hk (Nat.not_lt_zero k)) (by omega))

theorem tagOf_inj (a b : Nat) (h : tagOf a = tagOf b) : a = b := by
  have h2 : revHex a = revHex b := (List.cons.inj (List.append_cancel_right h)).2
  exact Digits.toDigits_inj (b := 16) (by decide) (by decide) a b (by rw [← revHex_eq, ← revHex_eq, h2])

theorem tagOf_ne_dd (n : Nat) : tagOf n ≠ ['$', '$'] := by
  obtain ⟨tl, htl⟩ := revHexAux_head n n
  simp [tagOf, revHex, htl]

theorem dollarCtr_mono (i d : Nat) : dollarCtr i ≤ dollarCtr (i + d) := by
  induction d with
  | zero => exact Nat.le_refl _
  | succ d ih =>
    have := le_bumpQq (dollarCtr (i + d))
    show _ ≤ bumpQq (dollarCtr (i + d)) + 1
    omega

theorem dollarCand_inj (a b : Nat) (h : dollarCand a = dollarCand b) : a = b := by
  have key : ∀ i d, dollarCand i ≠ dollarCand (i + d + 1) := by
    intro i d e
    cases i with
    | zero => exact tagOf_ne_dd _ e.symm
    | succ i =>
      have e' := tagOf_inj _ _ e
      have h1 : bumpQq (dollarCtr i) < dollarCtr (i + 1) := Nat.lt_succ_self _
      have h2 := dollarCtr_mono (i + 1) d
      have h3 := le_bumpQq (dollarCtr (i + 1 + d))
      omega
  rcases Nat.lt_trichotomy a b with hlt | rfl | hlt
  · obtain ⟨d, rfl⟩ := Nat.exists_eq_add_of_lt hlt
    exact absurd h (key a d)
  · rfl
  · obtain ⟨d, rfl⟩ := Nat.exists_eq_add_of_lt hlt
    exact absurd h.symm (key b d)

theorem dollarTag_isSome (text : List Char) : ∃ t, dollarTag text = some t := by
  rw [dollarTag_eq_tagLoop]
  refine tagLoop_isSome dollarCand (fun n => ?_) dollarCand_inj text
  obtain ⟨nm, e, hhex, _⟩ := goodTag_name _ (goodTag_dollarCand n)
  exact ⟨nm, e, fun c hc => by simp [notDollar, isHexLower_ne (hhex c hc) '$' (by decide)]⟩

theorem dollarQuoteLiteral_isSome (text : List Char) : ∃ q, dollarQuoteLiteral text = some q := by
  obtain ⟨t, ht⟩ := dollarTag_isSome text
  exact ⟨t ++ text ++ t, by simp [dollarQuoteLiteral, ht]⟩

theorem dollarQuote_lex (U : UClass) (s : List Char) (he : dollarExpressible s = true) :
    ∃ q, dollarQuoteLiteral s = some q ∧ skipWs q = q ∧
      ∀ rest, lexOne U (q ++ rest) = .ok (⟨.str, .str s⟩, rest) := by
  obtain ⟨t, ht⟩ := dollarTag_isSome s
  obtain ⟨hg, hc⟩ := dollarTag_spec s t ht
  simp only [dollarExpressible, List.all_eq_true, Option.isNone_iff_eq_none] at he
  refine ⟨t ++ s ++ t, by simp [dollarQuoteLiteral, ht], ?_, fun rest => goodTag_lex U t s rest hg he hc⟩
  obtain ⟨nm, rfl, _⟩ := goodTag_name t hg
  rfl

end EdbVerif.Lex
