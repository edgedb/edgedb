/-
C01 — the round-trip proof: `Round e` for every production shape of the printer, from `Round` of
the sub-expressions; the recursion over `Expr` / `List Expr` (`round`, `roundAll`) only dispatches.
A lemma named `…_round` assumes `Round` of the parts, its corollary `…_pp` assumes `safe` of them.
Then the fuel bound (`need_le`: `fuelFor` covers `need`) and with it `parse_pp`, the round trip
of `parse`.
-/
import EdbVerif.Lemmas.QLBasic

namespace EdbVerif.QL
open EdbVerif.QLLex EdbVerif.Gen.Prec

/-- an expression without `[i]` / `.s` suffixes is one operand: it is enough to run
    `parseOperand` -/
theorem round_of_operand {e : Expr} (hi : idxCount e = 0)
    (h : ∀ g rest, need e ≤ g + 2 → After (openLvls e) rest →
      parseOperand (g + 1) (pp e ++ rest) = some (e, rest)) : Round e := by
  intro f m rest hf _ ha
  have := idxCount_add_two_le_need e
  rw [hi] at hf ⊢
  cases f with
  | zero => omega
  | succ g => exact parseE_of_operand (h g rest hf ha)

/-- a prefix production `toks inner` with step equation `step`: it is enough (`hin`) that the text
    `inner` after the opening tokens parses to the operand `x` at the production's level -/
theorem round_of_prefix {e x : Expr} {toks inner : List Tok} {lvl n : Nat}
    (step : ∀ {f r r'}, parseE f lvl r = some (x, r') →
      parseOperand (f + 1) (toks ++ r) = some (e, r'))
    (hin : ∀ f rest, n ≤ f → After (openLvls e) rest →
      parseE f lvl (inner ++ rest) = some (x, rest))
    (hpp : pp e = toks ++ inner) (hneed : n + 2 ≤ need e) (hi : idxCount e = 0) : Round e :=
  round_of_operand hi fun g rest hf ha => by
    rw [hpp, List.append_assoc]
    exact step (hin g rest (by omega) ha)

/-- the case `inner = pp x`.  `hopen`: at the end of `e` the production itself (`lvl`) is open, and
    whatever is open at the end of `x` -/
theorem Round.prefix {e x : Expr} {toks : List Tok} {lvl : Nat} (hx : Round x)
    (step : ∀ {f r r'}, parseE f lvl r = some (x, r') →
      parseOperand (f + 1) (toks ++ r) = some (e, r'))
    (hlvl : lvl ≤ unitLvl x) (hopen : ∀ p ∈ lvl :: openLvls x, p ∈ openLvls e)
    (hpp : pp e = toks ++ pp x) (hneed : need x + 2 ≤ need e) (hi : idxCount e = 0) : Round e :=
  round_of_prefix step
    (fun _ _ hf ha => hx.closed hf hlvl (ha.mono fun p hp => hopen p (List.mem_cons_of_mem _ hp))
      (ha.1 lvl (hopen lvl (List.mem_cons_self ..))))
    hpp hneed hi

theorem round_num (n : Nat) (k : LitKind) (s : String) (hk : k.isNum = true) : Round (.num n k s) := by
  induction n with
  | zero => exact round_of_operand rfl fun g rest _ _ => operand_num0 g k s rest hk
  | succ n ih =>
    refine ih.prefix (toks := [.p .minus]) operand_minus (show uminusLvl ≤ topLvl by decide)
      ?_ rfl (Nat.le_refl _) rfl
    cases n <;> simp [openLvls]

theorem Round.paren {x : Expr} (hx : Round x) {f m : Nat} {rest : List Tok} (hf : need x ≤ f) :
    parseE (f + 2) m (.p .lparen :: (pp x ++ .p .rparen :: rest)) = loop (f + 1) m 0 x rest :=
  parseE_of_operand (operand_paren (hx.stop hf (Nat.zero_le _) rfl))

theorem round_unop_alnum (op : UOp) (x : Expr) (hal : op.alnum = true) (hx : Round x) :
    Round (.unop op x) := by
  have hin : ∀ f rest, need x + 2 ≤ f → After [op.lvl] rest →
      parseE f op.lvl (.p .lparen :: (pp x ++ [.p .rparen]) ++ rest) = some (x, rest) := by
    intro f rest hf ha
    obtain ⟨k, rfl⟩ := Nat.exists_eq_add_of_le' (Nat.le_trans (Nat.le_add_left 2 _) hf)
    rw [List.cons_append, List.append_assoc, List.singleton_append,
      hx.paren (Nat.le_of_add_le_add_right hf)]
    exact ha.1 _ (List.mem_singleton_self _) k 0 x
  cases op <;> first
    | exact Bool.noConfusion hal
    | exact round_of_prefix (toks := [_]) (operand_unop _ nofun) hin rfl (Nat.le_refl _) rfl

theorem round_unop_sym (op : UOp) (x : Expr) (hal : op.alnum = false) (hx : Round x)
    (hunit : op.lvl ≤ unitLvl x) (hnn : op = .minus → isNumE x = false) : Round (.unop op x) := by
  cases op <;> first
    | exact Bool.noConfusion hal
    | exact hx.prefix (toks := [_]) (operand_unop _ hnn) hunit (fun _ h => h) rfl
        (Nat.add_le_add_left (by decide) _) rfl

/-- `( l tail )`: `tail` is a function of what follows it, so that no re-association is needed -/
theorem round_infix {l e : Expr} {tail : List Tok → List Tok} {n : Nat} (hl : Round l)
    (htail : ∀ a b, tail a ++ b = tail (a ++ b))
    (ha : ∀ r, After (openLvls l) (tail r))
    (hloop : ∀ f rest, n ≤ f →
      loop (f + 1) 0 0 l (tail (.p .rparen :: rest)) = some (e, .p .rparen :: rest))
    (hpp : pp e = .p .lparen :: (pp l ++ tail [.p .rparen])) (hneed : need l + n + 3 ≤ need e)
    (hi : idxCount e = 0) : Round e :=
  round_of_operand hi fun g rest hf _ => by
    have := idxCount_add_two_le_need l
    rw [hpp, List.cons_append, List.append_assoc, htail]
    refine operand_paren ?_
    obtain ⟨k, rfl⟩ := Nat.exists_eq_add_of_le' (show idxCount l + 2 ≤ g by omega)
    have ⟨h1, h2⟩ : need l ≤ k + 1 + (idxCount l + 1) ∧ n ≤ k := by omega
    rw [← Nat.succ_add_eq_add_succ k (idxCount l + 1), hl (k + 1) 0 _ h1 (Nat.zero_le _) (ha _)]
    exact hloop k rest h2

theorem round_binop (op : BOp) (l r : Expr) (hl : Round l) (hr : Round r)
    (hopen : ∀ p ∈ openLvls l, op.laLvl < p) : Round (.binop op l r) := by
  refine round_infix (tail := fun a => op.toks ++ (pp r ++ a)) (n := need r) hl
    (fun a b => by rw [List.append_assoc, List.append_assoc]) (fun _ => after_bin op _ hopen)
    (fun f rest hf => ?_) rfl (Nat.le_succ _) rfl
  have := idxCount_add_two_le_need r
  exact (loop_bin (matchBin_toks op _) (Nat.not_lt_zero _) (laLvl_pos op)
    (hr.last hf (rhsMin_le_bracket op))).trans (loop_stop (by omega) rfl)

theorem round_isop (neg : Bool) (l : Expr) (ty : String) (hl : Round l)
    (hopen : ∀ p ∈ openLvls l, isLaLvl < p) : Round (.isop neg l ty) := by
  refine round_infix (n := 1)
    (tail := fun a => .kw .is :: ((if neg then [.kw .not] else []) ++ (.id ty :: a))) hl
    (fun a b => by rw [List.cons_append, List.append_assoc, List.cons_append])
    (fun _ => after_is _ hopen) (fun f rest hf => ?_) rfl (Nat.le_refl _) rfl
  exact (loop_is neg (Nat.not_lt_zero _) isLaLvl_pos).trans (loop_stop hf rfl)

theorem round_ifelse (c a b : Expr) (hc : Round c) (ha : Round a) (hb : Round b) :
    Round (.ifelse true c a b) := by
  refine round_infix (n := need c + need b)
    (tail := fun x => .kw .if :: (pp c ++ (.kw .else :: (pp b ++ x)))) ha
    (fun x y => by simp only [List.cons_append, List.append_assoc])
    (fun _ => after_if _ (if_lt_open a)) (fun f rest hf => ?_) rfl
    (show need a + (need c + need b) + 3 ≤ need c + need a + need b + 5 by omega) rfl
  have := idxCount_add_two_le_need b
  have ⟨h1, h2, h3⟩ : need c ≤ f ∧ need b ≤ f ∧ 1 ≤ f := by omega
  exact (loop_if (Nat.not_lt_zero _) (hc.stop h1 (Nat.zero_le _) rfl)
    (hb.last h2 ifRhs_le_bracket)).trans (loop_stop h3 rfl)

theorem round_ifthen (c a b : Expr) (hc : Round c) (ha : Round a) (hb : Round b) :
    Round (.ifelse false c a b) :=
  round_of_operand rfl fun g rest hf _ => by
    have hf : need c + need a + need b + 5 ≤ g + 2 := hf
    have := idxCount_add_two_le_need b
    obtain ⟨g, rfl⟩ := Nat.exists_eq_add_of_le' (show 2 ≤ g by omega)
    have ⟨h1, h2, h3⟩ : need c ≤ g ∧ need a ≤ g ∧ need b ≤ g := by omega
    dsimp only [pp]
    simp only [List.cons_append, List.append_assoc, List.nil_append]
    refine operand_paren ?_
    exact (parseE_of_operand (operand_if (hc.stop h1 (Nat.zero_le _) rfl)
      (ha.stop h2 (Nat.zero_le _) rfl) (hb.last h3 ifThen_le_bracket))).trans
      (loop_stop (Nat.le_add_left 1 g) rfl)

/-- before its own `parseE` an element costs two units (`parseArgs`, `parseArgs1`);
    `needList` allows three -/
theorem parseArgs_round (es : List Expr) (h : ∀ e ∈ es, Round e) {close : P} (hc : Closer close)
    (f : Nat) (rest : List Tok) (hf : needList es ≤ f) :
    parseArgs f close (ppList es ++ .p close :: rest) = some (es, rest) := by
  induction es generalizing f with
  | nil =>
    obtain ⟨g, rfl⟩ := Nat.exists_eq_add_of_le' hf
    exact parseArgs_close g close rest
  | cons e es ih =>
    have hre := h e (List.mem_cons_self ..)
    have hf : need e + needList es + 3 ≤ f := hf
    obtain ⟨g, rfl⟩ := Nat.exists_eq_add_of_le' (show 2 ≤ f by omega)
    have ⟨h1, h2⟩ : need e ≤ g ∧ needList es ≤ g := by omega
    cases es with
    | nil => exact parseArgs_last hc (hre.stop h1 (Nat.zero_le _) (stopper_close hc rest))
    | cons e2 es =>
      rw [show ppList (e :: e2 :: es) = pp e ++ (.p .comma :: ppList (e2 :: es)) from rfl,
        List.append_assoc]
      exact parseArgs_cons hc (hre.stop h1 (Nat.zero_le _) rfl)
        (ih (fun x hx => h x (List.mem_cons_of_mem _ hx)) g h2)

theorem round_list {e : Expr} {toks : List Tok} {close : P} (es : List Expr)
    (h : ∀ x ∈ es, Round x) (hc : Closer close)
    (step : ∀ {f r r'}, parseArgs f close r = some (es, r') →
      parseOperand (f + 1) (toks ++ r) = some (e, r'))
    (hpp : pp e = toks ++ (ppList es ++ [.p close])) (hneed : needList es + 3 ≤ need e)
    (hi : idxCount e = 0) : Round e :=
  round_of_operand hi fun g rest hf _ => by
    rw [hpp, List.append_assoc, List.append_assoc]
    exact step (parseArgs_round es h hc g rest (by omega))

/-- the trailing comma of a 1-tuple is the comma before an empty argument list -/
theorem ppList_tuple (e : Expr) (es : List Expr) :
    ppList (e :: es) ++ (tupleTail (e :: es) ++ [.p .rparen])
      = pp e ++ .p .comma :: (ppList es ++ [.p .rparen]) := by
  cases es with
  | nil => rfl
  | cons e2 es =>
    rw [show ppList (e :: e2 :: es) = pp e ++ (.p .comma :: ppList (e2 :: es)) from rfl,
      List.append_assoc]
    rfl

theorem round_tuple (es : List Expr) (h : ∀ e ∈ es, Round e) :
    Round (.tuple es) :=
  round_of_operand rfl fun g rest hf _ => by
    cases es with
    | nil => exact operand_unit g rest
    | cons e es =>
      have hre := h e (List.mem_cons_self ..)
      have ⟨h1, h2⟩ : need e ≤ g ∧ needList es ≤ g := by
        have hf : need e + needList es + 3 + 4 ≤ g + 2 := hf
        omega
      rw [show pp (.tuple (e :: es)) = .p .lparen :: _ from rfl, ppList_tuple, List.cons_append,
        List.append_assoc, List.cons_append, List.append_assoc]
      exact operand_tuple (hre.stop h1 (Nat.zero_le _) rfl)
        (parseArgs_round es (fun x hx => h x (List.mem_cons_of_mem _ hx)) (.inl rfl) g rest h2)

/-- left operand `arg` with the indices parsed so far -/
def wrapIdx (arg : Expr) : List Expr → Expr
  | [] => arg
  | pre => .index arg pre

theorem mkIndex_of_not_index {l : Expr} (i : Expr) (h : isIndexE l = false) :
    mkIndex l i = .index l [i] := by
  cases l <;> first | rfl | exact Bool.noConfusion h

theorem mkIndex_wrap (arg : Expr) (pre : List Expr) (i : Expr) (h : isIndexE arg = false) :
    mkIndex (wrapIdx arg pre) i = wrapIdx arg (pre ++ [i]) := by
  cases pre with
  | nil => exact mkIndex_of_not_index i h
  | cons p ps => rfl

/-- `pre`: the indices the loop has folded into its left operand so far; each index costs one
    unit -/
theorem loopIdx_round (idx : List Expr) (h : ∀ i ∈ idx, Round i) (arg : Expr)
    (pre : List Expr)
    (harg : isIndexE arg = false) (f m : Nat) (rest : List Tok)
    (hm : m ≤ bracketLvl) (hf : needList idx ≤ f + idx.length) :
    loop (f + idx.length) m 0 (wrapIdx arg pre) (ppIdx idx ++ rest)
      = loop f m 0 (wrapIdx arg (pre ++ idx)) rest := by
  induction idx generalizing pre with
  | nil => rw [List.append_nil]; rfl
  | cons i is ih =>
    have ⟨h1, h2⟩ : need i ≤ f + is.length ∧ needList is ≤ f + is.length := by
      have hf : need i + needList is + 3 ≤ f + is.length + 1 := hf
      omega
    rw [show ppIdx (i :: is) = .p .lbracket :: (pp i ++ (.p .rbracket :: ppIdx is)) from rfl,
      List.cons_append, List.append_assoc, List.cons_append]
    show loop (f + is.length + 1) m 0 _ _ = _
    refine (loop_index (Nat.not_lt.mpr hm)
      ((h i (List.mem_cons_self ..)).stop h1 (Nat.zero_le _) rfl)).trans ?_
    rw [mkIndex_wrap arg pre i harg,
      ih (fun x hx => h x (List.mem_cons_of_mem _ hx)) (pre ++ [i]) h2, List.append_assoc]
    rfl

theorem round_index (arg : Expr) (idx : List Expr) (ha : Round arg)
    (hidx : ∀ i ∈ idx, Round i) (hne : idx ≠ [])
    (harg : isIndexE arg = false) : Round (.index arg idx) := by
  intro f m rest hf hm _
  cases idx with
  | nil => exact absurd rfl hne
  | cons i is =>
    have ⟨h1, h2⟩ : need arg ≤ f + is.length ∧ needList (i :: is) ≤ f + (is.length + 1) := by
      have hf : need arg + needList (i :: is) + 4 ≤ f + is.length + 2 := hf
      omega
    rw [show pp (.index arg (i :: is)) = .p .lparen :: (pp arg ++ (.p .rparen :: ppIdx (i :: is)))
      from rfl, List.cons_append, List.append_assoc, List.cons_append]
    exact (ha.paren h1).trans (loopIdx_round (i :: is) hidx arg [] harg f m rest hm h2)

/-- base `b` with the pointer steps parsed so far -/
def wrapPath (b : Expr) : List String → Expr
  | [] => b
  | p :: ps => .path b p ps

theorem mkPath_of_not_path {l : Expr} (s : String) (h : isPathE l = false) :
    mkPath l s = .path l s [] := by
  cases l <;> first | rfl | exact Bool.noConfusion h

theorem mkPath_wrap (b : Expr) (pre : List String) (y : String) (h : isPathE b = false) :
    mkPath (wrapPath b pre) y = wrapPath b (pre ++ [y]) := by
  cases pre with
  | nil => exact mkPath_of_not_path y h
  | cons p ps => rfl

theorem loopSteps_round (ss : List String) (b : Expr) (pre : List String) (hb : isPathE b = false)
    (f m : Nat) (rest : List Tok) (hm : m ≤ dotLvl) :
    loop (f + ss.length) m 0 (wrapPath b pre) (ppSteps ss ++ rest)
      = loop f m 0 (wrapPath b (pre ++ ss)) rest := by
  induction ss generalizing pre with
  | nil => rw [List.append_nil]; rfl
  | cons s ss ih =>
    show loop (f + ss.length + 1) m 0 _ (.p .dot :: .id s :: (ppSteps ss ++ rest)) = _
    refine (loop_dot (Nat.not_lt.mpr hm)).trans ?_
    rw [mkPath_wrap b pre s hb, ih (pre ++ [s]), List.append_assoc]
    rfl

theorem round_path (b : Expr) (s : String) (ss : List String) (hb : Round b)
    (hnp : isPathE b = false) : Round (.path b s ss) := by
  intro f m rest hf hm _
  have hf : need b + ss.length + 4 ≤ f + ss.length + 2 := hf
  have hstart : parseE (f + ss.length + 2) m (pp (.path b s ss) ++ rest)
      = loop (f + (s :: ss).length) m 0 b (ppSteps (s :: ss) ++ rest) := by
    rw [show pp (.path b s ss) = (if bareBase b then pp b else .p .lparen :: (pp b ++ [.p .rparen]))
      ++ ppSteps (s :: ss) from rfl, List.append_assoc]
    cases hbare : bareBase b with
    | true =>
      obtain ⟨hu, ho, hi⟩ := bare_facts b hbare
      have := hb (f + ss.length + 1) m (ppSteps (s :: ss) ++ rest)
      rw [hi] at this
      rw [if_pos rfl]
      exact this (by omega) (hu ▸ Nat.le_trans hm dot_le_top) (ho ▸ after_dot _)
    | false =>
      rw [if_neg Bool.false_ne_true, List.cons_append, List.append_assoc, List.singleton_append]
      exact hb.paren (by omega)
  exact hstart.trans (loopSteps_round (s :: ss) b [] hnp f m rest hm)

mutual

theorem round (e : Expr) (hs : safe e = true) : Round e := by
  cases e
  case atom t => exact round_of_operand rfl fun g rest _ _ => operand_atom g t rest hs
  case name s => exact round_of_operand rfl fun g rest _ ha => operand_name g s rest ha.2
  case num n k s => exact round_num n k s hs
  case call fn es =>
    exact round_list (toks := [.id fn, .p .lparen]) es (roundAll es hs) (.inl rfl)
      operand_call rfl (Nat.le_refl _) rfl
  case array es =>
    exact round_list (toks := [.p .lbracket]) es (roundAll es hs) (.inr (.inl rfl))
      operand_array rfl (Nat.le_refl _) rfl
  case set es =>
    exact round_list (toks := [.p .lbrace]) es (roundAll es hs) (.inr (.inr rfl))
      operand_set rfl (Nat.le_refl _) rfl
  case tuple es => exact round_tuple es (roundAll es hs)
  all_goals
    dsimp only [safe] at hs
    simp only [Bool.and_eq_true, Bool.or_eq_true, decide_eq_true_eq,
      List.all_eq_true, bne_iff_ne, ne_eq, Bool.not_eq_true', List.isEmpty_eq_false_iff] at hs
  case unop op x =>
    cases hal : op.alnum with
    | true => exact round_unop_alnum op x hal (round x hs.1)
    | false =>
      obtain ⟨hsx, hal' | ⟨hunit, hnn⟩⟩ := hs
      · rw [hal] at hal'; exact Bool.noConfusion hal'
      · exact round_unop_sym op x hal (round x hsx) hunit fun h => hnn.resolve_left (· h)
  case binop op l r =>
    obtain ⟨⟨hl, hr⟩, hopen⟩ := hs
    exact round_binop op l r (round l hl) (round r hr) hopen
  case isop neg l ty => exact round_isop neg l ty (round l hs.1) hs.2
  case ifelse py c a b =>
    obtain ⟨⟨hc, ha⟩, hb⟩ := hs
    cases py with
    | true => exact round_ifelse c a b (round c hc) (round a ha) (round b hb)
    | false => exact round_ifthen c a b (round c hc) (round a ha) (round b hb)
  case cast ty x =>
    exact (round x hs.1).prefix (toks := [.p .langbracket, .id ty, .p .rangbracket]) operand_cast
      hs.2 (fun _ h => h) rfl (Nat.le_succ _) rfl
  case detached x =>
    exact (round x hs.1).prefix (toks := [.kw .detached]) operand_detached hs.2 (fun _ h => h) rfl
      (Nat.le_succ _) rfl
  case index arg idx =>
    obtain ⟨⟨⟨ha, hidx⟩, hne⟩, harg⟩ := hs
    exact round_index arg idx (round arg ha) (roundAll idx hidx) hne harg
  case path b s ss => exact round_path b s ss (round b hs.1) hs.2

theorem roundAll (es : List Expr) (hs : safeList es = true) : ∀ e ∈ es, Round e := by
  cases es with
  | nil => nofun
  | cons e es =>
    have hs := Bool.and_eq_true_iff.1 hs
    exact List.forall_mem_cons.2 ⟨round e hs.1, roundAll es hs.2⟩

end

theorem parseArgs_pp (es : List Expr) (hs : safeList es = true) (f : Nat) (close : P)
    (hc : close = .rparen ∨ close = .rbracket ∨ close = .rbrace) (rest : List Tok)
    (hf : needList es ≤ f + 1) :
    parseArgs (f + 1) close (ppList es ++ .p close :: rest) = some (es, rest) :=
  parseArgs_round es (roundAll es hs) hc (f + 1) rest hf

theorem loopIdx_pp (idx : List Expr) (hs : safeList idx = true) (arg : Expr) (pre : List Expr)
    (harg : isIndexE arg = false) (f m : Nat) (rest : List Tok)
    (hm : m ≤ bracketLvl) (hf : needList idx ≤ f) :
    loop f m 0 (wrapIdx arg pre) (ppIdx idx ++ rest)
      = loop (f - idx.length) m 0 (wrapIdx arg (pre ++ idx)) rest := by
  obtain ⟨k, rfl⟩ := Nat.exists_eq_add_of_le' (Nat.le_trans (length_le_needList idx) hf)
  rw [Nat.add_sub_cancel]
  exact loopIdx_round idx (roundAll idx hs) arg pre harg k m rest hm hf

/- Four units for a printed token (`-x` and `+x` spend four on their one).  An empty list costs one unit
   and prints nothing, hence the offsets: `n` comma-separated elements have `n - 1` commas for their
   `3 * n + 1` units (`+ 4`), an index list two brackets an element (`+ 1`). -/
mutual
theorem need_le (e : Expr) : need e ≤ 4 * (pp e).length := by
  cases e with
  | atom _ | name _ => exact (by decide : 3 ≤ 4 * 1)
  | num n k s =>
      dsimp only [need, pp]
      simp only [List.length_append, List.length_replicate, List.length_singleton]
      omega
  | unop op x =>
      have := need_le x
      dsimp only [need, pp]
      cases op.alnum <;> simp <;> omega
  | binop op l r =>
      have := need_le l; have := need_le r
      dsimp only [need, pp]; simp; omega
  | ifelse py c a b =>
      have := need_le c; have := need_le a; have := need_le b
      cases py <;> dsimp only [need, pp] <;> simp <;> omega
  | isop _ x _ | cast _ x | detached x =>
      have := need_le x
      dsimp only [need, pp]; simp; omega
  | call _ es | tuple es | array es | set es =>
      have := needList_le es
      dsimp only [need, pp]; simp; omega
  | index a idx =>
      have := need_le a; have := needIdx_le idx
      dsimp only [need, pp]; simp; omega
  | path b s ss =>
      have := need_le b
      have := length_ppSteps ss
      dsimp only [need, pp, ppSteps]
      cases bareBase b <;> simp <;> omega

theorem needList_le (es : List Expr) : needList es ≤ 4 * (ppList es).length + 4 := by
  cases es with
  | nil => decide
  | cons e es' =>
      have := need_le e
      have := needList_le es'
      cases es' <;> dsimp only [needList, ppList] at * <;> simp at * <;> omega

theorem needIdx_le (idx : List Expr) : needList idx ≤ 4 * (ppIdx idx).length + 1 := by
  cases idx with
  | nil => decide
  | cons i is =>
      have := need_le i
      have := needIdx_le is
      dsimp only [needList, ppIdx]; simp; omega
end

theorem parse_pp (e : Expr) (hs : Safe e) : parse (pp e) = some e := by
  have h := (round e hs).stop (rest := []) (m := 0) (f := fuelFor (pp e))
    (Nat.le_trans (need_le e) (Nat.le_add_right ..)) (Nat.zero_le _) trivial
  rw [List.append_nil] at h
  unfold parse
  rw [h]

/-- for the counterexamples of `Props/C01`: the re-parse `a` is evaluated once, to `b`; that it
    is not `c` is then a mismatch of constructors -/
theorem eq_and_ne {α : Type} {a b c : α} (h : a = b) (hn : b ≠ c) : a = b ∧ a ≠ c :=
  ⟨h, h ▸ hn⟩

end EdbVerif.QL
