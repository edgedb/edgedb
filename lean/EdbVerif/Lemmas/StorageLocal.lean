/-
Local correctness (`LocalOK`) of the operations emitted for a change of one pointer: one rule per
backend operation on the local state, then the operation lists of `emit` as chains of these rules.
-/
import EdbVerif.Lemmas.StorageFrame
namespace EdbVerif.Storage

theorem triple_createTable {p : Ptr} {σ : Loc} (b : Bool) (h : σ.tbl = false) :
    Triple p σ [.createTable (.ptr p.id) linkTableCols b]
      { σ with tbl := true, cols := fun k => (k = .source ∨ k = .target) ∨ σ.cols k } := by
  intro c hc
  obtain ⟨c', e, hT, hC⟩ := exec_createTable_new linkTableCols b (mt hc.tbl.mp (ne_true_of_eq_false h))
  refine ⟨c', execAll_single e, ⟨fun t ht => ?_, fun x hx => ?_⟩, ?_, fun t hs => ?_, fun k => ?_, fun t hs => ?_⟩
  · rw [hT]; exact or_iff_right ht
  · rw [hC]; exact or_iff_right fun h => hx (Or.inl h.1)
  · rw [hT]; exact iff_of_true (Or.inl rfl) rfl
  · rw [hC, hc.src t hs]; exact or_iff_right fun h => nomatch h.1
  · rw [hC, hc.cols]; simp [linkTableCols]
  · rw [hT]; exact Or.inr (hc.srcTbl t hs)

theorem triple_createTable_exists {p : Ptr} {σ : Loc} (h : σ.tbl = true) :
    Triple p σ [.createTable (.ptr p.id) linkTableCols true] σ :=
  fun c hc => ⟨c, execAll_single (exec_createTable_exists _ (hc.tbl.mpr h)), .refl p c, hc⟩

theorem triple_dropTable {p : Ptr} {σ : Loc} (b : Bool) (h : σ.tbl = true) :
    Triple p σ [.dropTable (.ptr p.id) b] { σ with tbl := false, cols := fun _ => False } := by
  intro c hc
  obtain ⟨c', e, hT, hC⟩ := exec_dropTable b (hc.tbl.mpr h)
  refine ⟨c', execAll_single e, ⟨fun t ht => ?_, fun x hx => ?_⟩, ?_, fun t hs => ?_, fun k => ?_, fun t hs => ?_⟩
  · rw [hT]; exact and_iff_right ht
  · rw [hC]; exact and_iff_right fun h => hx (Or.inl h)
  · rw [hT]; exact iff_of_false (fun h => h.1 rfl) Bool.false_ne_true
  · rw [hC, hc.src t hs]; exact and_iff_right nofun
  · rw [hC]; exact iff_of_false (fun h => h.1 rfl) id
  · rw [hT]; exact ⟨nofun, hc.srcTbl t hs⟩

theorem triple_addSrc {p : Ptr} {σ : Loc} {t : Nat} (hs : p.src = some t) (b : Bool) (h : σ.src = false) :
    Triple p σ [.addCol (.obj t) (colOf p.name p.id) b] { σ with src := true } := by
  intro c hc
  obtain ⟨c', e, hT, hC⟩ := exec_addCol b (mt (hc.src t hs).mp (ne_true_of_eq_false h)) (hc.srcTbl t hs)
  refine ⟨c', execAll_single e, ⟨fun u _ => by rw [hT], fun x hx => ?_⟩, by rw [hT]; exact hc.tbl,
    fun t' hs' => ?_, fun k => ?_, by rw [hT]; exact hc.srcTbl⟩
  · rw [hC]; exact or_iff_right fun h => hx (h ▸ Or.inr ⟨t, hs, rfl⟩)
  · rw [hs] at hs'; cases hs'
    rw [hC]; exact iff_of_true (Or.inl rfl) rfl
  · rw [hC, hc.cols]; exact or_iff_right nofun

theorem triple_dropSrc {p : Ptr} {σ : Loc} {t : Nat} (hs : p.src = some t) (h : σ.src = true) :
    Triple p σ [.dropCol (.obj t) (colOf p.name p.id)] { σ with src := false } := by
  intro c hc
  obtain ⟨c', e, hT, hC⟩ := exec_dropCol ((hc.src t hs).mpr h)
  refine ⟨c', execAll_single e, ⟨fun u _ => by rw [hT], fun x hx => ?_⟩, by rw [hT]; exact hc.tbl,
    fun t' hs' => ?_, fun k => ?_, by rw [hT]; exact hc.srcTbl⟩
  · rw [hC]; exact and_iff_right fun h => hx (h ▸ Or.inr ⟨t, hs, rfl⟩)
  · rw [hs] at hs'; cases hs'
    rw [hC]; exact iff_of_false (fun h => h.1 rfl) Bool.false_ne_true
  · rw [hC, hc.cols]; exact and_iff_right nofun

theorem triple_addCol {p : Ptr} {σ : Loc} (k : CName) (ht : σ.tbl = true) (h : ¬ σ.cols k) :
    Triple p σ [.addCol (.ptr p.id) k false] { σ with cols := fun k' => σ.cols k' ∨ k' = k } := by
  intro c hc
  obtain ⟨c', e, hT, hC⟩ := exec_addCol false (mt (hc.cols k).mp h) (hc.tbl.mpr ht)
  refine ⟨c', execAll_single e, ⟨fun u _ => by rw [hT], fun x hx => ?_⟩, by rw [hT]; exact hc.tbl,
    fun t hs => ?_, fun k' => ?_, by rw [hT]; exact hc.srcTbl⟩
  · rw [hC]; exact or_iff_right fun h => hx (h ▸ Or.inl rfl)
  · rw [hC, hc.src t hs]; exact or_iff_right nofun
  · rw [hC, hc.cols, or_comm]; simp

theorem triple_dropCol {p : Ptr} {σ : Loc} (k : CName) (h : σ.cols k) :
    Triple p σ [.dropCol (.ptr p.id) k] { σ with cols := fun k' => k' ≠ k ∧ σ.cols k' } := by
  intro c hc
  obtain ⟨c', e, hT, hC⟩ := exec_dropCol ((hc.cols k).mpr h)
  refine ⟨c', execAll_single e, ⟨fun u _ => by rw [hT], fun x hx => ?_⟩, by rw [hT]; exact hc.tbl,
    fun t hs => ?_, fun k' => ?_, by rw [hT]; exact hc.srcTbl⟩
  · rw [hC]; exact and_iff_right fun h => hx (h ▸ Or.inl rfl)
  · rw [hC, hc.src t hs]; exact and_iff_right nofun
  · rw [hC, hc.cols]; simp

theorem local_noop {p p' : Ptr} (h1 : p'.hasTable = p.hasTable) (h2 : p'.srcCol.isSome = p.srcCol.isSome)
    (h3 : ∀ k, k ∈ p'.lpropCols ↔ k ∈ p.lpropCols) : LocalOK p p' [] :=
  (Triple.nil p p.loc).post h1.symm h2.symm
    fun k => and_congr (by rw [h1]) (or_congr_right (or_congr_right (h3 k).symm))

theorem local_setSingle_false {p : Ptr} {t : Nat} (hsrc : p.src = some t) (hs : p.single = true)
    (hc : p.computed = false) (hn : p.name ≠ .type_) :
    LocalOK p { p with single := false }
      ((if ({ p with single := false } : Ptr).hasTable then [Op.createTable (.ptr p.id) linkTableCols true] else []) ++
        [Op.dropCol (.obj t) (colOf p.name p.id)]) := by
  have hht' : ({ p with single := false } : Ptr).hasTable = true := by simp [Ptr.hasTable, hc, hsrc]
  have hsc : p.loc.src = true :=
    Option.isSome_iff_exists.mpr ⟨_, srcCol_eq_some.mpr ⟨t, hsrc, hc, hs, hn, rfl⟩⟩
  have hsc' : ({ p with single := false } : Ptr).loc.src = false := by simp [Ptr.loc, Ptr.srcCol, hsrc]
  rw [if_pos hht']
  cases hht : p.hasTable
  case true =>
    exact ((triple_createTable_exists (σ := p.loc) hht).append (triple_dropSrc hsrc hsc)).post
      (hht.trans hht'.symm) hsc'.symm fun k => and_congr_left' (iff_of_true hht hht')
  case false =>
    -- a single pointer without a table has no stored link properties: the new table is complete
    have hlp : ({ p with single := false } : Ptr).lpropCols = [] :=
      lpropCols_nil_of_not_userProps (p := p) (by simpa [hasTable_some hsrc, hc, hs] using hht)
    refine ((triple_createTable (σ := p.loc) true hht).append (triple_dropSrc hsrc hsc)).post hht'.symm hsc'.symm
      fun k => ?_
    simp [Ptr.loc, hht, hht', hlp]

theorem local_setSingle_true {p : Ptr} {t : Nat} (hsrc : p.src = some t) (hs : p.single = false)
    (hc : p.computed = false) (hn : p.name ≠ .type_) :
    LocalOK p { p with single := true }
      ([Op.addCol (.obj t) (colOf p.name p.id) true] ++
        (if !({ p with single := true } : Ptr).hasTable then [Op.dropTable (.ptr p.id) true] else [])) := by
  have hht : p.hasTable = true := by simp [Ptr.hasTable, hc, hsrc, hs]
  have hsc : p.loc.src = false := by simp [Ptr.loc, Ptr.srcCol, hsrc, hs]
  have hsc' : ({ p with single := true } : Ptr).loc.src = true :=
    Option.isSome_iff_exists.mpr ⟨_, srcCol_eq_some.mpr ⟨t, hsrc, hc, rfl, hn, rfl⟩⟩
  cases hht' : ({ p with single := true } : Ptr).hasTable
  · exact ((triple_addSrc hsrc true hsc).append (triple_dropTable true hht)).post hht'.symm hsc'.symm
      fun k => iff_of_false id fun h => ne_true_of_eq_false hht' h.1
  · exact ((triple_addSrc hsrc true hsc).append (Triple.nil _ _)).post (hht.trans hht'.symm) hsc'.symm
      fun k => and_congr_left' (iff_of_true hht hht')

/-- the operations that remove all storage of a pointer (`_delete_link` / `_delete_property`
    with the storage info of the original schema) -/
def unstoreOps (p : Ptr) : List Op :=
  (match p.srcCol with
   | some (t, c) => [Op.dropCol t c]
   | none => []) ++ (if p.hasTable then [dropPtrTable p] else [])

theorem local_unstore {p p' : Ptr} (h' : Dead p') : LocalOK p p' (unstoreOps p) := by
  have h1 : Triple p p.loc (match p.srcCol with
      | some (t, c) => [Op.dropCol t c]
      | none => []) { p.loc with src := false } := by
    cases hsc : p.srcCol with
    | none => exact (Triple.nil p _).post rfl (congrArg Option.isSome hsc) fun _ => .rfl
    | some x =>
      obtain ⟨t, hs, _, _, _, rfl⟩ := srcCol_eq_some.mp hsc
      exact triple_dropSrc hs (congrArg Option.isSome hsc)
  have h2 : Triple p { p.loc with src := false } (if p.hasTable then [dropPtrTable p] else [])
      ⟨false, false, fun _ => False⟩ := by
    cases hht : p.hasTable
    · exact (Triple.nil p _).post hht rfl fun k => iff_of_false (fun h => ne_true_of_eq_false hht h.1) id
    · exact triple_dropTable _ hht
  exact (h1.append h2).post h'.1.symm (congrArg Option.isSome h'.2).symm
    fun k => iff_of_false id fun h => ne_true_of_eq_false h'.1 h.1

theorem local_store {p p' : Ptr} (hid : p'.id = p.id) (hsrc : p'.src = p.src)
    (hcol : colOf p'.name p'.id = colOf p.name p.id) (h : Dead p) (hup : p'.userProps = false) :
    LocalOK p p' (createOps p') := by
  have hnt : ¬ p.hasTable = true := ne_true_of_eq_false h.1
  have h1 : Triple p p.loc (if p'.hasTable then [Op.createTable (.ptr p'.id) linkTableCols true] else [])
      ⟨p'.hasTable, false, fun k => p'.hasTable = true ∧ (k = .source ∨ k = .target)⟩ := by
    have hs : p.loc.src = false := congrArg Option.isSome h.2
    cases hht' : p'.hasTable
    · exact (Triple.nil p _).post h.1 hs fun k => iff_of_false (fun h => hnt h.1) nofun
    · rw [hid]
      exact (triple_createTable true h.1).post rfl hs
        fun k => ⟨fun h => ⟨rfl, h.resolve_right fun h => hnt h.1⟩, fun h => Or.inl h.2⟩
  have h2 : Triple p ⟨p'.hasTable, false, fun k => p'.hasTable = true ∧ (k = .source ∨ k = .target)⟩
      (match p'.srcCol with
        | some (t, c) => [Op.addCol t c false]
        | none => []) p'.loc := by
    have hc : ∀ k, p'.hasTable = true ∧ (k = .source ∨ k = .target) ↔ p'.loc.cols k := fun k => by
      simp [Ptr.loc, lpropCols_nil_of_not_userProps hup]
    cases hsc : p'.srcCol with
    | none => exact (Triple.nil p _).post rfl (congrArg Option.isSome hsc).symm hc
    | some x =>
      obtain ⟨t, hs, _, _, _, rfl⟩ := srcCol_eq_some.mp hsc
      rw [hid] at hcol
      rw [hid, hcol]
      exact (triple_addSrc (hsrc ▸ hs) false rfl).post rfl (congrArg Option.isSome hsc).symm hc
  exact h1.append h2

theorem local_lprops_same (p : Ptr) {l : List LProp}
    (h : ∀ k, k ∈ ({ p with lprops := l } : Ptr).lpropCols ↔ k ∈ p.lpropCols) :
    LocalOK p { p with lprops := l } [] :=
  local_noop (Bool.eq_iff_iff.mpr ⟨hasTable_mono rfl rfl rfl rfl fun k => (h k).mp,
    hasTable_mono rfl rfl rfl rfl fun k => (h k).mpr⟩) rfl h

theorem local_lpropStore (p : Ptr) {l : List LProp} {lpid : Nat}
    (hcols : ∀ k, k ∈ ({ p with lprops := l } : Ptr).lpropCols ↔ k ∈ p.lpropCols ∨ k = .col lpid)
    (hnew : CName.col lpid ∉ p.lpropCols) :
    LocalOK p { p with lprops := l } (lpropStoreOps p { p with lprops := l } (.col lpid) false) := by
  have hmono := hasTable_mono (p := p) (p' := { p with lprops := l }) rfl rfl rfl rfl
    fun k hk => (hcols k).mpr (Or.inl hk)
  unfold lpropStoreOps
  cases hht' : ({ p with lprops := l } : Ptr).hasTable
  · have hht : p.hasTable = false := Bool.eq_false_iff.mpr fun h => Bool.false_ne_true (hht'.symm.trans (hmono h))
    exact (Triple.nil p _).post (hht.trans hht'.symm) rfl
      fun k => iff_of_false (ne_true_of_eq_false hht ·.1) (ne_true_of_eq_false hht' ·.1)
  · cases hht : p.hasTable
    · have hlp := lpropCols_nil_of_new_table (p := p) (p' := { p with lprops := l }) rfl rfl rfl rfl hht hht'
      refine ((triple_createTable (σ := p.loc) false hht).append (triple_addCol (.col lpid) rfl ?_)).post hht'.symm rfl
        fun k => ?_
      · exact fun h => h.elim (fun h => h.elim nofun nofun) fun h => ne_true_of_eq_false hht h.1
      · simp [Ptr.loc, hht, hht', hcols, hlp, or_assoc]
    · refine (triple_addCol (σ := p.loc) (.col lpid) hht ?_).post (hht.trans hht'.symm) rfl fun k => ?_
      · exact fun h => hnew ((h.2.resolve_left nofun).resolve_left nofun)
      · simp [Ptr.loc, hht, hht', hcols, or_assoc]

theorem local_lpropUnstore (p : Ptr) {l : List LProp} {lpid : Nat}
    (hcols : ∀ k, k ∈ ({ p with lprops := l } : Ptr).lpropCols ↔ k ≠ .col lpid ∧ k ∈ p.lpropCols)
    (hold : CName.col lpid ∈ p.lpropCols) :
    LocalOK p { p with lprops := l } (lpropUnstoreOps p { p with lprops := l } (.col lpid)) := by
  have hmono := hasTable_mono (p := { p with lprops := l }) (p' := p) rfl rfl rfl rfl
    fun k hk => ((hcols k).mp hk).2
  unfold lpropUnstoreOps
  cases hht' : ({ p with lprops := l } : Ptr).hasTable
  · have hnt' := ne_true_of_eq_false hht'
    cases hht : p.hasTable
    · exact (Triple.nil p _).post (hht.trans hht'.symm) rfl
        fun k => iff_of_false (fun h => ne_true_of_eq_false hht h.1) (hnt' ·.1)
    · exact (triple_dropTable (σ := p.loc) false hht).post hht'.symm rfl fun k => iff_of_false id (hnt' ·.1)
  · have hht := hmono hht'
    refine (triple_dropCol (σ := p.loc) (.col lpid) ⟨hht, .inr (.inr hold)⟩).post (hht.trans hht'.symm) rfl fun k => ?_
    simp only [Ptr.loc, hht, hht', hcols, true_and]
    rw [and_or_left, and_or_left, and_iff_right_of_imp (by rintro rfl; nofun),
      and_iff_right_of_imp (by rintro rfl; nofun)]

end EdbVerif.Storage
