/-
List facts that several packages need and core does not have: an element added at the end, insert-if-absent
(stated on the term `if c then l else l ++ [x]`, the test `c` a variable), positions read back, grouping by key
(`group_perm`).  Functions that the model files define more than once at different types (keep-first `dedup`,
insertion sort): their lemmas take the defining equations as hypotheses, which every one of the definitions
meets by `rfl`.  Also `cut`, the split at the last separator, and `many_print`: a parser loop with fuel reads
back a printed list.
-/
namespace EdbVerif.ListAux

universe u v

theorem forall_mem_snoc {α : Type u} {l : List α} {a : α} {P : α → Prop} (hl : ∀ x ∈ l, P x) (ha : P a) :
    ∀ x ∈ l ++ [a], P x :=
  List.forall_mem_append.mpr ⟨hl, List.forall_mem_singleton.mpr ha⟩

theorem pairwise_snoc {α : Type u} {R : α → α → Prop} {l : List α} {a : α} :
    (l ++ [a]).Pairwise R ↔ l.Pairwise R ∧ ∀ b ∈ l, R b a := by
  simp [List.pairwise_append]

theorem nodup_snoc {α : Type u} {l : List α} {a : α} : (l ++ [a]).Nodup ↔ a ∉ l ∧ l.Nodup := by
  rw [List.Nodup, pairwise_snoc]
  exact ⟨fun ⟨h, ha⟩ => ⟨fun hm => ha a hm rfl, h⟩, fun ⟨ha, h⟩ => ⟨h, fun b hb e => ha (e ▸ hb)⟩⟩

/-- `c` is the test of `if x ∈ l then l else l ++ [x]`, spelt `x ∈ l` (then `hc` is `.rfl`) or `l.contains x`
    (`List.contains_iff_mem`); so in `mem_snocNew` -/
theorem nodup_snocNew {α : Type u} {l : List α} {x : α} {c : Prop} [Decidable c] (hc : c ↔ x ∈ l)
    (h : l.Nodup) : (if c then l else l ++ [x]).Nodup := by
  by_cases hx : c
  · rwa [if_pos hx]
  · rw [if_neg hx]; exact nodup_snoc.mpr ⟨fun hm => hx (hc.mpr hm), h⟩

theorem mem_snocNew {α : Type u} {l : List α} {x y : α} {c : Prop} [Decidable c] (hc : c ↔ x ∈ l) :
    y ∈ (if c then l else l ++ [x]) ↔ y ∈ l ∨ y = x := by
  by_cases hx : c
  · rw [if_pos hx]; exact ⟨.inl, fun h => h.elim id fun e => e ▸ hc.mp hx⟩
  · rw [if_neg hx, List.mem_append, List.mem_singleton]

theorem filterMap_range'_getElem? {α : Type u} (pre ns : List α) :
    (List.range' pre.length ns.length).filterMap (fun j => (pre ++ ns)[j]?) = ns := by
  induction ns generalizing pre with
  | nil => rfl
  | cons a as ih =>
    have h := ih (pre ++ [a])
    rw [List.length_append, List.length_singleton, List.append_assoc, List.singleton_append] at h
    rw [List.length_cons, List.range'_succ, List.filterMap_cons,
      List.getElem?_append_right (Nat.le_refl _), Nat.sub_self, List.getElem?_cons_zero, h]

theorem mem_of_idxOf_lt {α : Type u} [BEq α] [LawfulBEq α] {a b : List α} {i j : α}
    (h : (a ++ i :: b).idxOf j < (a ++ i :: b).idxOf i) : j ∈ a := by
  refine Classical.byContradiction fun hj => ?_
  rw [List.idxOf_append, if_neg hj, List.idxOf_append] at h
  by_cases hi : i ∈ a
  · rw [if_pos hi] at h
    exact Nat.not_lt.2 (Nat.le_add_left _ _) (Nat.lt_trans h (List.idxOf_lt_length_iff.2 hi))
  · rw [if_neg hi, List.idxOf_cons_self, Nat.zero_add] at h
    exact Nat.not_lt.2 (Nat.le_add_left _ _) h

theorem group_perm {α : Type u} {κ : Type v} [BEq κ] [LawfulBEq κ] (key : α → κ) {ms : List κ} (hn : ms.Nodup)
    {l : List α} (hc : ∀ x ∈ l, key x ∈ ms) : (ms.flatMap fun m => l.filter fun x => key x == m).Perm l := by
  induction ms generalizing l with
  | nil =>
    cases l with
    | nil => exact .refl _
    | cons x xs => exact absurd (hc x List.mem_cons_self) List.not_mem_nil
  | cons m ms ih =>
    obtain ⟨hm, hms⟩ := List.nodup_cons.mp hn
    -- the other groups do not see the elements with key `m`
    have hrest : ∀ us : List κ, (∀ m' ∈ us, m' ∈ ms) →
        (us.flatMap fun m' => l.filter fun x => key x == m') =
        us.flatMap fun m' => (l.filter fun x => !(key x == m)).filter fun x => key x == m' := by
      intro us
      induction us with
      | nil => intro _; rfl
      | cons u us ihu =>
        intro hu
        rw [List.flatMap_cons, List.flatMap_cons, ihu fun m' h => hu m' (List.mem_cons_of_mem _ h),
          List.filter_filter]
        congr 1
        refine List.filter_congr fun x _ => ?_
        by_cases hx : key x = u
        · have : u ≠ m := fun e => hm (e ▸ hu u List.mem_cons_self)
          simp [hx, this]
        · simp [hx]
    rw [List.flatMap_cons, hrest ms fun _ h => h]
    refine (List.Perm.append_left _ (ih hms fun x hx => ?_)).trans (List.filter_append_perm _ l)
    obtain ⟨hxl, hxm⟩ := List.mem_filter.mp hx
    exact (List.mem_cons.mp (hc x hxl)).resolve_left fun e => by simp [e] at hxm

section dedup
variable {α : Type u} [BEq α] [LawfulBEq α] {d : List α → List α}
  (h0 : d [] = []) (h1 : ∀ x xs, d (x :: xs) = x :: (d xs).filter (· != x))
include h0 h1

omit [LawfulBEq α] in
theorem dedup_sublist : ∀ l, (d l).Sublist l
  | [] => by rw [h0]; exact .slnil
  | x :: xs => h1 x xs ▸ (List.filter_sublist.trans (dedup_sublist xs)).cons_cons x

theorem dedup_nodup : ∀ l, (d l).Nodup
  | [] => by rw [h0]; exact List.nodup_nil
  | x :: xs => by
    rw [h1, List.nodup_cons]
    exact ⟨by simp [List.mem_filter], (dedup_nodup xs).sublist List.filter_sublist⟩

theorem mem_dedup {x : α} : ∀ {l : List α}, x ∈ d l ↔ x ∈ l
  | [] => by rw [h0]
  | y :: ys => by
    rw [h1, List.mem_cons, List.mem_cons, List.mem_filter, mem_dedup (l := ys), bne_iff_ne]
    refine ⟨fun h => h.imp_right And.left, fun h => ?_⟩
    cases hxy : x == y
    · exact .inr ⟨h.resolve_left (ne_of_beq_false hxy), ne_of_beq_false hxy⟩
    · exact .inl (eq_of_beq hxy)

end dedup

section isort
variable {α : Type u} {lt : α → α → Prop} [DecidableRel lt] {ins : α → List α → List α}
  (h0 : ∀ x, ins x [] = [x])
  (h1 : ∀ x y ys, ins x (y :: ys) = if lt x y then x :: y :: ys else y :: ins x ys)
include h0 h1

theorem ins_perm (x : α) : ∀ l, (ins x l).Perm (x :: l)
  | [] => by rw [h0]
  | y :: ys => by
    rw [h1]
    by_cases h : lt x y
    · rw [if_pos h]
    · rw [if_neg h]; exact ((ins_perm x ys).cons y).trans (.swap x y ys)

theorem sort_perm {sort : List α → List α} (s0 : sort [] = []) (s1 : ∀ x xs, sort (x :: xs) = ins x (sort xs)) :
    ∀ l, (sort l).Perm l
  | [] => by rw [s0]
  | x :: xs => by rw [s1]; exact (ins_perm h0 h1 x _).trans ((sort_perm s0 s1 xs).cons x)

end isort

/-- split at the LAST `c`; `cut_append` is its one law -/
def cut {α : Type u} [BEq α] (c : α) (b : List α) : List α × List α :=
  ((b.reverse.dropWhile (· != c)).tail.reverse, (b.reverse.takeWhile (· != c)).reverse)

theorem cut_append {α : Type u} [BEq α] [LawfulBEq α] {c : α} {y : List α} (hy : c ∉ y) (a : List α) :
    cut c (a ++ c :: y) = (a, y) := by
  have h : ∀ x ∈ y.reverse, (x != c) = true := fun x hx =>
    bne_iff_ne.mpr fun e => hy (e ▸ List.mem_reverse.mp hx)
  have hc : ¬(c != c) = true := fun e => bne_iff_ne.mp e rfl
  rw [cut, List.reverse_append, List.reverse_cons, List.append_assoc, List.dropWhile_append_of_pos h,
    List.takeWhile_append_of_pos h, List.singleton_append, List.dropWhile_cons_of_neg (p := (· != c)) hc,
    List.takeWhile_cons_of_neg (p := (· != c)) hc, List.tail_cons, List.reverse_reverse, List.append_nil,
    List.reverse_reverse]

/-- `P` answers `res []` on `tail` given `k` units of fuel, and otherwise takes one item printed by `pr`; an item
    prints at least one token, so fuel `k` above the input length does not run out -/
theorem many_print {τ α ρ : Type} (P : Nat → List τ → Option ρ) (pr : α → List τ)
    (res : List α → ρ) (WF : α → Prop) (tail : List τ) (k : Nat) (ne : ∀ a, 0 < (pr a).length)
    (stop : ∀ fuel, P (fuel + k) tail = some (res []))
    (step : ∀ fuel a (l : List α), WF a →
      P fuel (l.flatMap pr ++ tail) = some (res l) →
      P (fuel + 1) (pr a ++ (l.flatMap pr ++ tail)) = some (res (a :: l)))
    (l : List α) (hwf : ∀ a ∈ l, WF a) (fuel : Nat) (hf : (l.flatMap pr ++ tail).length + k ≤ fuel) :
    P fuel (l.flatMap pr ++ tail) = some (res l) := by
  induction l generalizing fuel with
  | nil =>
    obtain ⟨fuel, rfl⟩ := Nat.exists_eq_add_of_le' (Nat.le_of_add_left_le hf)
    exact stop fuel
  | cons a l ih =>
    rw [List.flatMap_cons, List.append_assoc] at hf ⊢
    rw [List.length_append] at hf
    have := ne a
    obtain ⟨fuel, rfl⟩ := Nat.exists_eq_add_of_le' (show 1 ≤ fuel by omega)
    exact step fuel a l (hwf a List.mem_cons_self)
      (ih (fun b hb => hwf b (List.mem_cons_of_mem _ hb)) fuel (by omega))

end EdbVerif.ListAux
