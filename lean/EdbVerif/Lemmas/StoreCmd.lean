/-
The guarded command layer keeps `Inv ∧ NoDangling`; a dropped object is unreachable.
-/
import EdbVerif.Lemmas.StoreOps

namespace EdbVerif.Store

variable {s s' : State} {id : Nat} {c : Cls}

theorem Commit.nodangling {od : Option (List Val)} {d1 : List Val}
    (hc : Commit s s' id c od (some d1)) (hN : NoDangling s)
    (hnew : ∀ f ∈ c.refIdxs, ∀ t ∈ refsAt c f d1, present s t = true) :
    NoDangling s' := by
  intro j c' d' f t hrec hf ht
  have : present s t = true := by
    rcases (hc.rec_iff j c' d').1 hrec with ⟨rfl, hnd, rfl⟩ | ⟨hj, hrec0⟩
    · cases hnd
      exact hnew f hf t ht
    · exact hN j c' d' f t hrec0 hf ht
  rw [hc.present_iff]
  split <;> simp [this]

theorem Commit.nodangling_set {data : List Val} {f : Nat} {v : Val}
    (hc : Commit s s' id c (some data) (some (data.set f v))) (hN : NoDangling s) (hlen : f < data.length)
    (hv : ∀ t ∈ refsOfField c f v, present s t = true) : NoDangling s' := by
  refine hc.nodangling hN fun g hgm t ht => ?_
  by_cases hgf : g = f
  · subst hgf
    rw [refsAt, slot_set_self data g v hlen] at ht
    exact hv t ht
  · rw [refsAt_set_ne c data f g v hgf] at ht
    exact hN id c data g t ⟨hc.hoc, hc.hod⟩ hgm ht

theorem handleOK_of_type (h : mget s.idToType id = some c) :
    handleOK s id c = true := by
  unfold handleOK; rw [h]; simp

theorem deleteAll_char {ds : List Nat} (hI : Inv s) (h : deleteAll s ds = .ok s') :
    Inv s' ∧ (∀ j, mget s'.idToData j = if j ∈ ds then none else mget s.idToData j) ∧
      (∀ j, mget s'.idToType j = if j ∈ ds then none else mget s.idToType j) := by
  induction ds generalizing s with
  | nil =>
    cases h
    simp [hI]
  | cons x xs ih =>
    simp only [deleteAll] at h
    split at h
    · cases h
    · rename_i c ht
      split at h
      · cases h
      · rename_i s1 hdel
        obtain ⟨data, hc⟩ := (delete_outcome hI (handleOK_of_type ht)).ok hdel
        obtain ⟨i1, i2, i3⟩ := ih (hc.inv hI) h
        refine ⟨i1, ?_, ?_⟩
        · intro j
          rw [i2 j, hc.hD j]
          by_cases hjx : j = x
          · simp [hjx]
          · by_cases hjm : j ∈ xs <;> simp [hjx, hjm]
        · intro j
          rw [i3 j, hc.hT j]
          by_cases hjx : j = x
          · simp [hjx]
          · by_cases hjm : j ∈ xs <;> simp [hjx, hjm]

theorem mem_referrers {t r : Nat} : r ∈ referrers s t ↔ ∃ e ∈ s.refsTo, e.tgt = t ∧ e.src = r := by
  unfold referrers
  rw [List.mem_eraseDups, List.mem_map]
  constructor
  · rintro ⟨e, he, rfl⟩
    rw [List.mem_filter] at he
    exact ⟨e, he.1, by simpa using he.2, rfl⟩
  · rintro ⟨e, he, h1, h2⟩
    exact ⟨e, List.mem_filter.2 ⟨he, by simpa using h1⟩, h2⟩

theorem collect_acc {fuel : Nat} {todo acc : List Nat} {x : Nat} (hx : x ∈ acc) :
    x ∈ collect s fuel todo acc := by
  induction fuel generalizing todo acc with
  | zero => simpa [collect] using hx
  | succ n ih =>
    cases todo with
    | nil => simpa [collect] using hx
    | cons y ys =>
      simp only [collect]
      split
      · exact ih hx
      · exact ih (List.mem_cons_of_mem y hx)

theorem mem_dropSet (hp : present s id = true) : id ∈ dropSet s id := by
  unfold dropSet
  simp only [collect, List.contains_nil, hp, Bool.not_true, Bool.or_self, Bool.false_eq_true, ↓reduceIte]
  exact collect_acc List.mem_cons_self

/-- the referrer check of `_delete_finalize` / `_has_outside_references` -/
abbrev closed (s : State) (ds : List Nat) : Bool :=
  ds.all (fun x => (referrers s x).all (fun r => ds.contains r))

theorem referrer_mem_of_closed {ds : List Nat} (hI : Inv s) (hchk : closed s ds = true)
    {j : Nat} {c : Cls} {d : List Val} {f t : Nat} (hrec : Rec s j c d) (hf : f ∈ c.refIdxs)
    (ht : t ∈ refsAt c f d) (htd : t ∈ ds) : j ∈ ds := by
  rw [List.all_eq_true] at hchk
  have h1 := hchk t htd
  rw [List.all_eq_true] at h1
  have he : (⟨t, c, f, j⟩ : Edge) ∈ s.refsTo := (hI.refs ⟨t, c, f, j⟩).2 ⟨d, hrec, hf, ht⟩
  have := h1 j (mem_referrers.2 ⟨_, he, rfl, rfl⟩)
  simpa using this

theorem rec_after_deleteAll {ds : List Nat}
    (hD : ∀ j, mget s'.idToData j = if j ∈ ds then none else mget s.idToData j)
    (hT : ∀ j, mget s'.idToType j = if j ∈ ds then none else mget s.idToType j)
    {j : Nat} {c : Cls} {d : List Val} (h : Rec s' j c d) : j ∉ ds ∧ Rec s j c d := by
  unfold Rec at h ⊢
  rw [hD, hT] at h
  by_cases hj : j ∈ ds
  · simp [hj] at h
  · simpa [hj] using h

theorem deleteAll_keeps {ds : List Nat} (hI : Inv s) (hN : NoDangling s)
    (hchk : closed s ds = true) (h : deleteAll s ds = .ok s') : Inv s' ∧ NoDangling s' := by
  obtain ⟨hI', hD, hT⟩ := deleteAll_char hI h
  refine ⟨hI', fun j c d f t hrec hf ht => ?_⟩
  obtain ⟨hj, hrec0⟩ := rec_after_deleteAll hD hT hrec
  have htd : t ∉ ds := fun htd => hj (referrer_mem_of_closed hI hchk hrec0 hf ht htd)
  have := hN j c d f t hrec0 hf ht
  unfold present at this ⊢
  rw [hD t, if_neg htd]
  exact this

theorem deleteAll_unreachable {ds : List Nat} (hI : Inv s)
    (hchk : closed s ds = true) (h : deleteAll s ds = .ok s') {id : Nat} (hmem : id ∈ ds) :
    Unreachable s' id := by
  obtain ⟨hI', hD, hT⟩ := deleteAll_char hI h
  have norec : ∀ c d, ¬ Rec s' id c d := fun c d h => (rec_after_deleteAll hD hT h).1 hmem
  refine ⟨by rw [hD, if_pos hmem], by rw [hT, if_pos hmem], ?_, ?_, ?_, ?_, ?_⟩
  · intro n hn
    obtain ⟨c, d, hrec, _⟩ := hI'.names.q_name n id hn
    exact norec c d hrec
  · rintro ⟨c, n⟩ hn
    obtain ⟨d, hrec, _⟩ := hI'.names.g_name c n id hn
    exact norec c d hrec
  · intro c n hn
    obtain ⟨d, _, hrec, _⟩ := hI'.names.s_name c n id hn
    exact norec c d hrec
  · intro e he hsrc
    obtain ⟨d, hrec, _⟩ := (hI'.refs e).1 he
    rw [hsrc] at hrec
    exact norec _ d hrec
  · intro e he htgt
    obtain ⟨d, hrec, hf, ht'⟩ := (hI'.refs e).1 he
    obtain ⟨hj, hrec0⟩ := rec_after_deleteAll hD hT hrec
    exact hj (referrer_mem_of_closed hI hchk hrec0 hf ht' (htgt ▸ hmem))

theorem of_drop_ok (h : runCmd s (.drop id) = .ok s') :
    id ∈ dropSet s id ∧ deleteAll s (dropSet s id) = .ok s' ∧ closed s (dropSet s id) = true := by
  simp only [runCmd] at h
  split at h
  · cases h
  · rename_i hp
    split at h
    · exact ⟨mem_dropSet (by simpa using hp), h, by assumption⟩
    · cases h

theorem of_dropUnused_ok (h : runCmd s (.dropUnused id) = .ok s') :
    s' = s ∨ deleteAll s [id] = .ok s' ∧ closed s [id] = true := by
  simp only [runCmd] at h
  split at h
  · cases h; exact .inl rfl
  · split at h
    · exact .inr ⟨h, by assumption⟩
    · cases h; exact .inl rfl

theorem runCmd_keeps {cmd : Cmd} (hI : Inv s) (hN : NoDangling s)
    (h : runCmd s cmd = .ok s') : Inv s' ∧ NoDangling s' := by
  cases cmd with
  | create id c data =>
    simp only [runCmd] at h
    split at h
    · rename_i hg
      have hc := (addRaw_outcome hI).ok h
      exact ⟨hc.inv hI, hc.nodangling hN fun f hf t ht =>
        List.all_eq_true.1 hg t (List.mem_flatMap.2 ⟨f, hf, ht⟩)⟩
    · cases h
  | alter id ups =>
    simp only [runCmd] at h
    split at h
    · cases h
    · rename_i c ht
      split at h
      · rename_i hg
        simp only [Bool.and_eq_true, decide_eq_true_eq] at hg
        rcases (updateObj_outcome hI ht hg.1).ok h with rfl | ⟨data, data1, hc, l1, l2⟩
        · exact ⟨hI, hN⟩
        · refine ⟨hc.inv hI, hc.nodangling hN fun f hf t ht' => ?_⟩
          by_cases hm : f ∈ ups.map (·.1)
          · obtain ⟨p, hp, rfl⟩ := List.mem_map.1 hm
            rw [refsAt, l2 p.1 p.2 hp] at ht'
            exact List.all_eq_true.1 (List.all_eq_true.1 hg.2 p hp) t ht'
          · rw [refsAt, l1 f hm] at ht'
            exact hN id c data f t ⟨ht, hc.hod⟩ hf ht'
      · cases h
  | setf id f v =>
    simp only [runCmd] at h
    split at h
    · cases h
    · rename_i c ht
      split at h
      · rename_i hg
        obtain ⟨c', data, hlen, hc⟩ := (setField_outcome hI).ok h
        cases ht.symm.trans hc.hoc
        exact ⟨hc.inv hI, hc.nodangling_set hN hlen (List.all_eq_true.1 hg)⟩
      · cases h
  | unsetf id f =>
    rcases (unsetField_outcome hI).ok h with rfl | ⟨c, data, hlen, hc⟩
    · exact ⟨hI, hN⟩
    · refine ⟨hc.inv hI, hc.nodangling_set hN hlen fun t ht => ?_⟩
      rw [refsOfField_nil] at ht
      cases ht
  | drop id =>
    obtain ⟨_, h, hchk⟩ := of_drop_ok h
    exact deleteAll_keeps hI hN hchk h
  | dropUnused id =>
    rcases of_dropUnused_ok h with rfl | ⟨h, hchk⟩
    · exact ⟨hI, hN⟩
    · exact deleteAll_keeps hI hN hchk h

theorem drop_unreachable (hI : Inv s)
    (h : runCmd s (.drop id) = .ok s') : Unreachable s' id :=
  let ⟨hmem, h, hchk⟩ := of_drop_ok h
  deleteAll_unreachable hI hchk h hmem

theorem dropUnused_keeps_used {j : Nat} {d : List Val} {f : Nat} (hI : Inv s)
    (hj : j ≠ id) (hrec : Rec s j c d) (hf : f ∈ c.refIdxs) (ht : id ∈ refsAt c f d) :
    runCmd s (.dropUnused id) = .ok s := by
  simp only [runCmd]
  split
  · rfl
  · split
    · rename_i hchk
      exact absurd (by simpa using referrer_mem_of_closed hI hchk hrec hf ht (List.mem_singleton.2 rfl)) hj
    · rfl

theorem dropUnused_unreachable (hI : Inv s)
    (h : runCmd s (.dropUnused id) = .ok s') : s' = s ∨ Unreachable s' id :=
  (of_dropUnused_ok h).imp_right fun ⟨h, hchk⟩ => deleteAll_unreachable hI hchk h List.mem_cons_self

theorem applyCmd_keeps {cmd : Cmd} (hI : Inv s) (hN : NoDangling s) :
    Inv (applyCmd s cmd).1 ∧ NoDangling (applyCmd s cmd).1 := by
  unfold applyCmd
  split
  · rename_i s' h; exact runCmd_keeps hI hN h
  · exact ⟨hI, hN⟩

theorem runCmds_keeps (cmds : List Cmd) (hI : Inv s) (hN : NoDangling s) :
    Inv (runCmds cmds s) ∧ NoDangling (runCmds cmds s) :=
  cmds.foldlRecOn (motive := fun s => Inv s ∧ NoDangling s) _ ⟨hI, hN⟩ fun _ h _ _ => applyCmd_keeps h.1 h.2

theorem nodangling_empty : NoDangling State.empty :=
  fun _ _ _ _ _ hrec => nomatch hrec.1

end EdbVerif.Store
