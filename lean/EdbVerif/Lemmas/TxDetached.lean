/-
C09, the detached shapes: COMMIT / ROLLBACK compiled (the compiler has swapped in a fresh
implicit `Transaction`) and then failing in the backend while the backend stays in the block,
with the server holding a savepoint id.  The next `compile_in_tx` re-attaches the transaction
that declared the savepoint (`sync_tx → sync_to_savepoint: self._current_tx = sp.tx`).
-/
import EdbVerif.Lemmas.TxProto

namespace EdbVerif.Tx

/-- the statement that detaches: COMMIT failing in place, or ROLLBACK failing -/
def SEv.detaching (e : SEv) : Bool :=
  match e.stmt with
  | .commit => e.bf && e.stay
  | .rollback => e.bf
  | _ => false

theorem detach_step {S : Server} {c : ConState} {t : Txn} {p : PSpec}
    (hl : S.last = some c) (h : InTx S c t p) (hf : p.failed = false)
    (e : SEv) (hd : e.detaching = true) :
    ∃ c2 t2 pl', NTx S c2 t2 p ∧
      (S.step e).1 = { S with last := some (initCurrentTx c2 pl'), txErr := true } ∧
      (S.step e).2.outcome = .failed ∧ (S.step e).2.against = some p.exposed ∧
      p.step e = (p.abort, .failed) := by
  obtain ⟨c2, t2, hN, hstep⟩ := step_inTx_unfold hl h e
  have her : S.txErr = false := h.pfail ▸ hf
  have hexp : some t2.current.pl = some p.exposed := hN.exposed (by simp [PSpec.healthy, hf])
  have key : ∀ pl' u, compileStmt c2 S.txErr e.cf e.stmt = (initCurrentTx c2 pl', .ok u) →
      u.txId = none → u.spRollback = false → (u.txCommit && !e.stay) = false → e.bf = true →
      (S.step e).1 = { S with last := some (initCurrentTx c2 pl'), txErr := true } ∧
      (S.step e).2.outcome = .failed ∧ (S.step e).2.against = some p.exposed :=
    fun pl' u hc h1 h2 h3 hbf => by
      have hrun := serverRun_failed (S := { S with last := some (initCurrentTx c2 pl') }) h.sin her h1 h2 hbf e.stay
      rw [if_neg (by simp [h3])] at hrun
      rw [hstep, hc, ← hexp]
      simp only [afterCompile]
      rw [if_pos h.sin, hrun]
      exact ⟨rfl, rfl, trivial⟩
  have hspec := fun s (hs : e.stmt = s) => show p.step e = _ by
    rw [PSpec.step, ite_healthy h.pin hf, hs]
  unfold SEv.detaching at hd
  cases hs : e.stmt <;> rw [hs] at hd <;> try exact absurd hd Bool.false_ne_true
  · have hd : e.bf = true ∧ e.stay = true := by simpa using hd
    obtain ⟨ou, og, hc, _⟩ := compileStmt_commit hN.inv1.cur hN.expl e.cf
    obtain ⟨k1, k2, k3⟩ := key _ _ (by rw [hs, her, hc]) rfl rfl (by simp [hd.2]) hd.1
    exact ⟨c2, t2, _, hN, k1, k2, k3, by rw [hspec _ hs, hd.1, hd.2]; rfl⟩
  · have hd : e.bf = true := hd
    obtain ⟨k1, k2, k3⟩ := key _ _ (by rw [hs, compileStmt_rollback hN.inv1.cur]) rfl rfl rfl hd
    exact ⟨c2, t2, _, hN, k1, k2, k3, by rw [hspec _ hs, hd]; rfl⟩

/-- On the detached state `compile_in_tx` takes the `sync_to_savepoint` path and the statement
    runs on a state whose current transaction is the old explicit one again.  `hsp`, `hH`: the
    server's id is a savepoint id and no savepoint was declared after it (`sync_to_savepoint`
    purges every savepoint with a larger id). -/
theorem reattach_prefix {S : Server} {c2 : ConState} {t2 : Txn} {p : PSpec} (hN : NTx S c2 t2 p)
    (pl' : Payload)
    (hsp : ∃ q ∈ S.sps, q.spid = S.txid) (hH : ∀ q ∈ S.sps, q.spid ≤ S.txid)
    {α : Type} (body : ConState → ConState × M α) (esc : M α) :
    ∃ c5 t5, NTx { S with last := some (initCurrentTx c2 pl'), txErr := true } c5 t5
        p.abort ∧
      compileInTxWith (initCurrentTx c2 pl') S.txid S.txAliases S.txConfig true body esc =
        { st := (body c5).1, against := some t5.current.pl, res := (body c5).2 } := by
  obtain ⟨q, hq, hqid⟩ := hsp
  obtain ⟨hqb, sp, hsp, _, hsptx, _, _⟩ := hN.stLog q hq
  rw [hqid] at hsp hqb
  obtain ⟨c4, hap, hc4, hk4, hl4, hn4, hheap4⟩ :=
    applySession_eq _ _ (curTx_initCurrentTx c2 pl') S.txAliases S.txConfig
  have hne : c2.cur ≠ c2.count + 1 := Nat.ne_of_lt (Nat.lt_succ_of_le hN.curBound)
  have hg : getTx c4 sp.tx = some t2 := by
    rw [hsptx, hheap4 _ hne]
    simpa [curTx, getTx, initCurrentTx, List.lookup, beq_false_of_ne hne] using hN.inv1.cur
  have hle1 : ∀ x ∈ t2.sps, x.id ≤ S.txid := fun x hx => by
    obtain ⟨q', hq', hq'id⟩ := hN.live x hx
    rw [← hq'id]; exact hH q' hq'
  have hsp4 : dictGet c4.log S.txid = some sp := by rw [hl4]; exact hsp
  have hs := syncTx_savepoint hc4 (Nat.ne_of_gt (Nat.lt_succ_of_le hqb)) hsp4 hg hle1
  refine ⟨_, _, ⟨hN.toInTx.resync hl4 (by rw [hn4]; exact Nat.le_succ _) hsptx hle1 hH rfl rfl rfl nofun,
    rfl, nofun, nofun, nofun⟩, ?_⟩
  rw [compileInTxWith_eq hap hc4 (by simp [dictHas_eq, hsp4]) hs]
  simp [curPayload, curTx, getTx, setTx]

theorem detached_rescue {S : Server} {p : PSpec} (hR : Rel S p) (hin : S.inTx = true)
    (hf : p.failed = false) (e1 : SEv) (hd : e1.detaching = true)
    (hsp : ∃ q ∈ S.sps, q.spid = S.txid) (hH : ∀ q ∈ S.sps, q.spid ≤ S.txid)
    (e2 : SEv) (he2 : e2.stmt = .rollback ∨ ∃ n, e2.stmt = .rollbackTo n) :
    (S.step e1).2.agrees { cls := (p.step e1).2, exposed := p.exposed, healthy := p.healthy } ∧
    ((S.step e1).1.step e2).2.agrees
      { cls := ((p.step e1).1.step e2).2, exposed := (p.step e1).1.exposed,
        healthy := (p.step e1).1.healthy } ∧
    (((S.step e1).1.step e2).2.outcome = .ok →
      Rel ((S.step e1).1.step e2).1 ((p.step e1).1.step e2).1) := by
  obtain ⟨c, t, hl, h⟩ := hR.inTx hin
  obtain ⟨c2, t2, pl', hN, hS1, ho1, ha1, hspec1⟩ := detach_step hl h hf e1 hd
  refine ⟨?_, ?_⟩
  · unfold SOut.agrees
    rw [ho1, ha1, hspec1]
    exact ⟨rfl, fun _ _ => rfl⟩
  rw [hS1, hspec1]
  obtain ⟨c5, t5, hN5, heq⟩ := reattach_prefix hN pl' hsp hH
    (fun c => compileStmt c true e2.cf e2.stmt) (tryCompileRollback e2.stmt)
  rw [step_of_prefix (S := { S with last := some (initCurrentTx c2 pl'), txErr := true })
    hin rfl e2 c5 (some t5.current.pl) heq]
  refine Sim.sound hN5.exposed ?_
  rcases he2 with hs | ⟨n, hs⟩
  · exact stepOk_rollback_inTx hN5 e2 hs nofun
  · exact stepOk_rollbackTo_inTx hN5 e2 n hs

end EdbVerif.Tx
