/-
C08 — lemmas about capability sets: `sub` as the bitwise order and the `& ~allowed` test, group aggregation as
its join, single flags (`twoPow`), and `make_error` against `named`, the union of the named flags.
-/
import EdbVerif.Model.Caps

namespace EdbVerif.Caps
open EdbVerif.Gen.Caps

/-- vocabulary of the statements of Props/C08 -/
def named : Caps := MODIFICATIONS ||| SESSION_CONFIG ||| TRANSACTION ||| DDL ||| PERSISTENT_CONFIG

theorem and_not_eq_zero_iff {w : Nat} (c a : BitVec w) : c &&& ~~~a = 0#w ↔ c &&& a = c := by
  constructor
  · intro h
    -- c = c ∩ (a ∪ ¬a) = (c ∩ a) ∪ (c ∩ ¬a)
    have : c &&& (a ||| ~~~a) = c := by rw [BitVec.or_not_self, BitVec.and_allOnes]
    rwa [BitVec.and_or_distrib_left, h, BitVec.or_zero] at this
  · intro h
    rw [← h, BitVec.and_assoc, BitVec.and_not_self]
    exact BitVec.and_zero

theorem exceeds_false_iff (c allowed : Caps) : exceeds c allowed = false ↔ sub c allowed :=
  bne_eq_false_iff_eq.trans (and_not_eq_zero_iff c allowed)

theorem sub_iff_bits {c a : Caps} : sub c a ↔ ∀ i, c.getLsbD i = true → a.getLsbD i = true := by
  simp only [sub, BitVec.eq_of_getLsbD_eq_iff, BitVec.getLsbD_and, Bool.and_eq_left_iff_imp]
  exact ⟨fun h i hc => h i (BitVec.lt_of_getLsbD hc) hc, fun h i _ => h i⟩

theorem sub_refl (c : Caps) : sub c c := BitVec.and_self

theorem sub_trans {a b c : Caps} (h1 : sub a b) (h2 : sub b c) : sub a c := by
  unfold sub at *
  rw [← h1, BitVec.and_assoc, h2]

theorem foldl_or (us : List Caps) (g : Caps) :
    us.foldl Group.append g = g ||| us.foldl Group.append 0#64 := by
  induction us generalizing g with
  | nil => simp
  | cons u us ih =>
    simp only [List.foldl_cons]
    rw [ih, ih (Group.append 0#64 u)]
    simp only [Group.append, BitVec.zero_or, BitVec.or_assoc]

theorem groupCaps_nil : groupCaps [] = 0#64 := rfl

theorem groupCaps_append (us vs : List Caps) : groupCaps (us ++ vs) = groupCaps us ||| groupCaps vs := by
  rw [groupCaps, List.foldl_append, foldl_or]; rfl

theorem groupCaps_cons (u : Caps) (us : List Caps) : groupCaps (u :: us) = u ||| groupCaps us := by
  rw [← List.singleton_append, groupCaps_append]
  simp only [groupCaps, List.foldl, Group.append, BitVec.zero_or]

theorem groupCaps_bit (us : List Caps) (i : Nat) :
    (groupCaps us).getLsbD i = us.any (·.getLsbD i) := by
  induction us with
  | nil => exact BitVec.getLsbD_zero
  | cons u us ih => rw [groupCaps_cons, BitVec.getLsbD_or, ih, List.any_cons]

theorem groupCaps_sub_iff {us : List Caps} {a : Caps} : sub (groupCaps us) a ↔ ∀ u ∈ us, sub u a := by
  simp only [sub_iff_bits, groupCaps_bit, List.any_eq_true]
  exact ⟨fun h u hu i hi => h i ⟨u, hu, hi⟩, fun h i ⟨u, hu, hi⟩ => h u hu i hi⟩

theorem twoPow_ne_zero {k : Nat} (hk : k < 64) : BitVec.twoPow 64 k ≠ 0#64 := fun h =>
  Nat.ne_of_gt (Nat.two_pow_pos k) ((BitVec.toNat_twoPow_of_lt hk).symm.trans (congrArg BitVec.toNat h))

theorem twoPow_and_ne_zero {k : Nat} (hk : k < 64) (c : Caps) :
    BitVec.twoPow 64 k &&& c ≠ 0#64 ↔ c.getLsbD k = true := by
  rw [BitVec.twoPow_and]
  split
  · next h => exact iff_of_true (twoPow_ne_zero hk) h
  · next h => exact iff_of_false (fun h0 => h0 rfl) h

theorem sub_twoPow {k : Nat} (hk : k < 64) (c : Caps) :
    sub (BitVec.twoPow 64 k) c ↔ c.getLsbD k = true := by
  rw [sub, BitVec.twoPow_and]
  split
  · next h => exact iff_of_true rfl h
  · next h => exact iff_of_false (twoPow_ne_zero hk).symm h

theorem sub_twoPow_group {k : Nat} (hk : k < 64) (us : List Caps) :
    sub (BitVec.twoPow 64 k) (groupCaps us) ↔ ∃ u ∈ us, sub (BitVec.twoPow 64 k) u := by
  simp only [sub_twoPow hk, groupCaps_bit, List.any_eq_true]

theorem modifications_group (us : List Caps) :
    sub MODIFICATIONS (groupCaps us) ↔ ∃ u ∈ us, sub MODIFICATIONS u :=
  sub_twoPow_group (k := 0) (by decide) us

theorem reported_iff {c a f : Caps} :
    (!(f &&& a != 0#64) && (c &&& f != 0#64)) = true ↔ f &&& a = 0#64 ∧ c &&& f ≠ 0#64 :=
  Bool.and_eq_true_iff.trans
    (and_congr ((Bool.not_eq_true' _).to_iff.trans bne_eq_false_iff_eq) bne_iff_ne)

/-- when `make_error` produces a message it names a flag that the statement uses and that is not
allowed -/
theorem makeError_some {c a : Caps} {t : String} (h : makeError c a = some t) :
    ∃ it ∈ items, it.2.2 = t ∧ it.2.1 &&& a = 0#64 ∧ c &&& it.2.1 ≠ 0#64 := by
  obtain ⟨it, hf, ht⟩ := Option.map_eq_some_iff.mp h
  have hp := List.find?_some hf
  exact ⟨it, List.mem_of_find?_eq_some hf, ht, reported_iff.mp hp⟩

/-- `make_error` falls through to its `AssertionError` only when no named flag is both used and
disallowed -/
theorem makeError_none {c a : Caps} (h : makeError c a = none) :
    ∀ it ∈ items, it.2.1 &&& a ≠ 0#64 ∨ c &&& it.2.1 = 0#64 := fun it hit =>
  have := mt reported_iff.mpr (List.find?_eq_none.mp (Option.map_eq_none_iff.mp h) it hit)
  (Decidable.not_and_iff_not_or_not.mp this).imp_right Decidable.of_not_not

theorem named_bit_item {i : Nat} (h : named.getLsbD i = true) :
    i < 64 ∧ ∃ it ∈ items, it.2.1 = BitVec.twoPow 64 i := by
  -- a set bit `i` gives `2 ^ i ≤ named`, and `named < 2 ^ 5`
  have hi : i < 5 := (Nat.pow_lt_pow_iff_right (by decide)).mp
    (Nat.lt_of_le_of_lt (Nat.ge_two_pow_of_testBit h) (by decide : named.toNat < 2 ^ 5))
  exact ⟨Nat.lt_trans hi (by decide), (by decide +kernel : ∀ k < 5, ∃ it ∈ items, it.2.1 = BitVec.twoPow 64 k) i hi⟩

/-- For capability sets made of named flags (everything the compiler produces), the
`caps & ~allowed` test fires exactly when `make_error` finds a flag to report. -/
theorem makeError_complete {c a : Caps} (hc : sub c named) (hex : exceeds c a = true) :
    (makeError c a).isSome = true := by
  apply Option.isSome_iff_ne_none.mpr
  intro hm
  have hsub : sub c a := sub_iff_bits.mpr fun i hi => by
    obtain ⟨hi64, it, hit, hf⟩ := named_bit_item (sub_iff_bits.mp hc i hi)
    rcases makeError_none hm it hit with h | h
    · rwa [hf, twoPow_and_ne_zero hi64] at h
    · rw [hf, BitVec.and_comm] at h
      exact absurd h ((twoPow_and_ne_zero hi64 c).mpr hi)
  rw [(exceeds_false_iff c a).mpr hsub] at hex
  cases hex

theorem makeError_sound {c a : Caps} {t : String} (h : makeError c a = some t) : exceeds c a = true := by
  obtain ⟨it, _, _, h1, h2⟩ := makeError_some h
  apply Bool.of_not_eq_false
  intro he
  -- c ⊆ a and it ∩ a = ∅  ⇒  c ∩ it = ∅
  have hs : c &&& a = c := (exceeds_false_iff c a).mp he
  apply h2
  rw [← hs, BitVec.and_assoc, BitVec.and_comm a, h1]
  exact BitVec.and_zero

end EdbVerif.Caps
