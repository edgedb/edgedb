/-
`Duration(to_iso8601(d)) == d` and `Duration.from_iso8601(to_iso8601(d)) == d`
for every integer number of microseconds (negative values included); and both
constructors reject every text without a digit (`NoDigit`, up to `noDigit_rejected`).
-/
import EdbVerif.Lemmas.DurationDigits
namespace EdbVerif.Duration

def negPre (neg : Bool) : List Char := if neg then ['-'] else []
/-- the sign, printed on every component, is a common factor -/
def sgn (neg : Bool) (n : Nat) : Int := (n : Int) * (if neg then -1 else 1)

theorem not_digit_of_mem (c : Char) (h : c ∈ ['H', 'M', 'S', '.']) : isDigit c = false := by
  simp at h; rcases h with h | h | h | h <;> subst h <;> decide

theorem optSign_pre (neg : Bool) (n : Nat) (rest : List Char) :
    optSign (negPre neg ++ (natDigits n ++ rest)) = (neg, natDigits n ++ rest) := by
  cases neg with
  | true => simp [negPre, optSign]
  | false =>
    obtain ⟨d, r, hd⟩ := List.exists_cons_of_ne_nil (natDigits_ne_nil n)
    have hdig := natDigits_isDigit n d (by simp [hd])
    simp only [negPre, hd, Bool.false_eq_true, if_false, List.nil_append, List.cons_append]
    unfold optSign
    split
    · rename_i heq; cases heq; exact absurd hdig (by decide)
    · rename_i heq; cases heq; exact absurd hdig (by decide)
    · rfl

theorem signedDigits_pre (neg : Bool) (n : Nat) (c : Char) (rest : List Char)
    (hc : isDigit c = false) :
    signedDigits (negPre neg ++ (natDigits n ++ c :: rest)) = some (sgn neg n, c :: rest) := by
  cases neg <;> simp [signedDigits, optSign_pre, span_natDigits n c rest hc, natDigits_isEmpty,
    digitsToNat_natDigits, sgn]

theorem optComp_num (u c : Char) (neg : Bool) (n : Nat) (rest : List Char) (hc : isDigit c = false) :
    optComp u (negPre neg ++ (natDigits n ++ c :: rest)) =
      if c = u then (some (sgn neg n), rest) else (none, negPre neg ++ (natDigits n ++ c :: rest)) := by
  simp [optComp, signedDigits_pre neg n c rest hc]

theorem optComp_nil (u : Char) : optComp u [] = (none, []) := by
  simp [optComp, signedDigits, optSign]

theorem optSec_nil : optSec [] = (none, []) := by
  simp [optSec, optSign]

theorem optSec_int (neg : Bool) (n : Nat) (rest : List Char) :
    optSec (negPre neg ++ (natDigits n ++ 'S' :: rest)) =
      (some ((n : Int) * 1000000 * (if neg then -1 else 1)), rest) := by
  simp [optSec, optSign_pre, span_natDigits n 'S' rest (by decide), natDigits_isEmpty,
    digitsToNat_natDigits]

theorem optSec_frac (neg : Bool) (n : Nat) (fs rest : List Char)
    (hfs : ∀ c ∈ fs, isDigit c = true) (hne : fs ≠ []) :
    optSec (negPre neg ++ (natDigits n ++ '.' :: (fs ++ 'S' :: rest))) =
      (some ((n : Int) * 1000000 * (if neg then -1 else 1) +
             (digitsToNat (ljust 6 (fs.take 6)) : Int) * (if neg then -1 else 1)), rest) := by
  simp [optSec, optSign_pre, span_natDigits n '.' _ (by decide), natDigits_isEmpty,
    digitsToNat_natDigits, span_digits fs 'S' rest hfs (by decide), hne]

theorem eq_rstrip0_append_zeros (l : List Char) :
    ∃ k, l = rstrip0 l ++ List.replicate k '0' := by
  refine ⟨(l.reverse.takeWhile (· == '0')).length, ?_⟩
  -- the stripped suffix, reversed, is the block of zeros `takeWhile` finds
  have h : l.reverse.takeWhile (· == '0') = List.replicate (l.reverse.takeWhile (· == '0')).length '0' :=
    List.eq_replicate_iff.2 ⟨rfl, fun c hc => by simpa using List.all_eq_true.1 List.all_takeWhile c hc⟩
  rw [rstrip0, ← List.reverse_replicate, ← h, ← List.reverse_append, List.takeWhile_append_dropWhile,
    List.reverse_reverse]

theorem rstrip0_mem (l : List Char) (c : Char) (h : c ∈ rstrip0 l) : c ∈ l := by
  unfold rstrip0 at h
  have := List.dropWhile_sublist (p := (· == '0')) (l := l.reverse) |>.subset (List.mem_reverse.mp h)
  simpa using this

/-- the six fraction digits as printed (`str(usecs).rjust(6,'0')[:6]`) -/
def frac6 (u : Nat) : List Char := (rjust6 (natDigits u)).take 6

theorem frac6_eq (u : Nat) (hu : u < 1000000) :
    frac6 u = List.replicate (6 - (natDigits u).length) '0' ++ natDigits u ∧ (frac6 u).length = 6 := by
  have hl : (natDigits u).length ≤ 6 := natDigits_length_le u 5 (by simpa using hu)
  have hlen : (rjust6 (natDigits u)).length = 6 := by simp [rjust6]; omega
  unfold frac6
  rw [List.take_of_length_le (by omega)]
  exact ⟨rfl, hlen⟩

theorem frac6_value (u : Nat) (hu : u < 1000000) : digitsToNat (frac6 u) = u := by
  rw [(frac6_eq u hu).1, digitsToNat_replicate_zero, digitsToNat_natDigits]

theorem frac6_digits (u : Nat) (hu : u < 1000000) : ∀ c ∈ frac6 u, isDigit c = true := by
  intro c hc
  rw [(frac6_eq u hu).1] at hc
  simp at hc
  rcases hc with ⟨_, rfl⟩ | hc
  · decide
  · exact natDigits_isDigit u c hc

theorem ljust_rstrip0 (l : List Char) : ljust l.length ((rstrip0 l).take l.length) = l := by
  obtain ⟨k, hk⟩ := eq_rstrip0_append_zeros l
  have hlen : l.length = (rstrip0 l).length + k := by
    rw [← List.length_replicate (n := k) (a := '0'), ← List.length_append, ← hk]
  rw [List.take_of_length_le (Nat.le.intro hlen.symm), ljust, hlen, Nat.add_sub_cancel_left]
  exact hk.symm

theorem digitsToNat_of_rstrip0_nil (l : List Char) (h : rstrip0 l = []) : digitsToNat l = 0 := by
  obtain ⟨k, hk⟩ := eq_rstrip0_append_zeros l
  rw [h] at hk
  exact digitsToNat_all_zero l fun c hc => by
    rw [hk] at hc
    exact (List.mem_replicate.1 (by simpa using hc)).2

theorem frac_roundtrip (u : Nat) (hu : u < 1000000) (h0 : u ≠ 0) :
    (∀ c ∈ rstrip0 (frac6 u), isDigit c = true) ∧ rstrip0 (frac6 u) ≠ [] ∧
      digitsToNat (ljust 6 ((rstrip0 (frac6 u)).take 6)) = u := by
  refine ⟨fun c hc => frac6_digits u hu c (rstrip0_mem _ c hc), fun hnil => ?_, ?_⟩
  · exact h0 ((frac6_value u hu).symm.trans (digitsToNat_of_rstrip0_nil _ hnil))
  · have := ljust_rstrip0 (frac6 u)
    rw [(frac6_eq u hu).2] at this
    rw [this, frac6_value u hu]

theorem atEnd_nil : atEnd [] = true := rfl

/-- one optional `H`/`M` component as printed -/
def compStr (u : Char) (neg : Bool) (n : Nat) : List Char :=
  if n != 0 then negPre neg ++ natDigits n ++ [u] else []

/-- the seconds component as printed -/
def secStr (neg : Bool) (seconds usecs : Nat) : List Char :=
  if seconds != 0 || usecs != 0 then
    (if usecs != 0 then negPre neg ++ natDigits seconds ++ ['.'] ++ rstrip0 (frac6 usecs)
     else negPre neg ++ natDigits seconds) ++ ['S']
  else []

def isoBody (neg : Bool) (a : Nat) : List Char :=
  compStr 'H' neg (a / 1000000 / 60 / 60) ++ compStr 'M' neg (a / 1000000 / 60 % 60) ++
    secStr neg (a / 1000000 % 60) (a % 1000000)

theorem toIso_eq (us : Int) :
    toIso us = if (isoBody (decide (us < 0)) us.natAbs).isEmpty then "PT0S".toList
      else 'P' :: 'T' :: isoBody (decide (us < 0)) us.natAbs := by
  unfold toIso isoBody compStr secStr negPre frac6
  by_cases h : us < 0 <;> simp only [h, decide_true, decide_false, if_true] <;> rfl

theorem body_eq_nil (neg : Bool) (H M S U : Nat) :
    compStr 'H' neg H ++ compStr 'M' neg M ++ secStr neg S U = [] ↔ H = 0 ∧ M = 0 ∧ S = 0 ∧ U = 0 := by
  simp [compStr, secStr]

theorem parseIso_PT {r0 r1 r2 r3 : List Char} {h m sec : Option Int}
    (h1 : optComp 'H' r0 = (h, r1)) (h2 : optComp 'M' r1 = (m, r2)) (h3 : optSec r2 = (sec, r3))
    (he : atEnd r3 = true) (hsome : (h.isNone && m.isNone && sec.isNone) = false) :
    parseIso ('P' :: 'T' :: r0) = some (h.getD 0 * 3600000000 + m.getD 0 * 60000000 + sec.getD 0) := by
  simp [parseIso, h1, h2, h3, he, hsome]

theorem optComp_compStr (u : Char) (neg : Bool) (n : Nat) (rest : List Char)
    (hu : isDigit u = false) (hmiss : optComp u rest = (none, rest)) :
    optComp u (compStr u neg n ++ rest) = (if n = 0 then none else some (sgn neg n), rest) := by
  unfold compStr
  by_cases hn : n = 0
  · simp [hn, hmiss]
  · simp [hn, optComp_num u u neg n rest hu]

theorem optComp_compStr_miss (u v : Char) (neg : Bool) (n : Nat) (rest : List Char)
    (hv : isDigit v = false) (hne : v ≠ u) (hmiss : optComp u rest = (none, rest)) :
    optComp u (compStr v neg n ++ rest) = (none, compStr v neg n ++ rest) := by
  unfold compStr
  by_cases hn : n = 0
  · simp [hn, hmiss]
  · simp [hn, optComp_num u v neg n rest hv, hne]

theorem optComp_secStr (u : Char) (h1 : '.' ≠ u) (h2 : 'S' ≠ u) (neg : Bool) (seconds usecs : Nat) :
    optComp u (secStr neg seconds usecs) = (none, secStr neg seconds usecs) := by
  unfold secStr
  split
  · split
    · simpa [h1] using optComp_num u '.' neg seconds (rstrip0 (frac6 usecs) ++ ['S']) (by decide)
    · simpa [h2] using optComp_num u 'S' neg seconds [] (by decide)
  · exact optComp_nil u

theorem optSec_secStr (neg : Bool) (seconds usecs : Nat) (hu : usecs < 1000000) :
    optSec (secStr neg seconds usecs) =
      (if seconds = 0 ∧ usecs = 0 then none else
         some (((seconds : Int) * 1000000 + usecs) * (if neg then -1 else 1)), []) := by
  unfold secStr
  by_cases hz : usecs = 0
  · by_cases hs : seconds = 0
    · simp [hz, hs, optSec_nil]
    · simpa [hz, hs] using optSec_int neg seconds []
  · obtain ⟨h1, h2, h3⟩ := frac_roundtrip usecs hu hz
    have := optSec_frac neg seconds (rstrip0 (frac6 usecs)) [] h1 h2
    rw [h3] at this
    simp [hz, this, Int.add_mul]

theorem getD_guard {c : Prop} [Decidable c] {v : Int} (h : c → v = 0) :
    (if c then none else some v).getD 0 = v := by
  split <;> simp_all

theorem parseIso_body (neg : Bool) (H M S U : Nat) (hU : U < 1000000)
    (hne : ¬(H = 0 ∧ M = 0 ∧ S = 0 ∧ U = 0)) :
    parseIso ('P' :: 'T' :: (compStr 'H' neg H ++ compStr 'M' neg M ++ secStr neg S U)) =
      some (sgn neg (1000000 * (60 * (60 * H + M) + S) + U)) := by
  have mM := optComp_secStr 'M' (by decide) (by decide) neg S U
  have mH := optComp_compStr_miss 'H' 'M' neg M _ (by decide) (by decide)
    (optComp_secStr 'H' (by decide) (by decide) neg S U)
  rw [List.append_assoc, parseIso_PT (optComp_compStr 'H' neg H _ (by decide) mH)
    (optComp_compStr 'M' neg M _ (by decide) mM) (optSec_secStr neg S U hU) atEnd_nil]
  · rw [getD_guard, getD_guard, getD_guard]
    · unfold sgn
      rw [Int.mul_right_comm, Int.mul_right_comm (M : Int), ← Int.add_mul, ← Int.add_mul]
      refine congrArg (fun x => some (x * _)) ?_
      omega
    · rintro ⟨rfl, rfl⟩; simp
    · rintro rfl; simp [sgn]
    · rintro rfl; simp [sgn]
  · simpa [apply_ite Option.isNone, and_assoc] using hne

theorem parseIso_toIso (us : Int) : parseIso (toIso us) = some us := by
  by_cases h0 : us = 0
  · subst h0; decide
  rw [toIso_eq]
  generalize hneg : decide (us < 0) = neg
  generalize ha : us.natAbs = a
  have hus : us = sgn neg a := by
    subst hneg ha
    by_cases h : us < 0 <;> simp [sgn, h] <;> omega
  unfold isoBody
  -- name the six quotients and remainders, then eliminate `a` and the two intermediate quotients by
  -- their `div_add_mod` equations: `a` becomes the polynomial in `H M S U` of `parseIso_body`
  have hU := Nat.mod_lt a (show 1000000 > 0 by decide)
  have h1 := Nat.div_add_mod a 1000000
  have h2 := Nat.div_add_mod (a / 1000000) 60
  have h3 := Nat.div_add_mod (a / 1000000 / 60) 60
  generalize a / 1000000 / 60 / 60 = H at *
  generalize a / 1000000 / 60 % 60 = M at *
  generalize a / 1000000 / 60 = Mn at *
  generalize a / 1000000 % 60 = S at *
  generalize a / 1000000 = Sn at *
  generalize a % 1000000 = U at *
  subst h3 h2 h1
  have hne : ¬(H = 0 ∧ M = 0 ∧ S = 0 ∧ U = 0) := by
    rintro ⟨rfl, rfl, rfl, rfl⟩
    exact h0 (by simpa [sgn] using hus)
  have hb : (compStr 'H' neg H ++ compStr 'M' neg M ++ secStr neg S U).isEmpty = false := by
    rw [List.isEmpty_eq_false_iff, ne_eq, body_eq_nil]; exact hne
  rw [hb, hus]
  exact parseIso_body neg H M S U hU hne

theorem dropWhile_snoc {α : Type} {p : α → Bool} (c : α) (hc : p c = false) (y : List α) :
    ∃ z, (y ++ [c]).dropWhile p = z ++ [c] := by
  induction y with
  | nil => exact ⟨[], by simp [hc]⟩
  | cons a y ih =>
    by_cases ha : p a = true
    · obtain ⟨z, hz⟩ := ih
      exact ⟨z, by simp [ha, hz]⟩
    · exact ⟨a :: y, by simp [ha]⟩

theorem pyInt_P (r : List Char) : pyInt ('P' :: r) = none := by
  unfold pyInt
  have h1 : ('P' :: r).dropWhile isCSpace = 'P' :: r := by
    simp [List.dropWhile, show isCSpace 'P' = false by decide]
  obtain ⟨z, hz⟩ := dropWhile_snoc (p := isCSpace) 'P' (by decide) r.reverse
  have h2 : (('P' :: r).reverse.dropWhile isCSpace).reverse = 'P' :: z.reverse := by
    rw [List.reverse_cons, hz]; simp
  simp only [h1, h2]
  simp [optSign, pyIntBody, show isDigit 'P' = false by decide]

theorem matchSimple_P (r : List Char) : matchSimple ('P' :: r) = none := by
  unfold matchSimple
  have h1 : dropWs ('P' :: r) = 'P' :: r := by
    simp [dropWs, List.dropWhile, show isWs 'P' = false by decide]
  simp [h1, optSign, show isDigit 'P' = false by decide]

/-- whatever `from_iso8601` reads, `Duration(text)` reads alike: the two parsers
    tried first reject a text starting with `P` -/
theorem usFromPgText_of_parseIso (s : List Char) (v : Int) (h : parseIso s = some v) :
    usFromPgText s = .ok v := by
  obtain ⟨r, rfl⟩ : ∃ r, s = 'P' :: r := by
    unfold parseIso at h
    split at h
    · exact ⟨_, rfl⟩
    · cases h
  unfold usFromPgText
  rw [pyInt_P, matchSimple_P, h]

theorem usFromPgText_toIso (us : Int) : usFromPgText (toIso us) = .ok us :=
  usFromPgText_of_parseIso _ _ (parseIso_toIso us)

theorem fromIso_toIso (us : Int) : fromIso (toIso us) = .ok us := by
  unfold fromIso; rw [parseIso_toIso]

def NoDigit (l : List Char) : Prop := ∀ c ∈ l, isDigit c = false

theorem NoDigit.dropWhile {l : List Char} (h : NoDigit l) (p : Char → Bool) : NoDigit (l.dropWhile p) :=
  fun c hc => h c ((List.dropWhile_sublist p).subset hc)

theorem NoDigit.reverse {l : List Char} (h : NoDigit l) : NoDigit l.reverse :=
  fun c hc => h c (List.mem_reverse.mp hc)

theorem NoDigit.optSign_snd {l : List Char} (h : NoDigit l) : NoDigit (optSign l).2 := by
  unfold optSign
  split
  · exact fun c hc => h c (by simp [hc])
  · exact fun c hc => h c (by simp [hc])
  · exact h

theorem takeWhile_nil_of_noDigit {l : List Char} (h : NoDigit l) : l.takeWhile isDigit = [] := by
  cases l with
  | nil => rfl
  | cons c r => simp [List.takeWhile, h c (by simp)]

theorem signedDigits_none_of_noDigit {l : List Char} (h : NoDigit l) : signedDigits l = none := by
  unfold signedDigits
  simp [takeWhile_nil_of_noDigit h.optSign_snd]

theorem pyIntBody_none_of_noDigit {l : List Char} (h : NoDigit l) : pyIntBody false l = none := by
  cases l with
  | nil => simp [pyIntBody]
  | cons c r => simp [pyIntBody, h c (by simp)]

theorem pyInt_none_of_noDigit {l : List Char} (h : NoDigit l) : pyInt l = none := by
  unfold pyInt
  have ht : NoDigit ((l.dropWhile isCSpace).reverse.dropWhile isCSpace).reverse :=
    (((h.dropWhile _).reverse).dropWhile _).reverse
  simp only [pyIntBody_none_of_noDigit ht.optSign_snd]

theorem matchSimple_none_of_noDigit {l : List Char} (h : NoDigit l) : matchSimple l = none := by
  unfold matchSimple
  have := takeWhile_nil_of_noDigit (h.dropWhile isWs).optSign_snd
  simp [dropWs, this]

theorem parseIso_none_of_noDigit {l : List Char} (h : NoDigit l) : parseIso l = none := by
  unfold parseIso
  split
  · rename_i r0
    have hr : NoDigit r0 := fun c hc => h c (by simp [hc])
    have hC (u : Char) : optComp u r0 = (none, r0) := by simp [optComp, signedDigits_none_of_noDigit hr]
    have hS : optSec r0 = (none, r0) := by
      unfold optSec
      simp [takeWhile_nil_of_noDigit hr.optSign_snd]
    simp [hC, hS]
  · rfl

theorem dropWhile_nil_all {α : Type} {p : α → Bool} : ∀ (l : List α), l.dropWhile p = [] → l.all p = true := by
  intro l
  induction l with
  | nil => intro _; rfl
  | cons c r ih =>
    intro h
    by_cases hc : p c = true
    · simp [List.dropWhile, hc] at h; simp [hc, ih h]
    · simp [List.dropWhile, hc] at h

theorem parsePg_error_of_noDigit {l : List Char} (h : NoDigit l) : parsePg l = .error .invalid := by
  unfold parsePg
  by_cases hw : l.all isWs = true
  · simp [hw]
  · simp only [hw, Bool.false_eq_true, if_false]
    unfold pgLoop
    have hne : (dropWs l).isEmpty = false := by
      cases hd : dropWs l with
      | nil => exact absurd (dropWhile_nil_all l hd) hw
      | cons _ _ => rfl
    simp only [hne, Bool.false_eq_true, if_false]
    have hsd : signedDigits (dropWs l) = none := signedDigits_none_of_noDigit (h.dropWhile isWs)
    rw [hsd]

theorem noDigit_rejected (l : List Char) (h : NoDigit l) :
    usFromPgText l = .error .invalid ∧ fromIso l = .error .invalid := by
  unfold usFromPgText fromIso
  simp [pyInt_none_of_noDigit h, matchSimple_none_of_noDigit h, parseIso_none_of_noDigit h,
        parsePg_error_of_noDigit h]

end EdbVerif.Duration
