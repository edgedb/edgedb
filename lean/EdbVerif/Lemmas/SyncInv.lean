/-
C17: the two invariants over histories (`AgreeAt`, slot by slot, without status 2; `LastLe`, always),
the arms of `txSend` / `wtxPrepare`, and from these what a `compile_in_tx` request uses.
-/
import EdbVerif.Lemmas.SyncStep

namespace EdbVerif.Sync

theorem stepTx_get (env : Env) (st : State) (r : TReq) (i : Nat) (σ : Slot) :
    ((stepTx env st r).1 i).bel.get σ = (st i).bel.get σ ∧
    ((stepTx env st r).1 i).act.get σ = (st i).act.get σ := by
  obtain ⟨_, h, _, ht⟩ := stepTx_spec env st r
  rw [h]
  by_cases hi : i = r.w
  · subst hi; rw [upd_same]; exact ht.get σ
  · rw [upd_other hi]; exact ⟨rfl, rfl⟩

theorem agreeAt_compile (env : Env) (st : State) (r : CReq) (σ : Slot)
    (hlo : r.out ≠ .resultUnpicklable) (i : Nat) (h : AgreeAt (st i) σ) :
    AgreeAt ((stepCompile env st r).1 i) σ := by
  by_cases hi : i = r.w
  case neg => rw [stepCompile_frame' env st r i hi]; exact h
  subst hi
  obtain ⟨ws', hst, _, hc⟩ := stepCompile_spec env st r
  rw [hst, upd_same]
  intro x hx
  rcases hc with hf | ⟨_, hr⟩
  · rw [hf.bel] at hx; rw [hf.act]; exact h x hx
  rcases hr.bel with ⟨ho, _⟩ | ⟨_, hb⟩
  · exact absurd ho hlo
  · rw [hb] at hx; rw [hr.act]; exact or_agree h x hx

theorem agreeAt_step (env : Env) (st : State) (q : Req) (σ : Slot)
    (hl : q.noStatus2) (h : ∀ i, AgreeAt (st i) σ) :
    ∀ i, AgreeAt ((step env st q).1 i) σ := by
  intro i
  cases q with
  | compile r => exact agreeAt_compile env st r σ hl i (h i)
  | tx r =>
    intro x hx
    simp only [step] at hx ⊢
    rw [(stepTx_get env st r i σ).1] at hx
    rw [(stepTx_get env st r i σ).2]
    exact h i x hx

theorem agreeAt_exec (env : Env) (σ : Slot) (h : List Req) :
    ∀ st, (∀ i, AgreeAt (st i) σ) → NoStatus2 h → ∀ i, AgreeAt (exec env st h i) σ := by
  induction h with
  | nil => intro st h0 _; exact h0
  | cons q qs ih =>
    intro st h0 hl
    exact ih _ (agreeAt_step env st q σ (hl q (List.mem_cons_self ..)) h0)
      fun q' hq' => hl q' (List.mem_cons_of_mem _ hq')

theorem agreeAt_init (s : Side) (σ : Slot) (i : Nat) : AgreeAt (initState s i) σ :=
  fun _ hx => hx

theorem lastLe_step (env : Env) (st : State) (q : Req) (h : ∀ i, LastLe (st i)) (i : Nat) :
    LastLe ((step env st q).1 i) := by
  have hupd : ∃ w ws', (step env st q).1 = upd st w ws' ∧ LastLe ws' := by
    cases q with
    | compile r => obtain ⟨ws', hc, hl, _⟩ := stepCompile_spec env st r; exact ⟨_, ws', hc, hl⟩
    | tx r => obtain ⟨ws', hc, hl, _⟩ := stepTx_spec env st r; exact ⟨_, ws', hc, hl⟩
  obtain ⟨w, ws', hc, hl⟩ := hupd
  rw [hc]
  by_cases hi : i = w
  · subst hi; rw [upd_same]; exact hl
  · rw [upd_other hi]; exact h i

theorem lastLe_exec (env : Env) (h : List Req) :
    ∀ st, (∀ i, LastLe (st i)) → ∀ i, LastLe (exec env st h i) := by
  induction h with
  | nil => intro st h0; exact h0
  | cons q qs ih => intro st h0; exact ih _ (lastLe_step env st q h0)

theorem lastLe_init (s : Side) (i : Nat) : LastLe (initState s i) := by
  intro x hx; simp [initState] at hx

theorem txSend_reuse (b : Side) (r : TReq) : txSend b r = .reuse ↔ b.last = r.pstate := by
  unfold txSend
  by_cases h : b.last = r.pstate
  · rw [if_pos h]; exact iff_of_true rfl h
  · rw [if_neg h]
    refine iff_of_false ?_ h
    split <;> (try split) <;> nofun

theorem txSend_byName (b : Side) (r : TReq) (h : txSend b r = .byName) :
    b.get (.schema r.db) = some r.schema := by
  unfold txSend at h
  split at h
  · cases h
  · split at h
    · cases h
    · rename_i d hd
      split at h
      · rename_i hs; rw [Side.get, hd, ← hs]; rfl
      · cases h

theorem wtxPrepare_ok (env : Env) (a : Side) (r : TReq) (s : TxSend) (u : UsedTx)
    (h : wtxPrepare env a r s = .ok u) :
    (s = .reuse ∧ a.last = some u.cstate ∧ u.root = none) ∨
    (s = .byName ∧ r.pstate = some u.cstate ∧ u.root = a.get (.schema r.db) ∧ u.root ≠ none) ∨
    (s = .bySchema ∧ r.pstate = some u.cstate ∧ u.root = some r.schema) := by
  unfold wtxPrepare at h
  split at h
  · split at h
    · cases h
    · rename_i hl; cases h; exact .inl ⟨rfl, hl, rfl⟩
  · split at h
    · cases h
    · rename_i hp
      split at h
      · cases h
      · split at h
        · cases h
        · rename_i hd; cases h
          exact .inr (.inl ⟨rfl, hp, by rw [Side.get, hd]; rfl, nofun⟩)
  · split at h
    · cases h
    · rename_i hp
      split at h
      · cases h
      · split at h
        · cases h
        · cases h; exact .inr (.inr ⟨rfl, hp, rfl⟩)

theorem usedRoot_of_agree (env : Env) (st : State) (r : TReq)
    (h : (st r.w).bel.get (.schema r.db) = some r.schema →
         (st r.w).act.get (.schema r.db) = some r.schema) :
    (stepTx env st r).2.usedRoot r := by
  intro u hu s hs
  obtain ⟨_, _, _, ht⟩ := stepTx_spec env st r
  rcases wtxPrepare_ok env _ r _ u (ht.used u hu) with ⟨_, _, h3⟩ | ⟨h1, _, h3, _⟩ | ⟨_, _, h3⟩
  · rw [h3] at hs; cases hs
  · have := h (txSend_byName _ r h1)
    rw [h3, this] at hs; cases hs; rfl
  · rw [h3] at hs; cases hs; rfl

theorem reuse_holder (ws : WState) (r : TReq) (hl : LastLe ws) (hp : r.pstate ≠ none)
    (h : txSend ws.bel r = .reuse) : ws.act.last = r.pstate := by
  have hb := (txSend_reuse _ r).1 h
  cases hps : r.pstate with
  | none => exact absurd hps hp
  | some p => rw [hps] at hb; exact hl p hb

theorem usedState_of_lastLe (env : Env) (st : State) (r : TReq) (h : LastLe (st r.w))
    (hp : r.pstate ≠ none) : (stepTx env st r).2.usedState r := by
  intro u hu
  obtain ⟨_, _, _, ht⟩ := stepTx_spec env st r
  rcases wtxPrepare_ok env _ r _ u (ht.used u hu) with ⟨h1, h2, _⟩ | ⟨_, h2, _⟩ | ⟨_, h2, _⟩
  · rw [← h2]; exact reuse_holder _ r h hp h1
  · exact h2.symm
  · exact h2.symm

end EdbVerif.Sync
