/-
C13: `check q = true ↔ WellScoped q`, by simultaneous structural recursion over the nested
mutual syntax.  `check` on a node is a `&&`-chain: each case composes the iffs of the conjuncts
(`iff_band`), then applies the node's rule one way and inverts it the other.
-/
import EdbVerif.Lemmas.PgScopeRes

namespace EdbVerif.PgAst

theorem fromRVars_nil (ctes : List CteDef) : fromRVars ctes [] = [] := rfl

theorem fromRVars_cons (ctes : List CteDef) (f : FromItem) (fs : List FromItem) :
    fromRVars ctes (f :: fs) = rvarsOf ctes f ++ fromRVars ctes fs :=
  List.flatMap_cons ..

theorem forall_split_cons {α} {P : List α → α → Prop} (x : α) (xs : List α) :
    (∀ pre it post, x :: xs = pre ++ it :: post → P pre it) ↔
      P [] x ∧ ∀ pre it post, xs = pre ++ it :: post → P (x :: pre) it := by
  constructor
  · exact fun h => ⟨h [] x xs rfl, fun pre it post e => h (x :: pre) it post (e ▸ rfl)⟩
  · rintro ⟨h1, h2⟩ pre it post e
    cases pre with
    | nil => exact List.head_eq_of_cons_eq e ▸ h1
    | cons _ pre => exact List.head_eq_of_cons_eq e ▸ h2 pre it post (List.tail_eq_of_cons_eq e)

theorem iff_band {a b : Bool} {p q : Prop} (ha : a = true ↔ p) (hb : b = true ↔ q) :
    (a && b) = true ↔ p ∧ q :=
  Bool.and_eq_true_iff.trans (and_congr ha hb)

theorem iff_bor_imp {a b : Bool} {q : Prop} (hb : b = true ↔ q) :
    (a || b) = true ↔ (a = false → q) := by
  cases a <;> simp [hb]

mutual
theorem checkExpr_iff (env : Env) : (e : Expr) → (checkExpr env e = true ↔ WSExpr env e)
  | .col parts => (resolves_iff _ parts).trans ⟨.col, fun h => by cases h; assumption⟩
  | .star qual => (resolvesStar_iff _ qual).trans ⟨.star, fun h => by cases h; assumption⟩
  | .param _ => ⟨fun _ => .param, fun _ => rfl⟩
  | .leaf => ⟨fun _ => .leaf, fun _ => rfl⟩
  | .node args => (checkExprs_iff env args).trans ⟨.node, fun h => by cases h; assumption⟩
  | .sub q => (checkQuery_iff env q).trans ⟨.sub, fun h => by cases h; assumption⟩

theorem checkExprs_iff (env : Env) :
    (es : List Expr) → (checkExprs env es = true ↔ ∀ e ∈ es, WSExpr env e)
  | [] => ⟨fun _ => nofun, fun _ => rfl⟩
  | e :: es =>
    (iff_band (checkExpr_iff env e) (checkExprs_iff env es)).trans List.forall_mem_cons.symm

theorem checkByItems_iff (env : Env) (outs : Option (List Name)) :
    (es : List Expr) →
      (checkByItems env outs es = true ↔ ∀ e ∈ es, isOutRef outs e = false → WSExpr env e)
  | [] => ⟨fun _ => nofun, fun _ => rfl⟩
  | e :: es =>
    (iff_band (iff_bor_imp (checkExpr_iff env e)) (checkByItems_iff env outs es)).trans
      (List.forall_mem_cons (p := fun e => isOutRef outs e = false → WSExpr env e)).symm

theorem checkTargets_iff (env : Env) :
    (ts : List Target) → (checkTargets env ts = true ↔ ∀ t ∈ ts, WSExpr env t.val)
  | [] => ⟨fun _ => nofun, fun _ => rfl⟩
  | .mk n v :: ts =>
    (iff_band (checkExpr_iff env v) (checkTargets_iff env ts)).trans
      (List.forall_mem_cons (p := fun t => WSExpr env t.val) (a := Target.mk n v)).symm

theorem checkFrom_iff (env : Env) (lat : Level) :
    (f : FromItem) → (checkFrom env lat f = true ↔ WSFrom env lat f)
  | .rel .. =>
    Bool.and_eq_true_iff.trans
      ⟨fun h => .rel h.1 h.2, fun h => by cases h with | rel h1 h2 => exact ⟨h1, h2⟩⟩
  | .cref .. => by
    constructor
    · intro h
      simp only [checkFrom] at h
      split at h
      · exact .cref ‹_› h
      · cases h
    · intro h
      cases h with | cref h1 h2 => simp only [checkFrom, h1, h2]
  | .subq _ q _ _ =>
    (iff_band (checkQuery_iff _ q) Iff.rfl).trans
      ⟨fun h => .subq h.1 h.2, fun h => by cases h with | subq h1 h2 => exact ⟨h1, h2⟩⟩
  | .func _ fns _ _ => (checkExprs_iff _ fns).trans ⟨.func, fun h => by cases h; assumption⟩
  | .join l _ r on us =>
    (iff_band (iff_band (iff_band (checkFrom_iff env lat l) (checkFrom_iff env _ r))
        (checkExprs_iff _ on))
        (by simp only [List.all_eq_true, Bool.and_eq_true, List.any_eq_true])).trans
      ⟨fun h => .join h.1.1.1 h.1.1.2 h.1.2 h.2,
        fun h => by cases h with | join h1 h2 h3 h4 => exact ⟨⟨⟨h1, h2⟩, h3⟩, h4⟩⟩

theorem checkFroms_iff (env : Env) (acc : Level) :
    (fs : List FromItem) →
      (checkFroms env acc fs = true ↔
        ∀ pre it post, fs = pre ++ it :: post → WSFrom env (acc ++ fromRVars env.ctes pre) it)
  | [] => ⟨fun _ _ _ _ e => (nomatch (List.nil_eq_append_iff.1 e).2), fun _ => rfl⟩
  | f :: fs => by
    rw [forall_split_cons]
    simp only [fromRVars_nil, fromRVars_cons, List.append_nil, ← List.append_assoc]
    exact iff_band (checkFrom_iff env acc f) (checkFroms_iff env _ fs)

theorem checkCtes_iff (env : Env) (recursive : Bool) (all pre : List Cte) :
    (rest : List Cte) →
      (checkCtes env recursive all pre rest = true ↔
        (∀ p c post, rest = p ++ c :: post →
            WSQuery (env.withCtes (if recursive then all else pre ++ p)) c.query) ∧
        (∀ c ∈ rest, colAliasesOk c.cols (outCols c.query) = true))
  | [] =>
    ⟨fun _ => ⟨fun _ _ _ e => (nomatch (List.nil_eq_append_iff.1 e).2), nofun⟩, fun _ => rfl⟩
  | .mk n cols q :: rest => by
    have ih := checkCtes_iff env recursive all (pre ++ [Cte.mk n cols q]) rest
    simp only [List.append_assoc] at ih
    rw [forall_split_cons, List.forall_mem_cons, List.append_nil]
    exact (iff_band (iff_band (checkQuery_iff _ q) Iff.rfl) ih).trans
      ⟨fun h => ⟨⟨h.1.1, h.2.1⟩, h.1.2, h.2.2⟩, fun h => ⟨⟨h.1.1, h.2.1⟩, h.1.2, h.2.2⟩⟩
termination_by structural rest => rest

theorem checkQuery_iff (env : Env) : (q : Query) → (checkQuery env q = true ↔ WSQuery env q)
  | .withq recursive ctes body =>
    (iff_band (iff_band nodupNames_iff (checkCtes_iff env recursive ctes [] ctes))
        (checkQuery_iff _ body)).trans
      ⟨fun h => .withq h.1.1 h.1.2.1 h.1.2.2 h.2,
        fun h => by cases h with | withq h1 h2 h3 h4 => exact ⟨⟨h1, h2, h3⟩, h4⟩⟩
  | .select targets frm exprs byItems limits =>
    (iff_band (iff_band (iff_band (iff_band (iff_band noConflicts_iff
        (checkFroms_iff env [] frm)) (checkTargets_iff _ targets)) (checkExprs_iff _ exprs))
        (checkByItems_iff _ _ byItems)) (checkExprs_iff env limits)).trans
      ⟨fun h => .select h.1.1.1.1.1 h.1.1.1.1.2 h.1.1.1.2 h.1.1.2 h.1.2 h.2,
        fun h => by
          cases h with | select h1 h2 h3 h4 h5 h6 => exact ⟨⟨⟨⟨⟨h1, h2⟩, h3⟩, h4⟩, h5⟩, h6⟩⟩
  | .values _ rows => (checkExprs_iff env rows).trans ⟨.values, fun h => by cases h; assumption⟩
  | .setop l r _ limits =>
    (iff_band (iff_band (iff_band (checkQuery_iff env l) (checkQuery_iff env r)) List.all_eq_true)
        (checkExprs_iff env limits)).trans
      ⟨fun h => .setop h.1.1.1 h.1.1.2 h.1.2 h.2,
        fun h => by cases h with | setop h1 h2 h3 h4 => exact ⟨⟨⟨h1, h2⟩, h3⟩, h4⟩⟩
  | .insert _ _ _ _ src inferExprs updExprs returning =>
    (iff_band (iff_band (iff_band (iff_band (iff_band Iff.rfl (checkQuery_iff env src))
        (checkExprs_iff _ inferExprs)) noConflicts_iff) (checkExprs_iff _ updExprs))
        (checkTargets_iff _ returning)).trans
      ⟨fun h => .insert h.1.1.1.1.1 h.1.1.1.1.2 h.1.1.1.2 h.1.1.2 h.1.2 h.2,
        fun h => by
          cases h with | insert h1 h2 h3 h4 h5 h6 => exact ⟨⟨⟨⟨⟨h1, h2⟩, h3⟩, h4⟩, h5⟩, h6⟩⟩
  | .update _ _ _ _ frm exprs returning =>
    (iff_band (iff_band (iff_band (iff_band Iff.rfl noConflicts_iff) (checkFroms_iff env _ frm))
        (checkExprs_iff _ exprs)) (checkTargets_iff _ returning)).trans
      ⟨fun h => .update h.1.1.1.1 h.1.1.1.2 h.1.1.2 h.1.2 h.2,
        fun h => by cases h with | update h1 h2 h3 h4 h5 => exact ⟨⟨⟨⟨h1, h2⟩, h3⟩, h4⟩, h5⟩⟩
  | .delete _ _ _ _ frm exprs returning =>
    (iff_band (iff_band (iff_band (iff_band Iff.rfl noConflicts_iff) (checkFroms_iff env _ frm))
        (checkExprs_iff _ exprs)) (checkTargets_iff _ returning)).trans
      ⟨fun h => .delete h.1.1.1.1 h.1.1.1.2 h.1.1.2 h.1.2 h.2,
        fun h => by cases h with | delete h1 h2 h3 h4 h5 => exact ⟨⟨⟨⟨h1, h2⟩, h3⟩, h4⟩, h5⟩⟩
end

theorem check_iff (q : Query) : check q = true ↔ WellScoped q := checkQuery_iff {} q

end EdbVerif.PgAst
