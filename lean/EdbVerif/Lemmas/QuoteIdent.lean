/-
C18, EdgeQL identifiers and parameters: `quote_ident` and `param_to_str` read back by the
tokenizer model.
-/
import EdbVerif.Lemmas.QuoteBasic

namespace EdbVerif.Lex
open EdbVerif.Quote

/-- `s.replace('`', '``')`; `lexBacktick` checks the text still doubled, and the lemmas down to `isDunder_dbl`
    carry each check over to `s` -/
abbrev dbl (s : List Char) : List Char := replaceChar '`' ['`', '`'] s

theorem dbl_cons_bt (cs : List Char) : dbl ('`' :: cs) = '`' :: '`' :: dbl cs :=
  replaceChar_cons_self _ _ _
theorem dbl_cons_ne (c : Char) (cs : List Char) (h : c ≠ '`') : dbl (c :: cs) = c :: dbl cs :=
  replaceChar_cons_ne _ _ _ _ h

theorem scanBacktick_quoted (s rest : List Char) (hp : ∀ c ∈ s, checkProhibited c false = none)
    (hq : rest.head? ≠ some '`') :
    scanBacktick (dbl s ++ '`' :: rest) = .ok (dbl s, rest) := by
  induction s with
  | nil =>
    rw [dbl, replaceChar_nil]
    cases rest with
    | nil => simp [scanBacktick]
    | cons d ds =>
      have : d ≠ '`' := by simpa using hq
      simp [scanBacktick, this]
  | cons c cs ih =>
    have ih' := ih (fun x hx => hp x (by simp [hx]))
    by_cases h : c = '`'
    · subst h
      rw [dbl_cons_bt]
      simp [scanBacktick, ih']
    · rw [dbl_cons_ne c cs h]
      cases hX : dbl cs ++ '`' :: rest with
      | nil => simp at hX
      | cons d ds =>
        rw [hX] at ih'
        simp only [List.cons_append, hX]
        simp [scanBacktick, h, hp c (by simp), ih']

theorem undouble_cons_ne (c : Char) (l : List Char) (h : c ≠ '`') :
    undoubleBacktick (c :: l) = c :: undoubleBacktick l := by
  cases l <;> simp [undoubleBacktick, h]

theorem undouble_dbl (s : List Char) : undoubleBacktick (dbl s) = s := by
  induction s with
  | nil => rfl
  | cons c cs ih =>
    by_cases h : c = '`'
    · subst h
      rw [dbl_cons_bt]
      simp [undoubleBacktick, ih]
    · rw [dbl_cons_ne c cs h, undouble_cons_ne c _ h, ih]

theorem dbl_head (s : List Char) : (dbl s).head? = s.head? := by
  cases s with
  | nil => rfl
  | cons c cs =>
    simp only [dbl, replaceChar, List.flatMap_cons]
    split <;> simp [*]

theorem dbl_isEmpty (s : List Char) : (dbl s).isEmpty = s.isEmpty := by
  cases s with
  | nil => rfl
  | cons c cs =>
    simp only [dbl, replaceChar, List.flatMap_cons]
    split <;> simp

theorem hasNS_cons (c : Char) (l : List Char) :
    hasNamespaceSep (c :: l) = (decide (c = ':' ∧ l.head? = some ':') || hasNamespaceSep l) := by
  cases l <;> simp [hasNamespaceSep]

theorem hasNS_dbl (s : List Char) : hasNamespaceSep (dbl s) = hasNamespaceSep s := by
  induction s with
  | nil => rfl
  | cons c cs ih =>
    by_cases h : c = '`'
    · subst h
      rw [dbl_cons_bt]
      simp [hasNS_cons, ih]
    · rw [dbl_cons_ne c cs h]
      simp [hasNS_cons, ih, dbl_head]

theorem dbl_reverse (s : List Char) : (dbl s).reverse = dbl s.reverse :=
  replaceChar_reverse _ _ s

theorem prefix_dbl (l : List Char) (hl : '`' ∉ l) (s : List Char) : l.isPrefixOf (dbl s) = l.isPrefixOf s := by
  induction l generalizing s with
  | nil => simp
  | cons x xs ih =>
    have hx : (x == '`') = false := beq_eq_false_iff_ne.mpr fun e => hl (by simp [e])
    cases s with
    | nil => simp
    | cons c cs =>
      by_cases h : c = '`'
      · subst h; rw [dbl_cons_bt]; simp [List.isPrefixOf, hx]
      · rw [dbl_cons_ne c cs h]; simp [List.isPrefixOf, ih (fun e => hl (by simp [e]))]

theorem isDunder_dbl (s : List Char) : isDunder (dbl s) = isDunder s := by
  have h2 := prefix_dbl ['_', '_'] (by decide) s.reverse
  rw [← dbl_reverse] at h2
  simp only [isDunder, List.isSuffixOf, prefix_dbl ['_', '_'] (by decide) s]
  exact congrArg _ h2

/-- token kinds that count as "the identifier": an `Ident`, or a keyword that
    `quote_ident` deliberately leaves bare (not reserved, or `__type__` / `__std__`) -/
def IdentLike (k : Kind) : Prop :=
  k = .ident ∨ ∃ w, k = .keyword w ∧ (isReservedKw w = false ∨ w = dunderType ∨ w = dunderStd)

/-- what the back-quoted form can carry -/
def backtickExpressible (s : List Char) : Bool :=
  !s.isEmpty && s.head? ≠ some '@' && s.head? ≠ some '$' && !hasNamespaceSep s && !isDunder s &&
  s.all (fun c => (checkProhibited c false).isNone)

theorem quoteIdentRaw_lex (U : UClass) (s rest : List Char) (he : backtickExpressible s = true)
    (hq : rest.head? ≠ some '`') :
    lexOne U (quoteIdentRaw s ++ rest) = .ok (⟨.ident, .str s⟩, rest) := by
  simp only [backtickExpressible, Bool.and_eq_true, Bool.not_eq_true', decide_eq_true_eq,
    List.all_eq_true, Option.isNone_iff_eq_none] at he
  obtain ⟨⟨⟨⟨⟨h1, h2⟩, h3⟩, h4⟩, h5⟩, h6⟩ := he
  have hs := scanBacktick_quoted s rest h6 hq
  simp only [quoteIdentRaw, List.cons_append, List.append_assoc, List.nil_append, lexOne_backtick,
    lexBacktick, hs, dbl_head, hasNS_dbl, isDunder_dbl,
    dbl_isEmpty, undouble_dbl, h1, h2, h3, h4, h5]
  simp

theorem isAlnum_not_quote (U : UClass) (c : Char) (h : c = '_' ∨ isAlnum U c = true) :
    c ≠ '"' ∧ c ≠ '\'' ∧ c ≠ '`' := by
  refine ⟨?_, ?_, ?_⟩ <;> (intro e; subst e; rcases h with h | h <;> simp [isAlnum, isAsciiLetter, isDigit] at h)

def bareIdentDelim (U : UClass) (rest : List Char) : Prop :=
  rest = [] ∨ ∃ c cs, rest = c :: cs ∧ c ≠ '"' ∧ c ≠ '\'' ∧ c ≠ '`' ∧ c ≠ '_' ∧ isAlnum U c = false

theorem identLoop_all (U : UClass) (t rest : List Char)
    (h : ∀ c ∈ t, c = '_' ∨ isAlnum U c = true) (hd : bareIdentDelim U rest) :
    identLoop U (t ++ rest) = (t, .other, rest) := by
  induction t with
  | nil =>
    rcases hd with rfl | ⟨c, cs, rfl, h1, h2, h3, h4, h5⟩
    · simp [identLoop]
    · simp [identLoop, h1, h2, h3, h4, h5]
  | cons c cs ih =>
    obtain ⟨h1, h2, h3⟩ := isAlnum_not_quote U c (h c (by simp))
    have := h c (by simp)
    simp [identLoop, h1, h2, h3, this, ih (fun x hx => h x (by simp [hx]))]

theorem bareIdent_lex (U : UClass) (c : Char) (t rest : List Char) (hstart : c = '_' ∨ isAlpha U c = true)
    (ht : ∀ x ∈ t, x = '_' ∨ isAlnum U x = true) (hd : bareIdentDelim U rest) :
    lexOne U (c :: t ++ rest) = match asKeyword (c :: t) with
      | some k => .ok (⟨.keyword k, .str (c :: t)⟩, rest)
      | none => if isDunder (c :: t) then .error .identDunder else .ok (⟨.ident, .str (c :: t)⟩, rest) := by
  rw [List.cons_append, lexOne_identStart U c _ hstart]
  simp only [lexIdent, identLoop_all U t rest ht hd]
  cases asKeyword (c :: t) <;> rfl

open EdbVerif.Gen in
theorem keywords_ascii :
    (Keywords.partialReserved ++ Keywords.futureReserved ++ Keywords.currentReserved ++
      Keywords.combined ++ Keywords.unreserved).all (fun w => w.all (fun c => decide (c.toNat < 128))) = true := by
  decide +kernel

theorem isKeyword_ascii (w : List Char) (h : isKeyword w = true) : ∀ c ∈ w, c.toNat < 128 := by
  have hk := keywords_ascii
  simp only [List.all_eq_true, decide_eq_true_eq] at hk
  simp only [isKeyword, Bool.or_eq_true, List.contains_iff_mem] at h
  apply hk w
  simp only [List.mem_append]
  exact h

theorem asciiLower_ascii (c : Char) : (asciiLower c).toNat < 128 → c.toNat < 128 := by
  intro h
  by_cases hc : (65 ≤ c.toNat && c.toNat ≤ 90) = true
  · simp at hc; omega
  · simpa [asciiLower, hc] using h

/-- Python's classes are inside the tokenizer's: every `str.isalpha()`
    character is `is_alphabetic`, every `\\w` character is `_` or `is_alphanumeric`.
    On ASCII both hold by construction; outside ASCII this is a statement about
    two Unicode tables (CPython's and rustc's), checked by the harness sweep on
    every code point. -/
def Compat (P : PyUnicode) (U : UClass) : Prop :=
  (∀ c, pyIsAlpha P c = true → isAlpha U c = true) ∧
  (∀ c, pyIsWord P c = true → c = '_' ∨ isAlnum U c = true)

/-- The names that SOME identifier form can carry, along the branch `quote_ident` takes.  Back-quoted: no
    leading `$`, no surrounding double underscores, no NUL / bidi control (the tokenizer refuses these inside
    back-quotes, and such a name is no bare identifier either).  Bare: non-empty, not starting with `@`, no
    `::` (for these three `quote_ident` returns the text as is — no identifier form exists for them), and not
    a double-underscore name unless that is a keyword. -/
def identExpressible (P : PyUnicode) (s : List Char) : Bool :=
  if needsQuoting P s false false then
    s.head? ≠ some '$' && !isDunder s && s.all (fun c => (checkProhibited c false).isNone)
  else
    !s.isEmpty && s.head? ≠ some '@' && !hasNamespaceSep s &&
    !((asKeyword s).isNone && isDunder s)

def identDelim (U : UClass) (quoted : Bool) (rest : List Char) : Prop :=
  if quoted then rest.head? ≠ some '`' else bareIdentDelim U rest

theorem needsQuoting_true (P : PyUnicode) (s : List Char) (a b : Bool)
    (h : needsQuoting P s a b = true) :
    s.isEmpty = false ∧ s.head? ≠ some '@' ∧ Lex.hasNamespaceSep s = false := by
  unfold needsQuoting at h
  split at h
  · simp at h
  · rename_i hc
    simp only [Bool.or_eq_true, decide_eq_true_eq, not_or, Quote.hasNamespaceSep] at hc
    exact ⟨by simpa using hc.1.1, hc.1.2, by simpa using hc.2⟩

theorem needsQuoting_false (P : PyUnicode) (c : Char) (t : List Char) (a b : Bool) (hat : c ≠ '@')
    (hns : Lex.hasNamespaceSep (c :: t) = false) (h : needsQuoting P (c :: t) a b = false) :
    (matchIdent P (c :: t) = true ∨ (b = true ∧ matchNum (c :: t) = true)) ∧
    (c = '_' ∨ pyIsAlpha P c = true ∨ pyIsDecimal P c = true) ∧
    (a = false → pyLower P (c :: t) ≠ dunderType → pyLower P (c :: t) ≠ dunderStd →
      isReservedKw (pyLower P (c :: t)) = false) := by
  simp only [needsQuoting, Quote.hasNamespaceSep, hns, List.isEmpty_cons, List.head?_cons, Option.some.injEq,
    hat, decide_false, Bool.or_self, Bool.false_eq_true, if_false, Bool.or_eq_false_iff,
    Bool.not_eq_false', Bool.and_eq_true, Bool.or_eq_true, decide_eq_true_eq, Bool.and_eq_false_imp,
    Bool.not_eq_true', or_assoc] at h
  exact ⟨h.1.1, h.1.2, fun ha h1 h2 => h.2 ha ⟨h1, h2⟩⟩

/-- a name the tokenizer takes for a keyword is ASCII, so Python lower-cases it the same way -/
theorem pyLower_of_asKeyword (P : PyUnicode) (s k : List Char) (hk : asKeyword s = some k) :
    pyLower P s = k := by
  simp only [asKeyword] at hk
  split at hk
  · simp at hk
  split at hk
  · rename_i hkw
    simp only [Option.some.injEq] at hk
    have hasc : s.all (fun x => decide (x.toNat < 128)) = true := List.all_eq_true.mpr fun x hx =>
      decide_eq_true (asciiLower_ascii x (isKeyword_ascii _ hkw (asciiLower x) (List.mem_map_of_mem hx)))
    simp only [pyLower, hasc, if_true]
    exact hk
  · simp at hk

theorem quoteIdent_lex (U : UClass) (P : PyUnicode) (hc : Compat P U) (s rest : List Char)
    (he : identExpressible P s = true)
    (hd : identDelim U (needsQuoting P s false false) rest) :
    ∃ t, lexOne U (quoteIdent P s false false false ++ rest) = .ok (t, rest) ∧
      t.val = .str s ∧ IdentLike t.kind := by
  unfold identExpressible at he
  unfold identDelim at hd
  cases hn : needsQuoting P s false false with
  | true =>
    simp only [hn, if_true] at he hd
    obtain ⟨h1, h2, h3⟩ := needsQuoting_true P s false false hn
    have hb : backtickExpressible s = true := by
      simp only [Bool.and_eq_true, Bool.not_eq_true', decide_eq_true_eq, List.all_eq_true] at he
      simp only [backtickExpressible, Bool.and_eq_true, Bool.not_eq_true', decide_eq_true_eq,
        List.all_eq_true]
      exact ⟨⟨⟨⟨⟨h1, h2⟩, he.1.1⟩, h3⟩, he.1.2⟩, he.2⟩
    refine ⟨⟨.ident, .str s⟩, ?_, rfl, Or.inl rfl⟩
    simp only [quoteIdent, hn, Bool.or_true, if_true]
    exact quoteIdentRaw_lex U s rest hb hd
  | false =>
    simp only [hn, Bool.false_eq_true, if_false] at he hd
    cases s with
    | nil => simp at he
    | cons c t =>
      simp only [Bool.and_eq_true, Bool.not_eq_true', List.isEmpty_cons, Bool.and_eq_false_imp,
        Option.isNone_iff_eq_none, List.head?_cons] at he
      obtain ⟨⟨⟨_, hat⟩, hns⟩, hdun⟩ := he
      obtain ⟨hmatch, hfirst, hres⟩ := needsQuoting_false P c t false false (by simpa using hat) hns hn
      have hmatch := hmatch.resolve_right (by simp)
      simp only [matchIdent, Bool.and_eq_true, List.all_eq_true] at hmatch
      obtain ⟨hws, hwt⟩ := hmatch
      have hstart : c = '_' ∨ isAlpha U c = true := by
        rcases hfirst with h | h | h
        · exact Or.inl h
        · exact Or.inr (hc.1 c h)
        · simp [pyIsWordStart, h] at hws
      simp only [quoteIdent, hn, Bool.or_false, Bool.false_eq_true, if_false]
      -- `Compat` turns Python's `[^\W\d]\w*` into the tokenizer's identifier run
      rw [bareIdent_lex U c t rest hstart (fun x hx => hc.2 x (hwt x hx)) hd]
      cases hk : asKeyword (c :: t) with
      | none => exact ⟨⟨.ident, .str (c :: t)⟩, by simp [hdun hk], rfl, Or.inl rfl⟩
      | some k =>
        refine ⟨⟨.keyword k, .str (c :: t)⟩, rfl, rfl, Or.inr ⟨k, rfl, ?_⟩⟩
        -- Python tested the reserved list on `lower()` of the name; for a keyword that is `k`
        rw [pyLower_of_asKeyword P _ k hk] at hres
        by_cases e1 : k = dunderType
        · exact Or.inr (Or.inl e1)
        by_cases e2 : k = dunderStd
        · exact Or.inr (Or.inr e2)
        exact Or.inl (hres rfl e1 e2)

/-- what `` $`…` `` can carry (a leading `$` is fine here, unlike in a plain back-quoted name) -/
def paramBacktickExpressible (s : List Char) : Bool :=
  !s.isEmpty && s.head? ≠ some '@' && !hasNamespaceSep s && !isDunder s &&
  s.all (fun c => (checkProhibited c false).isNone)

/-- does `param_to_str` back-quote the name? -/
def paramQuoted (P : PyUnicode) (s : List Char) : Bool :=
  (!s.isEmpty && !s.all (fun c => c = '_' || pyIsAlpha P c || isDigit c)) || needsQuoting P s true true

/-- the names SOME parameter form can carry, along the branch `param_to_str` takes: back-quoted —
    `paramBacktickExpressible`; bare — non-empty, not starting with `@`, no `::` (for these three
    `quote_ident` returns the text as is and no parameter form exists). -/
def paramExpressible (P : PyUnicode) (s : List Char) : Bool :=
  if paramQuoted P s then paramBacktickExpressible s
  else !s.isEmpty && s.head? ≠ some '@' && !hasNamespaceSep s

/-- what may follow: after `` $`…` `` no back-quote; after a bare `$name` nothing that continues the
    name (ASCII digit, `_`, alphabetic) and no `$` (which would make `$name$` a dollar-quote tag) -/
def paramDelim (U : UClass) (quoted : Bool) (rest : List Char) : Prop :=
  if quoted then rest.head? ≠ some '`'
  else rest = [] ∨ ∃ c cs, rest = c :: cs ∧ isTagChar U c = false ∧ c ≠ '$'

theorem paramBacktick_lex (U : UClass) (s rest : List Char) (he : paramBacktickExpressible s = true)
    (hq : rest.head? ≠ some '`') :
    lexOne U ('$' :: quoteIdentRaw s ++ rest) = .ok (⟨.parameter, .str s⟩, rest) := by
  simp only [paramBacktickExpressible, Bool.and_eq_true, Bool.not_eq_true', decide_eq_true_eq,
    List.all_eq_true, Option.isNone_iff_eq_none] at he
  obtain ⟨⟨⟨⟨h1, h2⟩, h4⟩, h5⟩, h6⟩ := he
  have hs := scanBacktick_quoted s rest h6 hq
  simp only [quoteIdentRaw, List.cons_append, List.append_assoc, List.nil_append, lexOne_dollar,
    lexDollar, hs, dbl_head, hasNS_dbl, isDunder_dbl, dbl_isEmpty, undouble_dbl,
    h1, h2, h4, h5]
  simp

theorem matchNum_digits (s : List Char) (h : matchNum s = true) : ∀ x ∈ s, isDigit x = true := by
  cases s with
  | nil => simp [matchNum] at h
  | cons c t =>
    simp only [matchNum, Bool.or_eq_true, Bool.and_eq_true, List.all_eq_true, decide_eq_true_eq,
      List.isEmpty_iff] at h
    rcases h with ⟨rfl, rfl⟩ | ⟨⟨⟨h1, h2⟩, h⟩, _⟩
    · decide
    · intro x hx
      rcases List.mem_cons.mp hx with rfl | hx
      · simp [isDigit, h2]; omega
      · exact h x hx

theorem isDigit_not_alpha (U : UClass) (x : Char) (h : isDigit x = true) :
    (isAlpha U x || decide (x = '_')) = false := by
  simp only [isDigit, Bool.and_eq_true, decide_eq_true_eq] at h
  have h128 : x.toNat < 128 := by omega
  have hx : x ≠ '_' := by rintro rfl; simp at h
  simp [isAlpha, h128, isAsciiLetter, hx]
  omega

theorem bareParam_lex (U : UClass) (c : Char) (t rest : List Char)
    (htag : ∀ x ∈ c :: t, isTagChar U x = true)
    (hdig : isDigit c = true → ∀ x ∈ c :: t, isDigit x = true)
    (hd : rest = [] ∨ ∃ d ds, rest = d :: ds ∧ isTagChar U d = false ∧ d ≠ '$') :
    lexOne U ('$' :: c :: t ++ rest) = .ok (⟨.parameter, .str (c :: t)⟩, rest) := by
  have hsp := spanTag_all U (c :: t) rest htag (hd.imp id fun ⟨d, ds, e, h, _⟩ => ⟨d, ds, e, h⟩)
  have hbad : ((c :: t).any (fun x => isAlpha U x || decide (x = '_')) && isDigit c) = false := by
    by_cases hdg : isDigit c = true
    · rw [List.any_eq_false.mpr fun x hx => by simpa using isDigit_not_alpha U x (hdig hdg x hx)]
      rfl
    · simp [hdg]
  simp only [List.cons_append, lexOne_dollar] at hsp ⊢
  simp only [lexDollar, isTagChar_ne U c (htag c (by simp)), htag c (by simp), if_true, if_false, hsp,
    hbad, Bool.false_eq_true]
  rcases hd with rfl | ⟨d, ds, rfl, _, hdne⟩
  · rfl
  · simp only [hdne, if_false]

theorem paramToStr_lex (U : UClass) (P : PyUnicode) (hc : Compat P U) (s rest : List Char)
    (he : paramExpressible P s = true) (hd : paramDelim U (paramQuoted P s) rest) :
    lexOne U (paramToStr P s ++ rest) = .ok (⟨.parameter, .str s⟩, rest) := by
  unfold paramExpressible at he
  unfold paramDelim at hd
  cases hq : paramQuoted P s with
  | true =>
    simp only [hq, if_true] at he hd
    have : paramToStr P s = '$' :: quoteIdentRaw s := by
      simp only [paramQuoted, Bool.or_eq_true] at hq
      simp only [paramToStr, quoteIdent]
      rcases hq with h | h <;> simp [h]
    rw [this]
    exact paramBacktick_lex U s rest he hd
  | false =>
    simp only [hq, Bool.false_eq_true, if_false] at he hd
    simp only [paramQuoted, Bool.or_eq_false_iff] at hq
    obtain ⟨hforce, hnq⟩ := hq
    cases s with
    | nil => simp at he
    | cons c t =>
      simp only [List.isEmpty_cons, Bool.not_false, Bool.true_and, Bool.not_eq_false'] at hforce
      simp only [List.isEmpty_cons, List.head?_cons, Bool.and_eq_true, Bool.not_eq_true'] at he
      have hout : paramToStr P (c :: t) = '$' :: c :: t := by
        simp only [paramToStr, quoteIdent, List.isEmpty_cons, Bool.not_false, Bool.true_and, hforce,
          Bool.not_true, hnq, Bool.or_self, Bool.false_eq_true, if_false]
      rw [hout]
      refine bareParam_lex U c t rest (fun x hx => ?_) (fun hdg => ?_) hd
      · have : x = '_' ∨ pyIsAlpha P x = true ∨ isDigit x = true := by
          simpa [or_assoc] using List.all_eq_true.mp hforce x hx
        rcases this with rfl | h | h
        · simp [isTagChar]
        · simp [isTagChar, hc.1 x h]
        · simp [isTagChar, h]
      · -- a bare name that starts with a digit matched the numeric alternative of `needs_quoting`
        obtain ⟨hm, _, _⟩ := needsQuoting_false P c t true true (by simpa using he.1.2) he.2 hnq
        have hdec : pyIsDecimal P c = true := by
          simp only [isDigit, Bool.and_eq_true, decide_eq_true_eq] at hdg
          have : c.toNat < 128 := by omega
          simp [pyIsDecimal, this, isDigit, hdg]
        exact matchNum_digits _ (hm.elim (fun h => by simp [matchIdent, pyIsWordStart, hdec] at h) (·.2))

end EdbVerif.Lex
