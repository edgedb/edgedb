/-
C17, remote path: the pieces (`sync2`, `CS.diff`, `wsyncMT`, the LRU cache).  `_sync` acts on a
client schema as `__sync__` on a worker, except that every part received gets a fresh stamp.
-/
import EdbVerif.Model.SyncMTSpec
import EdbVerif.Lemmas.SyncBasic
import EdbVerif.Lemmas.Keyed

namespace EdbVerif.SyncMT
open EdbVerif.Sync

theorem stampO_eq (clock : Nat) (x : Option Tok) (old : St) :
    some (stampO clock x old) = (x.map (St.mk · clock)).or (some old) := by
  cases x <;> rfl

theorem CS.get_of_stored {v v' : CS} {db : Nat} {p : Parts} {clock : Nat} {d : PS}
    (hdbs : ∀ i, v'.dbs i = if i = db then some d else v.dbs i)
    (h1 : some d.schema = (p.schema.map (St.mk · clock)).or ((v.dbs db).map (·.schema)))
    (h2 : some d.refl = (p.refl.map (St.mk · clock)).or ((v.dbs db).map (·.refl)))
    (h3 : some d.dbcfg = (p.dbcfg.map (St.mk · clock)).or ((v.dbs db).map (·.dbcfg)))
    (hg : v'.glob = stampO clock p.glob v.glob) (hy : v'.sys = stampO clock p.sys v.sys)
    (σ : Slot) : v'.get σ = ((p.at db σ).map (St.mk · clock)).or (v.get σ) := by
  cases σ <;> simp only [CS.get, Parts.at, hdbs, hg, hy, stampO_eq]
  all_goals split
  · rename_i h; rw [h, ← h1]; rfl
  · rfl
  · rename_i h; rw [h, ← h2]; rfl
  · rfl
  · rename_i h; rw [h, ← h3]; rfl
  · rfl

/-- `_sync` returns `False` iff it stored nothing (same object); otherwise the new
    `ClientSchema` object is fresh -/
theorem sync2_spec {cs cs' : CS} {db : Nat} {p : Parts} {clock : Nat} {u : Bool}
    (h : sync2 cs db p clock = some (cs', u)) :
    ((u = false ∧ cs' = cs) ∨ (u = true ∧ cs'.ver = clock)) ∧
    ∀ σ, cs'.get σ = ((p.at db σ).map (St.mk · clock)).or (cs.get σ) := by
  unfold sync2 at h
  split at h
  · split at h
    · rename_i hs hr hc
      cases h
      exact ⟨.inr ⟨rfl, rfl⟩, CS.get_of_stored (fun _ => rfl) (by rw [hs]; rfl) (by rw [hr]; rfl)
        (by rw [hc]; rfl) rfl rfl⟩
    · cases h
  · rename_i d0 hd0
    by_cases he : p.isEmpty = true
    · rw [if_pos he] at h
      cases h
      exact ⟨.inl ⟨rfl, rfl⟩, fun σ => by rw [Parts.at_of_isEmpty p db he]; rfl⟩
    · rw [if_neg he] at h
      cases h
      refine ⟨.inr ⟨rfl, rfl⟩, CS.get_of_stored (d := ⟨stampO clock p.schema d0.schema,
        stampO clock p.refl d0.refl, stampO clock p.dbcfg d0.dbcfg⟩) (fun i => ?_) ?_ ?_ ?_ rfl rfl⟩
      · dsimp only
        by_cases hn : (p.schema.isSome || p.refl.isSome || p.dbcfg.isSome) = true
        · rw [if_pos hn]
        · -- nothing sent for this database: `cs.dbs` is shared, and it holds `d0` again
          rw [if_neg hn]
          simp only [Bool.or_eq_true, Option.isSome_iff_ne_none, not_or, Decidable.not_not] at hn
          rw [hn.1.1, hn.1.2, hn.2]
          split
          · rename_i hi; rw [hi, hd0]; rfl
          · rfl
      all_goals rw [hd0]; exact stampO_eq ..

theorem sync2_ver {cs cs' : CS} {db : Nat} {p : Parts} {clock : Nat} {u : Bool}
    (h : sync2 cs db p clock = some (cs', u)) :
    (u = false ∧ cs' = cs) ∨ (u = true ∧ cs'.ver = clock) :=
  (sync2_spec h).1

theorem sync2_get {cs cs' : CS} {db : Nat} {p : Parts} {clock : Nat} {u : Bool}
    (h : sync2 cs db p clock = some (cs', u)) (σ : Slot) :
    cs'.get σ = ((p.at db σ).map (St.mk · clock)).or (cs.get σ) :=
  (sync2_spec h).2 σ

theorem sync2_cont {cs cs' : CS} {db : Nat} {p : Parts} {clock : Nat} {u : Bool}
    (h : sync2 cs db p clock = some (cs', u)) (σ : Slot) :
    cs'.cont σ = (p.at db σ).or (cs.cont σ) := by
  unfold CS.cont
  rw [sync2_get h]
  cases p.at db σ <;> rfl

theorem sync2_dbs_mono {cs cs' : CS} {db : Nat} {p : Parts} {clock : Nat} {u : Bool}
    (h : sync2 cs db p clock = some (cs', u)) (i : Nat) (hi : cs.dbs i ≠ none) :
    cs'.dbs i ≠ none := by
  intro hn
  have := sync2_get h (.schema i)
  simp only [CS.get, hn] at this
  exact hi (Option.map_eq_none_iff.1 (Option.or_eq_none_iff.1 this.symm).2)

/-- a stored record as the worker holds it: contents without stamps -/
def PS.cont (s : PS) : Db3 := ⟨s.schema.tok, s.refl.tok, s.dbcfg.tok⟩

theorem holds_iff (x : WClient) (v : CS) :
    Holds x v ↔ (∀ db, x.dbs db = (v.dbs db).map PS.cont) ∧ x.glob = v.glob.tok ∧ x.sys = v.sys.tok := by
  constructor
  · intro h
    refine ⟨fun db => ?_, by simpa [WClient.get, CS.cont, CS.get] using h .glob,
      by simpa [WClient.get, CS.cont, CS.get] using h .sys⟩
    have h1 := h (.schema db)
    have h2 := h (.refl db)
    have h3 := h (.dbcfg db)
    simp only [WClient.get, CS.cont, CS.get] at h1 h2 h3
    cases hx : x.dbs db <;> cases hv : v.dbs db <;> simp only [hx, hv, Option.map_some, Option.map_none,
      Option.some.injEq, reduceCtorEq] at h1 h2 h3 ⊢
    rename_i o s
    cases o
    simp only [PS.cont, Db3.mk.injEq]
    exact ⟨h1, h2, h3⟩
  · intro ⟨hd, hg, hy⟩ σ
    cases σ <;> simp only [WClient.get, CS.cont, CS.get, hd, hg, hy, Option.map_map, Option.map_some] <;> rfl

theorem Holds.dbs_iff {x : WClient} {v : CS} (h : Holds x v) (db : Nat) :
    x.dbs db ≠ none ↔ v.dbs db ≠ none := by
  rw [((holds_iff x v).1 h).1 db]
  cases v.dbs db <;> simp

theorem fieldDiff_none (a b : St) (h : fieldDiff a b = none) : a = b := by
  unfold fieldDiff at h
  split at h
  · assumption
  · cases h

theorem fieldDiff_some (a b : St) (t : Tok) (h : fieldDiff a b = some t) : t = a.tok := by
  unfold fieldDiff at h
  split at h <;> cases h
  rfl

theorem fieldDiff_getD {a b : St} {o : Tok} (h : a = b → o = a.tok) :
    (fieldDiff a b).getD o = a.tok := by
  cases hf : fieldDiff a b with
  | none => exact h (fieldDiff_none a b hf)
  | some t => exact fieldDiff_some a b t hf

/-- the FULL SYNC arm: the worker has no entry for the client -/
theorem wsyncMT_fullSync (env : Env) (d : Diff) (a' : Option WClient)
    (h : wsyncMT env none (some d) = some a') :
    ∃ g y, d.glob = some g ∧ d.sys = some y ∧ a' = some (initResult d g y) := by
  unfold wsyncMT at h
  simp only [] at h
  split at h
  · rename_i g y hg hy
    split at h
    · cases h
    · cases h; exact ⟨g, y, hg, hy, rfl⟩
  · cases h

/-- the DIFF SYNC arm: the worker has an entry, whatever is sent -/
theorem wsyncMT_diffSync (env : Env) (d : Diff) (x : WClient) (a' : Option WClient)
    (h : wsyncMT env (some x) (some d) = some a') : a' = some (diffResult x d) := by
  unfold wsyncMT at h
  simp only [] at h
  split at h <;> cases h
  rfl

theorem holds_full_absent (env : Env) (cs' : CS) (a' : Option WClient)
    (h : wsyncMT env none (some cs'.full) = some a') : ∃ x', a' = some x' ∧ Holds x' cs' := by
  obtain ⟨g, y, hg, hy, rfl⟩ := wsyncMT_fullSync env _ a' h
  cases hg; cases hy
  refine ⟨_, rfl, (holds_iff _ _).2 ⟨fun db => ?_, rfl, rfl⟩⟩
  simp only [initResult, CS.full]
  cases cs'.dbs db <;> rfl

/-- the whole schema sent to a worker that still has (some version of) the client -/
theorem holds_full_present (env : Env) (cs' : CS) (x : WClient) (a' : Option WClient)
    (hdom : ∀ db, x.dbs db ≠ none → cs'.dbs db ≠ none)
    (h : wsyncMT env (some x) (some cs'.full) = some a') : ∃ x', a' = some x' ∧ Holds x' cs' := by
  cases wsyncMT_diffSync env _ x a' h
  refine ⟨_, rfl, (holds_iff _ _).2 ⟨fun db => ?_, rfl, rfl⟩⟩
  simp only [diffResult, CS.full, List.contains_nil, Bool.false_eq_true, if_false]
  cases hcs : cs'.dbs db with
  | none =>
    cases hx : x.dbs db with
    | none => rfl
    | some o => exact absurd hcs (hdom db (by rw [hx]; exact nofun))
  | some s => cases x.dbs db <;> rfl

theorem holds_diff (env : Env) (cs' v : CS) (x : WClient) (a' : Option WClient)
    (hj : ∀ σ, v.get σ = cs'.get σ → x.get σ = cs'.cont σ)
    (hdom : ∀ db, x.dbs db ≠ none → cs'.dbs db ≠ none)
    (hsub : ∀ db, v.dbs db ≠ none → x.dbs db ≠ none)
    (h : wsyncMT env (some x) (some (cs'.diff v)) = some a') : ∃ x', a' = some x' ∧ Holds x' cs' := by
  cases wsyncMT_diffSync env _ x a' h
  refine ⟨_, rfl, (holds_iff _ _).2 ⟨fun db => ?_, ?_, ?_⟩⟩
  · simp only [diffResult, CS.diff, List.contains_iff_mem, List.mem_filter]
    cases hcs : cs'.dbs db with
    | none =>
      cases hx : x.dbs db with
      | none => simp
      | some o => exact absurd hcs (hdom db (by rw [hx]; exact nofun))
    | some s =>
      simp only [Option.isNone_some, Bool.false_and, Bool.false_eq_true, and_false, if_false,
        Option.map_some]
      cases hv : v.dbs db with
      | none => cases x.dbs db <;> rfl      -- unknown to the recorded version: sent whole
      | some o =>
        cases hx : x.dbs db with
        | none => exact absurd hx (hsub db (by rw [hv]; exact nofun))
        | some o' =>
          -- a field that is the same object in both versions is held by the worker already
          have hf : (o.schema = s.schema → o'.schema = s.schema.tok) ∧
              (o.refl = s.refl → o'.refl = s.refl.tok) ∧ (o.dbcfg = s.dbcfg → o'.dbcfg = s.dbcfg.tok) := by
            have h1 := hj (.schema db)
            have h2 := hj (.refl db)
            have h3 := hj (.dbcfg db)
            simp only [CS.get, CS.cont, WClient.get, hv, hcs, hx, Option.map_some,
              Option.some.injEq] at h1 h2 h3
            exact ⟨h1, h2, h3⟩
          by_cases hso : s = o
          · cases hso
            cases o'
            simp only [↓reduceIte, PS.cont, Option.some.injEq, Db3.mk.injEq]
            exact ⟨hf.1 rfl, hf.2.1 rfl, hf.2.2 rfl⟩
          · simp only [hso, ↓reduceIte, Option.some.injEq, PS.cont, Db3.mk.injEq]
            exact ⟨fieldDiff_getD fun e => hf.1 e.symm, fieldDiff_getD fun e => hf.2.1 e.symm,
              fieldDiff_getD fun e => hf.2.2 e.symm⟩
  · have := hj .glob
    simp only [CS.get, CS.cont, WClient.get, Option.map_some, Option.some.injEq] at this
    exact fieldDiff_getD fun e => this e.symm
  · have := hj .sys
    simp only [CS.get, CS.cont, WClient.get, Option.map_some, Option.some.injEq] at this
    exact fieldDiff_getD fun e => this e.symm

theorem cacheGet_cons (cache : List (Nat × CS)) (c c' : Nat) (v : CS) :
    cacheGet ((c, v) :: cache) c' = if c = c' then some v else cacheGet cache c' :=
  Keyed.find_fst_cons (c, v) cache c'

theorem cacheGet_filter_key (cache : List (Nat × CS)) (f : Nat → Bool) (c : Nat) :
    cacheGet (cache.filter (fun e => f e.1)) c = if f c then cacheGet cache c else none :=
  Keyed.find_fst_filter_key f cache c

theorem cacheGet_set (cache : List (Nat × CS)) (c c' : Nat) (v : CS) :
    cacheGet (cacheSet cache c v) c' = if c = c' then some v else cacheGet cache c' :=
  Keyed.find_fst_cons_erase c v cache c'

theorem cacheGet_dropLast (cache : List (Nat × CS)) (c : Nat) (v : CS)
    (h : cacheGet cache.dropLast c = some v) : cacheGet cache c = some v := by
  unfold cacheGet at h ⊢
  rw [Option.map_eq_some_iff] at h ⊢
  obtain ⟨e, he, hv⟩ := h
  exact ⟨e, (List.dropLast_prefix cache).find?_eq_some he, hv⟩

theorem cacheGet_none_mem (cache : List (Nat × CS)) (c : Nat) (h : cacheGet cache c = none)
    (e : Nat × CS) (he : e ∈ cache) : e.1 ≠ c :=
  Keyed.find_eq_none.mp (Option.map_eq_none_iff.mp h) e he

end EdbVerif.SyncMT
