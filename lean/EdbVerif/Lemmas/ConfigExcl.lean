/-
C19: `_check_object_set_uniqueness` leaves no two objects that agree on a field
at its unique site, whatever their concrete (sub)types.
-/
import EdbVerif.Model.ConfigSpec
import EdbVerif.Lemmas.ConfigTraverse
import EdbVerif.Lemmas.ListAux
namespace EdbVerif.Config

/-- `get_field_unique_site` returns the LAST type of the chain self, parent, …
    on which the field is unique (i.e. the top-most one), if any -/
theorem siteWalk_last (k : String) : ∀ (chain : List TBase) (site : Option String),
    siteWalk k chain site =
      (match (chain.filter (fun b => fieldUniqueIn b.fields k)).getLast? with
       | some b => some b.name
       | none => site) := by
  intro chain
  induction chain with
  | nil => intro site; rfl
  | cons b r ih =>
    intro site
    unfold siteWalk
    rw [ih]
    by_cases hb : fieldUniqueIn b.fields k = true
    · simp only [hb, if_true, List.filter_cons]
      cases hr : (r.filter (fun b => fieldUniqueIn b.fields k)) with
      | nil => simp
      | cons c cs =>
        simp only [List.getLast?_cons_cons]
        cases hl : (c :: cs).getLast? with
        | none => simp at hl
        | some d => rfl
    · simp [hb]

theorem uniqueSite_top (t : TSpec) (k : String) :
    t.uniqueSite k =
      ((({ name := t.name, fields := t.fields } : TBase) :: t.ancestors).filter
          (fun b => fieldUniqueIn b.fields k)).getLast?.map (·.name) := by
  unfold TSpec.uniqueSite
  rw [siteWalk_last]
  cases (List.filter (fun b => fieldUniqueIn b.fields k)
    (({ name := t.name, fields := t.fields } : TBase) :: t.ancestors)).getLast? <;> rfl

theorem exclHas_append (ex1 ex2 : Excl) (s k : String) (v : FVal)
    (h : exclHas (ex1 ++ ex2) s k v = false) : exclHas ex2 s k v = false := by
  unfold exclHas at *
  simp only [List.any_append, Bool.or_eq_false_iff] at h
  exact h.2

theorem exclStep_spec (o : Obj) : ∀ (ks : List String) (ex ex' : Excl),
    exclStep o ks ex = .ok ex' →
    ex' = (ks.filterMap o.exclEntry).reverse ++ ex ∧
    ∀ e ∈ ks.filterMap o.exclEntry, exclHas ex e.1 e.2.1 e.2.2 = false := by
  intro ks
  induction ks with
  | nil => intro ex ex' h; simp [exclStep] at h; subst h; simp
  | cons k r ih =>
    intro ex ex' h
    unfold exclStep at h
    cases he : o.exclEntry k with
    | none =>
      simp only [he] at h
      simp only [List.filterMap_cons, he]
      exact ih ex ex' h
    | some e0 =>
      simp only [he] at h
      split at h
      · cases h
      · rename_i hh
        obtain ⟨e1, e2⟩ := ih _ ex' h
        refine ⟨by simp [he, e1], ?_⟩
        intro e hmem
        simp only [List.filterMap_cons, he, List.mem_cons] at hmem
        rcases hmem with rfl | hmem
        · simpa using hh
        · exact exclHas_append [e0] ex _ _ _ (e2 e hmem)

/-- what the loop maintains (`excl`: `exclusive_keys` holds the entries of every object seen, so that
    passing the `exclHas` test clears a new object against each earlier one: `noClash_of_exclHas`) -/
structure UniqInv (acc : List Obj × Excl) : Prop where
  ne : acc.1.Pairwise (fun a b => a.pyEq b = false)
  noClash : acc.1.Pairwise NoClash
  excl : ∀ a ∈ acc.1, ∀ e ∈ a.exclEntries, e ∈ acc.2

theorem UniqInv.nil : UniqInv ([], []) := ⟨.nil, .nil, nofun⟩

theorem noClash_of_exclHas (ex : Excl) (a o : Obj) (ha : ∀ e ∈ a.exclEntries, e ∈ ex)
    (ho : ∀ e ∈ o.exclEntries, exclHas ex e.1 e.2.1 e.2.2 = false) : NoClash a o := by
  intro ea hea eb heb h1 h2
  have hno := ho eb heb
  unfold exclHas at hno
  rw [List.any_eq_false] at hno
  simpa [h1, h2] using hno ea (ha ea hea)

theorem uniqStep_ok (acc acc' : List Obj × Excl) (o : Obj) (h : uniqStep acc o = .ok acc')
    (hinv : UniqInv acc) : acc'.1 = acc.1 ++ [o] ∧ UniqInv acc' := by
  unfold uniqStep at h
  cases hx : exclStep o (o.tspec.fields.map (·.name)) acc.2 with
  | error e => simp [hx] at h
  | ok ex =>
    obtain ⟨e1, e2⟩ := exclStep_spec o _ _ _ hx
    simp only [hx] at h
    split at h
    · cases h
    · rename_i hany
      simp only [Except.ok.injEq] at h
      subst h e1
      refine ⟨rfl, ListAux.pairwise_snoc.2 ⟨hinv.ne, by simpa using hany⟩, ListAux.pairwise_snoc.2 ⟨hinv.noClash, ?_⟩, ?_⟩
      · exact fun a ha => noClash_of_exclHas acc.2 a o (hinv.excl a ha) e2
      · exact ListAux.forall_mem_snoc (fun a ha e he => List.mem_append_right _ (hinv.excl a ha e he))
          fun e he => List.mem_append_left _ (List.mem_reverse.2 he)

/-- `produce` is the identity for `checkUnique` and `objOfJson` for `coerceObjectSet` -/
theorem checkUniqueFrom_ok {α : Type} (produce : α → Except Err Obj) : ∀ (l : List α)
    (acc : List Obj × Excl) (l' : List Obj),
    checkUniqueFrom produce l acc = .ok l' → UniqInv acc →
    ∃ os, mapE produce l = .ok os ∧ l' = acc.1 ++ os ∧
      l'.Pairwise (fun a b => a.pyEq b = false) ∧ l'.Pairwise NoClash ∧
      l'.length ≤ MAX_CONFIG_SET_SIZE := by
  intro l
  induction l with
  | nil =>
    intro acc l' h hinv
    unfold checkUniqueFrom at h
    split at h
    · cases h
    · simp only [Except.ok.injEq] at h
      subst h
      exact ⟨[], rfl, by simp, hinv.ne, hinv.noClash, by omega⟩
  | cons x r ih =>
    intro acc l' h hinv
    unfold checkUniqueFrom at h
    cases hx : produce x with
    | error e => simp [hx] at h
    | ok o =>
      cases hstep : uniqStep acc o with
      | error e => simp [hx, hstep] at h
      | ok acc' =>
        simp only [hx, hstep] at h
        obtain ⟨h1, hinv'⟩ := uniqStep_ok acc acc' o hstep hinv
        obtain ⟨os, e1, e2, e3⟩ := ih acc' l' h hinv'
        exact ⟨o :: os, mapE_cons_ok hx e1, by simp [e2, h1], e3⟩

theorem checkUnique_ok (l l' : List Obj) (h : checkUnique l = .ok l') :
    l' = l ∧ l'.Pairwise (fun a b => a.pyEq b = false) ∧ l'.Pairwise NoClash ∧
    l'.length ≤ MAX_CONFIG_SET_SIZE := by
  obtain ⟨os, h1, h2, h3⟩ := checkUniqueFrom_ok _ l ([], []) l' h .nil
  rw [mapE_map _ (fun o => o) l fun _ _ => rfl, List.map_id'] at h1
  cases h1
  exact ⟨by simpa using h2, h3⟩

theorem coerceObjectSet_ok (sp : Spec) (t : TSpec) (so : Bool) (v : JV) (l : List Obj)
    (h : coerceObjectSet sp t so v = .ok l) :
    ∃ items, sizedItems v = some items ∧ mapE (objOfJson sp t) items = .ok l ∧
      l.Pairwise (fun a b => a.pyEq b = false) ∧ l.Pairwise NoClash := by
  unfold coerceObjectSet at h
  cases hsi : sizedItems v with
  | none => simp [hsi] at h
  | some items =>
    simp only [hsi] at h
    split at h
    · cases h
    · obtain ⟨os, h1, h2, h3, h4, _⟩ := checkUniqueFrom_ok _ items ([], []) l h .nil
      simp only [List.nil_append] at h2
      subst h2
      exact ⟨items, rfl, h1, h3, h4⟩

end EdbVerif.Config
