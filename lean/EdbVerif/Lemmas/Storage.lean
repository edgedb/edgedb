/-
C05: the invariant `catalog ≈ layout(schema)` over every guarded history of the
storage machine, and its corollaries.
-/
import EdbVerif.Lemmas.StorageSteps

namespace EdbVerif.Storage

theorem sat_restores {s : Schema} {c : Catalog} (w : WF s) (he : c.Equiv (layout s)) (d : DDL)
    (hsafe : safeStep s d = true) : Sat (Restores c) (emit s d) := by
  cases d with
  | createType t name ab => exact .ite (fun _ => .none) fun h => .some (step_createType w he t name ab h)
  | dropType t => exact step_dropType w he t
  | renameType t | setAbstract t | setBases t =>
    exact .ite (fun _ => .some (step_updType w he t fun _ => rfl)) fun _ => .none
  | createPtr p => exact step_createPtr w he p
  | dropPtr i => exact step_dropPtr w he i
  | renamePtr i nm => exact step_renamePtr w he i nm hsafe
  | setSingle i b => exact step_setSingle w he i b
  | setRequired i b => exact step_setRequired w he i b
  | setExpr i b => exact step_setExpr w he i b hsafe
  | resetExpr i => exact step_resetExpr w he i hsafe
  | addLProp i lp => exact step_addLProp w he i lp hsafe
  | dropLProp i lp => exact step_dropLProp w he i lp
  | renameLProp i lp name => exact step_renameLProp w he i lp name hsafe
  | setLPropComputed i lp b => exact step_setLPropComputed w he i lp b

theorem emit_ok {s s' : Schema} {c : Catalog} {d : DDL} {ops : List Op} (w : WF s)
    (he : c.Equiv (layout s)) (hsafe : safeStep s d = true) (hem : emit s d = some (s', ops)) :
    Restores c s' ops :=
  (sat_restores w he d hsafe).elim hem

theorem stepDDL_ok_iff {st st' : State} {d : DDL} :
    stepDDL st d = .ok st' ↔ ∃ ops, emit st.schema d = some (st'.schema, ops) ∧
      execAll st.catalog ops = some st'.catalog := by
  unfold stepDDL
  rcases emit st.schema d with _ | ⟨s', ops⟩
  · exact ⟨nofun, nofun⟩
  · dsimp only
    constructor
    · intro h
      cases hex : execAll st.catalog ops with
      | none => rw [hex] at h; cases h
      | some c' => rw [hex] at h; cases h; exact ⟨ops, rfl, hex⟩
    · rintro ⟨_, ⟨⟩, h⟩
      rw [h]

def Guarded : Except Err State → Prop
  | .ok st' => Inv st'
  | .error e => e ≠ .backend

theorem Guarded.ok {r : Except Err State} {st' : State} (h : Guarded r) (hr : r = .ok st') : Inv st' := by
  subst hr; exact h

theorem Guarded.error {r : Except Err State} (h : Guarded r) : r ≠ .error .backend := by
  rintro rfl; exact h rfl

theorem stepDDL_guarded {st : State} {d : DDL} (hinv : Inv st) (hsafe : safeStep st.schema d = true) :
    Guarded (stepDDL st d) := by
  unfold stepDDL
  cases hem : emit st.schema d with
  | none => exact nofun
  | some r =>
    obtain ⟨c', hex, w', he'⟩ := emit_ok hinv.1 hinv.2 hsafe hem
    simp only [hex]
    exact ⟨w', he'⟩

theorem inv_init : Inv {} := by
  refine ⟨⟨List.nodup_nil, ?_, ?_, ?_, ?_⟩, equiv_refl _⟩ <;> exact fun _ h => nomatch h

theorem run_guarded (h : List DDL) {st : State} (hinv : Inv st) (hsafe : safeRun st h = true) :
    Guarded (run st h) := by
  induction h generalizing st with
  | nil => exact hinv
  | cons d ds ih =>
    simp only [safeRun, Bool.and_eq_true] at hsafe
    have h1 := stepDDL_guarded hinv hsafe.1
    unfold run
    cases hstep : stepDDL st d with
    | ok st1 => rw [hstep] at h1 hsafe; exact ih h1 hsafe.2
    | error e => rw [hstep] at h1; exact h1

theorem rename_catalog {st st' : State} {d : DDL}
    (hd : (∃ t n, d = .renameType t n) ∨ (∃ i n, d = .renamePtr i n) ∨ (∃ i l n, d = .renameLProp i l n))
    (h : stepDDL st d = .ok st') : st'.catalog = st.catalog := by
  obtain ⟨ops, hem, hex⟩ := stepDDL_ok_iff.mp h
  have hops : Sat (fun _ ops => ops = []) (emit st.schema d) := by
    rcases hd with ⟨t, n, rfl⟩ | ⟨i, n, rfl⟩ | ⟨i, l, n, rfl⟩
    · exact .ite (fun _ => .some rfl) fun _ => .none
    · exact .matchPtr fun _ _ => .ite (fun _ => .none) fun _ => .some rfl
    · exact .matchPtr fun _ _ => .ite (fun _ => .some rfl) fun _ => .none
  cases hops.elim hem
  exact (Option.some.inj hex).symm

theorem not_equiv_of_col {a b : Catalog} (x : TName × CName) (h : ¬ (x ∈ a.cols ↔ x ∈ b.cols)) : ¬ a.Equiv b :=
  fun e => h (e.2 x)

theorem empty_of_equiv_empty {c : Catalog} {s : Schema} (h : c.Equiv (layout s))
    (ht : s.types = []) (hp : s.ptrs = []) : c.tables = [] ∧ c.cols = [] := by
  constructor
  · apply List.eq_nil_iff_forall_not_mem.mpr
    intro t hc
    have := (h.1 t).mp hc
    simp [layout, ht, hp] at this
  · apply List.eq_nil_iff_forall_not_mem.mpr
    intro x hc
    have := (h.2 x).mp hc
    simp [layout, hp] at this

end EdbVerif.Storage
