/-
C18, SQL side: `edb/pgsql/common.py` quoting functions (`quote_literal`,
`quote_e_literal`, `quote_ident`, `quote_bytea_literal`) read back by the
PostgreSQL lexical rules of `Model/PgLex.lean`; at the end, length and
characters of what `edgedb_name_to_pg_name` returns (`edgedbName_*`).
-/
import EdbVerif.Model.PgLex
import EdbVerif.Lemmas.QuoteBasic

namespace EdbVerif.PgLex
open EdbVerif.Quote

theorem stdStr_gap (r0 : List Char) (nl : Bool) (l : List Char) (h : continues nl l = false) :
    stdStr (.gap nl r0) l = .ok ([], r0) := by
  fun_induction continues nl l <;> simp_all [stdStr]

theorem stdStr_close (r0 l : List Char) (hq : l.head? ≠ some '\'')
    (hc : continues false l = false) : stdStr (.close r0) l = .ok ([], r0) := by
  cases l with
  | nil => simp [stdStr]
  | cons c cs =>
    have hne : c ≠ '\'' := by simpa using hq
    simp only [continues] at hc
    by_cases hs : isSpace c = true
    · simp only [hs, if_true, Bool.false_or] at hc
      simp [stdStr, hne, hs, stdStr_gap r0 _ cs hc]
    · simp [stdStr, hne, hs]

theorem pgQuoteLiteral_lex (s rest : List Char) (h0 : ∀ c ∈ s, c.toNat ≠ 0)
    (hq : rest.head? ≠ some '\'') (hc : continues false rest = false) :
    lexStd (pgQuoteLiteral s ++ rest) = .ok (s, rest) := by
  suffices h : stdStr .inStr (replaceChar '\'' ['\'', '\''] s ++ '\'' :: rest) = .ok (s, rest) by
    simpa [pgQuoteLiteral, lexStd] using h
  induction s with
  | nil => simp [stdStr, stdStr_close rest rest hq hc]
  | cons c cs ih =>
    have ih' := ih (fun x hx => h0 x (by simp [hx]))
    by_cases h : c = '\''
    · subst h
      rw [replaceChar_cons_self]
      simp [stdStr, ih']
    · rw [replaceChar_cons_ne _ _ _ _ h]
      simp [stdStr, h, h0 c (by simp), ih']

theorem escStr_gap (r0 : List Char) (nl : Bool) (l : List Char) (h : continues nl l = false) :
    escStr (.gap nl r0) l = .ok ([], r0) := by
  fun_induction continues nl l <;> simp_all [escStr]

theorem escStr_close (r0 l : List Char) (hq : l.head? ≠ some '\'')
    (hc : continues false l = false) : escStr (.close r0) l = .ok ([], r0) := by
  cases l with
  | nil => simp [escStr]
  | cons c cs =>
    have hne : c ≠ '\'' := by simpa using hq
    simp only [continues] at hc
    by_cases hs : isSpace c = true
    · simp only [hs, if_true, Bool.false_or] at hc
      simp [escStr, hne, hs, escStr_gap r0 _ cs hc]
    · simp [escStr, hne, hs]

theorem eEscape_noBackslash (s : List Char) (h : ∀ c ∈ s, c ≠ '\\') :
    eEscape s = replaceChar '\'' ['\\', '\''] s := by
  fun_induction eEscape s with
  | case1 => rfl
  | case2 => rfl
  | case3 c hc => simp [replaceChar, hc]
  | case4 c d t hc ih => exact absurd hc.1 (h c (by simp))
  | case5 d t _ ih => rw [replaceChar_cons_self, ih (fun x hx => h x (by simp [hx]))]; rfl
  | case6 c d t _ hc ih => rw [replaceChar_cons_ne _ _ _ _ hc, ih (fun x hx => h x (by simp [hx]))]

theorem pgQuoteELiteral_lex (s rest : List Char) (h0 : ∀ c ∈ s, c.toNat ≠ 0 ∧ c ≠ '\\')
    (hq : rest.head? ≠ some '\'') (hc : continues false rest = false) :
    lexEsc (pgQuoteELiteral s ++ rest) = .ok (s, rest) := by
  suffices h : escStr (.inStr 0) (replaceChar '\'' ['\\', '\''] s ++ '\'' :: rest) = .ok (s, rest) by
    simpa [pgQuoteELiteral, eEscape_noBackslash s fun c hc => (h0 c hc).2, lexEsc] using h
  induction s with
  | nil => simp [escStr, escStr_close rest rest hq hc]
  | cons c cs ih =>
    have ih' := ih (fun x hx => h0 x (by simp [hx]))
    by_cases h : c = '\''
    · subst h
      have he : ∀ tl, eEscapeAt ('\'' :: tl) = .ok ('\'', 1) := fun _ => rfl
      rw [replaceChar_cons_self]
      simp [escStr, he, ih']
    · rw [replaceChar_cons_ne _ _ _ _ h]
      simp [escStr, h, (h0 c (by simp)).1, (h0 c (by simp)).2, ih']

theorem scanDq_quoted (s rest : List Char) (h0 : ∀ c ∈ s, c.toNat ≠ 0)
    (hq : rest.head? ≠ some '"') :
    scanDq (replaceChar '"' ['"', '"'] s ++ '"' :: rest) = .ok (s, rest) := by
  induction s with
  | nil =>
    cases rest with
    | nil => simp [scanDq]
    | cons d ds =>
      have : d ≠ '"' := by simpa using hq
      simp [scanDq, this]
  | cons c cs ih =>
    have ih' := ih (fun x hx => h0 x (by simp [hx]))
    by_cases h : c = '"'
    · subst h
      rw [replaceChar_cons_self]
      simp [scanDq, ih']
    · rw [replaceChar_cons_ne _ _ _ _ h, List.cons_append]
      cases hX : replaceChar '"' ['"', '"'] cs ++ '"' :: rest with
      | nil => simp at hX
      | cons d ds =>
        rw [hX] at ih'
        simp [scanDq, h, h0 c (by simp), ih']

theorem clip_of_le (s : List Char) : ∀ n, utf8Len s ≤ n → clip n s = s := by
  induction s with
  | nil => intro n _; simp [clip]
  | cons c cs ih =>
    intro n h
    simp only [utf8Len, List.map_cons, List.sum_cons] at h
    have h1 : c.utf8Size ≤ n := by omega
    have h2 : utf8Len cs ≤ n - c.utf8Size := by simp only [utf8Len]; omega
    simp [clip, h1, ih _ h2]

theorem pgQuoteIdentRaw_lex (s rest : List Char) (hne : s ≠ []) (h0 : ∀ c ∈ s, c.toNat ≠ 0)
    (hlen : utf8Len s ≤ 63) (hq : rest.head? ≠ some '"') :
    lexIdent (pgQuoteIdentRaw s ++ rest) = .ok (.ident s, rest) := by
  have := scanDq_quoted s rest h0 hq
  simp only [pgQuoteIdentRaw, List.cons_append, List.append_assoc, List.nil_append] at this ⊢
  have he : s.isEmpty = false := by cases s <;> simp_all
  simp [lexIdent, this, he, nameDataLen, clip_of_le s 63 hlen]

theorem identTail_of_all (t rest : List Char) (h : ∀ c ∈ t, isIdentCont c = true)
    (hd : rest = [] ∨ ∃ c cs, rest = c :: cs ∧ isIdentCont c = false) :
    identTail (t ++ rest) = (t, rest) := by
  induction t with
  | nil =>
    rcases hd with rfl | ⟨c, cs, rfl, hc⟩
    · simp [identTail]
    · simp [identTail, hc]
  | cons c cs ih =>
    simp [identTail, h c (by simp), ih (fun x hx => h x (by simp [hx]))]

/-- what the lexer is allowed to return for an identifier `s` -/
def PgIdentLike (column : Bool) (s : List Char) (t : IdTok) : Prop :=
  t = .ident s ∨ t = .keyword s 1 ∨ (column = false ∧ t = .keyword s 4)

def bareDelim (s rest : List Char) : Prop :=
  (rest = [] ∨ ∃ c cs, rest = c :: cs ∧ isIdentCont c = false) ∧
  rest.head? ≠ some '\'' ∧ (s = ['u'] → rest.head? ≠ some '&')

theorem lexIdent_bare (c : Char) (t rest : List Char) (hstart : isIdentStart c = true)
    (htail : ∀ x ∈ t, isIdentCont x = true) (hlow : (c :: t).map asciiLower = c :: t)
    (hlen : utf8Len (c :: t) ≤ 63)
    (hd : rest = [] ∨ ∃ c cs, rest = c :: cs ∧ isIdentCont c = false)
    (hpre : ¬ (rest.head? = some '\'' ∧ (c :: t = ['e'] ∨ c :: t = ['b'] ∨ c :: t = ['x'] ∨ c :: t = ['n'])))
    (hu : c :: t = ['u'] → rest.head? ≠ some '&') :
    lexIdent (c :: t ++ rest) = match keywordCategory (c :: t) with
      | some k => .ok (.keyword (c :: t) k, rest)
      | none => .ok (.ident (c :: t), rest) := by
  have hq : c ≠ '"' := by rintro rfl; simp [isIdentStart, isAsciiLetter] at hstart
  have hp2 : ¬ (c :: t = ['u'] ∧ (rest.take 2 = ['&', '\''] ∨ rest.take 2 = ['&', '"'])) := by
    rintro ⟨h1, h2⟩
    refine hu h1 ?_
    cases rest with
    | nil => simp at h2
    | cons a as =>
      simp only [List.take_succ_cons, List.cons.injEq] at h2
      simp [h2.elim (·.1) (·.1)]
  unfold lexIdent
  simp only [List.cons_append, hq, if_false, hstart, if_true, identTail_of_all t rest htail hd,
    hlow, hpre, hp2, nameDataLen, clip_of_le (c :: t) 63 hlen]
  rfl

theorem alnum_identCont (P : PyUnicode) (x : Char)
    (h : pyIsAlnum P (if x = '_' then 'a' else x) = true) : isIdentCont x = true := by
  by_cases hu : x = '_'
  · subst hu; decide
  · simp only [isIdentCont, isIdentStart, isAsciiLetter, isDigit, Bool.or_eq_true, Bool.and_eq_true,
      decide_eq_true_eq]
    by_cases ha : x.toNat < 128
    · simp only [hu, if_false, pyIsAlnum, ha, if_true, Lex.isAsciiLetter, Lex.isDigit, Bool.or_eq_true,
        Bool.and_eq_true, decide_eq_true_eq] at h
      omega
    · omega
theorem pgBare_lex (P : PyUnicode) (s rest : List Char) (column : Bool)
    (hnq : pgNeedsQuoting P s column = false) (hlow : s.map asciiLower = s)
    (hlen : utf8Len s ≤ 63) (hd : bareDelim s rest) :
    ∃ t, lexIdent (s ++ rest) = .ok (t, rest) ∧ PgIdentLike column s t := by
  cases s with
  | nil => simp [pgNeedsQuoting] at hnq
  | cons c t =>
    simp only [pgNeedsQuoting, Bool.or_eq_false_iff, Bool.not_eq_false', Bool.and_eq_true,
      Bool.not_eq_true', List.all_eq_true, decide_eq_false_iff_not, Decidable.not_not,
      Bool.and_eq_false_imp] at hnq
    obtain ⟨⟨⟨⟨⟨hdec, hall⟩, hres⟩, htf⟩, hcol⟩, hl⟩ := hnq
    rw [hl] at hres htf hcol
    -- the first character is alphanumeric-or-`_` for Python and not decimal: a letter, `_` or
    -- non-ASCII, since `$`, the only other `ident_cont` character, is not alphanumeric
    have hstart : isIdentStart c = true := by
      have h1 := alnum_identCont P c (hall c (by simp))
      by_cases ha : c.toNat < 128
      · simp only [pyIsDecimal, ha, if_true, Lex.isDigit] at hdec
        have : c ≠ '$' := by
          rintro rfl
          simp [pyIsAlnum, Lex.isAsciiLetter, Lex.isDigit] at hall
        simp only [isIdentCont, isDigit, Bool.or_eq_true, this, decide_false, Bool.or_false] at h1
        exact h1.resolve_right (by simpa using hdec)
      · simp only [isIdentStart]; simp; omega
    rw [lexIdent_bare c t rest hstart (fun x hx => alnum_identCont P x (hall x (by simp [hx]))) hlow hlen
      hd.1 (fun h => hd.2.1 h.1) hd.2.2]
    simp only [keywordCategory]
    have hres' : c :: t ∉ Gen.PgKeywords.reserved := by simpa using hres
    have htf' : c :: t ∉ Gen.PgKeywords.typeFuncName := by simpa using htf
    by_cases hu : c :: t ∈ Gen.PgKeywords.unreserved
    · exact ⟨_, by simp [hu], Or.inr (Or.inl rfl)⟩
    · by_cases hcn : c :: t ∈ Gen.PgKeywords.colName
      · refine ⟨_, by simp [hu, hres', htf', hcn], Or.inr (Or.inr ⟨?_, rfl⟩)⟩
        cases column with
        | false => rfl
        | true => have := hcol rfl; simp [hcn] at this
      · exact ⟨_, by simp [hu, hres', htf', hcn], Or.inl rfl⟩

theorem isHexLower_not_quote_nul_space (c : Char) (h : Lex.IsHexLower c) :
    c ≠ '\'' ∧ c.toNat ≠ 0 ∧ isSpace c = false := by
  refine ⟨Lex.isHexLower_ne h _ (by decide), ?_⟩
  simp only [isSpace, Bool.or_eq_false_iff, decide_eq_false_iff_not]
  omega

/-- `PgLex.hexVal` is written like `Lex.hexVal` -/
theorem hexVal_hexDigit (x : Nat) : hexVal (hexDigit (x % 16)) = some (x % 16) := Lex.hexVal_hexDigit x

theorem byteaHex_hex (b : List UInt8) : byteaHex (b.flatMap (fun x => hex2 x.toNat)) = .ok b := by
  induction b with
  | nil => rfl
  | cons x xs ih =>
    have hx : x.toNat < 256 := UInt8.toNat_lt x
    have h3 := (isHexLower_not_quote_nul_space _ (Lex.isHexLower_hexDigit (x.toNat / 16))).2.2
    have e : x.toNat / 16 % 16 * 16 + x.toNat % 16 = x.toNat := by omega
    simp only [hex2] at ih
    simp only [List.flatMap_cons, hex2, List.cons_append, List.nil_append, byteaHex, hexVal_hexDigit, h3, ih]
    simp [e]

theorem lexIdent_bytea (rest : List Char)
    (hd : rest = [] ∨ ∃ c cs, rest = c :: cs ∧ isIdentCont c = false) :
    lexIdent ('b' :: 'y' :: 't' :: 'e' :: 'a' :: rest) = .ok (.ident ['b', 'y', 't', 'e', 'a'], rest) := by
  have := lexIdent_bare 'b' ['y', 't', 'e', 'a'] rest (by decide) (by decide) (by decide) (by decide) hd
    (fun h => absurd h.2 (by decide)) (fun h => absurd h (by decide))
  rwa [show keywordCategory ['b', 'y', 't', 'e', 'a'] = none by decide +kernel] at this

theorem lexByteaLit_cast (v : List Char) (b : List UInt8) (rest : List Char)
    (hv : ∀ c ∈ v, c ≠ '\'' ∧ c.toNat ≠ 0) (hin : byteaIn v = .ok b)
    (hd : rest = [] ∨ ∃ c cs, rest = c :: cs ∧ isIdentCont c = false) :
    lexByteaLit ('\'' :: v ++ '\'' :: byteaCast ++ rest) = .ok (b, rest) := by
  have := pgQuoteLiteral_lex v (byteaCast ++ rest) (fun c hc => (hv c hc).2) (by simp [byteaCast])
    (by simp [continues, isSpace, byteaCast])
  simp only [pgQuoteLiteral, replaceChar_of_not_mem _ _ v fun c hc => (hv c hc).1, List.cons_append,
    List.append_assoc, List.nil_append] at this
  simp only [lexByteaLit, List.cons_append, List.append_assoc, this]
  simp [byteaCast, lexIdent_bytea rest hd, hin]

theorem pgQuoteBytea_lex (b : List UInt8) (rest : List Char)
    (hd : rest = [] ∨ ∃ c cs, rest = c :: cs ∧ isIdentCont c = false) :
    lexByteaLit (pgQuoteBytea b ++ rest) = .ok (b, rest) := by
  by_cases hb : b = []
  · subst hb
    exact lexByteaLit_cast [] [] rest (by simp) rfl hd
  · have hv : ∀ c ∈ '\\' :: 'x' :: b.flatMap (fun x => hex2 x.toNat), c ≠ '\'' ∧ c.toNat ≠ 0 := by
      intro c hc
      simp only [List.mem_cons, List.mem_flatMap] at hc
      rcases hc with rfl | rfl | ⟨x, _, hx⟩
      · decide
      · decide
      · have := isHexLower_not_quote_nul_space c ((Lex.isHexLower_hex x.toNat).1 c hx)
        exact ⟨this.1, this.2.1⟩
    have := lexByteaLit_cast _ b rest hv (by simp [byteaIn, byteaHex_hex]) hd
    simpa only [pgQuoteBytea, List.isEmpty_iff, hb, if_false, List.cons_append, List.append_assoc] using this

theorem utf8Size_ascii (c : Char) (h : c.toNat < 128) : c.utf8Size = 1 :=
  Char.utf8Size_eq_one_iff.mpr (UInt32.le_iff_toNat_le.mpr (Nat.le_of_lt_succ h))

theorem utf8Len_ascii (s : List Char) (h : ∀ c ∈ s, c.toNat < 128) : utf8Len s = s.length := by
  induction s with
  | nil => rfl
  | cons c cs ih =>
    have := ih (fun x hx => h x (by simp [hx]))
    simp only [utf8Len, List.map_cons, List.sum_cons, List.length_cons] at this ⊢
    rw [utf8Size_ascii c (h c (by simp)), this]; omega

theorem edgedbName_cases (hash : List Char → List Char) (name r : List Char) (pl : Nat)
    (h : edgedbNameToPgName hash name pl = some r) :
    (name.length ≤ maxNameLength - pl ∧ r = name) ∨ r = pgNameHashed (hash name) name pl := by
  unfold edgedbNameToPgName at h
  split at h
  · simp at h
  · split at h <;> simp at h
    · exact Or.inl ⟨‹_›, h.symm⟩
    · exact Or.inr h.symm

theorem lastN_length_le (k : Nat) (l : List Char) : (lastN k l).length ≤ k := by
  simp only [lastN, List.length_drop]
  omega

/-- the result never has more than `MAX_NAME_LENGTH` = 51 CHARACTERS (for the
    prefix lengths below 28, i.e. a positive tail bound; callers use 0) -/
theorem edgedbName_length (hash : List Char → List Char) (name r : List Char) (pl : Nat)
    (hh : (hash name).length = 22) (hpl : pl ≤ 27)
    (h : edgedbNameToPgName hash name pl = some r) : r.length ≤ maxNameLength := by
  rcases edgedbName_cases hash name r pl h with ⟨h1, rfl⟩ | rfl
  · omega
  · have : pl + 1 + 22 < maxNameLength := by simp only [maxNameLength]; omega
    have h1 := List.length_take_le pl name
    have h2 := lastN_length_le (maxNameLength - (pl + 1 + 22)) name
    simp only [pgNameHashed, hh, this, if_true, List.length_append, List.length_cons, List.length_nil]
    omega

theorem edgedbName_mem (hash : List Char → List Char) (name r : List Char) (pl : Nat)
    (h : edgedbNameToPgName hash name pl = some r) :
    ∀ c ∈ r, c ∈ name ∨ c ∈ hash name ∨ c = ':' := by
  rcases edgedbName_cases hash name r pl h with ⟨_, rfl⟩ | rfl
  · exact fun c hc => Or.inl hc
  · intro c hc
    simp only [pgNameHashed, lastN, List.mem_append, List.mem_singleton] at hc
    rcases hc with ((hc | hc) | hc) | hc
    · exact Or.inl (List.mem_of_mem_take hc)
    · exact Or.inr (Or.inl hc)
    · exact Or.inr (Or.inr hc)
    · split at hc <;> exact Or.inl (List.mem_of_mem_drop hc)

theorem edgedbName_nonempty (hash : List Char → List Char) (name r : List Char) (pl : Nat)
    (hne : name ≠ []) (h : edgedbNameToPgName hash name pl = some r) : r ≠ [] := by
  rcases edgedbName_cases hash name r pl h with ⟨_, rfl⟩ | rfl
  · exact hne
  · simp [pgNameHashed]

end EdbVerif.PgLex
