/-
C11: the concrete schema algebra (finite map name ↦ body) — independent
declarations commute; `completeB`; nested documents.
-/
import EdbVerif.Lemmas.Sdl

namespace EdbVerif.Sdl
open EdbVerif.Topo

def Schema.ok (s : Schema) (it : Item) : Bool :=
  !(s it.name).isSome && it.req.all fun r => (s r).isSome

def Schema.upd (s : Schema) (it : Item) : Schema :=
  fun k => if k = it.name then some it.body else s k

theorem Schema.apply_eq (s : Schema) (it : Item) :
    s.apply it = if s.ok it then some (s.upd it) else none := by
  unfold Schema.apply Schema.ok
  cases (s it.name).isSome
  · rfl
  · rfl

theorem Schema.upd_of_ne {s : Schema} {it : Item} {k : Nat} (h : k ≠ it.name) :
    s.upd it k = s k :=
  if_neg h

theorem Schema.ok_upd {s : Schema} {a b : Item} (hne : a.name ≠ b.name) (hr : a.name ∉ b.req) :
    (s.upd a).ok b = s.ok b := by
  unfold Schema.ok
  rw [upd_of_ne (Ne.symm hne)]
  congr 1
  rw [Bool.eq_iff_iff, List.all_eq_true, List.all_eq_true]
  exact forall₂_congr fun r hrb => by rw [upd_of_ne fun e => hr (e ▸ hrb)]

theorem Schema.upd_comm {s : Schema} {a b : Item} (hne : a.name ≠ b.name) :
    (s.upd a).upd b = (s.upd b).upd a := by
  funext k
  unfold Schema.upd
  by_cases ha : k = a.name
  · rw [if_pos ha, if_pos ha, if_neg (ha ▸ hne)]
  · rw [if_neg ha, if_neg ha]

theorem Schema.apply_apply {s : Schema} {a b : Item} (hne : a.name ≠ b.name)
    (hr : a.name ∉ b.req) :
    (s.apply a).bind (fun s' => s'.apply b)
      = if s.ok a && s.ok b then some ((s.upd a).upd b) else none := by
  rw [apply_eq]
  cases s.ok a
  · rfl
  · rw [if_pos rfl, Option.bind_some, apply_eq, ok_upd hne hr]
    rfl

theorem mapAlgebra_commutes : mapAlgebra.Commutes := by
  intro s a b h
  show (s.apply a).bind (fun s' => s'.apply b) = (s.apply b).bind (fun s' => s'.apply a)
  rw [Schema.apply_apply h.1 h.2.2, Schema.apply_apply (Ne.symm h.1) h.2.1, Bool.and_comm,
    Schema.upd_comm h.1]

theorem reachN_sound (g : Graph) (k : Nat) {n : Nat} {S : List Nat}
    (h : ∀ y ∈ S, Relation.TransGen (Hard g) k y) :
    ∀ y ∈ reachN g n S, Relation.TransGen (Hard g) k y := by
  induction n generalizing S with
  | zero => exact h
  | succ n ih =>
    refine ih fun y hy => ?_
    rcases List.mem_append.mp (mem_dedup.mp hy) with hy | hy
    · exact h y hy
    · obtain ⟨x, hx, hyx⟩ := List.mem_flatMap.mp hy
      exact (h x hx).tail (mem_adj hyx)

theorem complete_of_completeB {d : Doc} (h : completeB d = true) : Complete d := by
  intro it hit r hr
  simp only [completeB, List.all_eq_true, List.contains_iff_mem] at h
  have t := reachN_sound (graph d) it.name
    (fun y hy => Relation.TransGen.single (mem_adj hy)) r (h it hit r hr)
  rwa [funext₂ fun a b => propext (hard_graph_iff d a b)] at t

theorem flattenList_cons (e : List Nat) (m : Decl) (ms : List Decl) :
    flattenList e (m :: ms) = m.flatten e ++ flattenList e ms :=
  rfl

theorem flatten_mk (e : List Nat) (h : Item) (ms : List Decl) :
    (Decl.mk h ms).flatten e = { h with encl := e } :: flattenList (e ++ [h.name]) ms :=
  rfl

theorem toksList_cons (t : Top) (ts : List Top) : toksList (t :: ts) = t.toks ++ toksList ts :=
  rfl

theorem toks_block (m : Nat) (es : List Top) : (Top.block m es).toks = Tok.enter m :: toksList es :=
  rfl

theorem toks_decl (d : Decl) : (Top.decl d).toks = (d.flatten []).map Tok.item :=
  rfl

theorem dperm_flatten {l l' : List Decl} (h : DPerm l l') :
    ∀ e, (flattenList e l).Perm (flattenList e l') := by
  -- each goal is met up to unfolding `flattenList` / `Decl.flatten` on `cons` / `mk` (the equations above, by `rfl`)
  induction h with
  | refl l => exact fun e => List.Perm.refl _
  | cons h _ _ ihm ihl => exact fun e => ((ihm _).cons _).append (ihl e)
  | swap a b l => exact fun e => List.perm_append_comm_assoc _ _ _
  | trans _ _ ih₁ ih₂ => exact fun e => (ih₁ e).trans (ih₂ e)

theorem tperm_toks {l l' : List Top} (h : TPerm l l') : (toksList l).Perm (toksList l') := by
  -- likewise up to unfolding `toksList` / `Top.toks`
  induction h with
  | refl l => exact List.Perm.refl _
  | consBlock m _ _ ihe ihl => exact (ihe.cons _).append ihl
  | consDecl h hm _ ihl => exact (((dperm_flatten hm _).cons _).map _).append ihl
  | swap a b l => exact List.perm_append_comm_assoc _ _ _
  | trans _ _ ih₁ ih₂ => exact ih₁.trans ih₂

end EdbVerif.Sdl
