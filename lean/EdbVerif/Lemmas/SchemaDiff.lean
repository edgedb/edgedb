/-
The plans of all classes at the fixed point of the comparison context describe
the difference between the renamed old schema and the new one (`Sched`), and the
recorded renames can be applied first (`RenOK`): `applyAll A (diff sim A B)` is `B` as a finite map.
`DiffRun` holds the hypotheses of a successful run, `ClassRun` the planner's facts about one class
as facts on keys.
-/
import EdbVerif.Lemmas.SchemaPlan
import EdbVerif.Lemmas.SchemaOrder
import EdbVerif.Lemmas.SchemaRename

namespace EdbVerif.Schema

theorem insertNew_spec (c : Nat) (l : List Nat) (hl : l.Nodup) :
    (insertNew c l).Nodup ∧ ∀ d, d ∈ insertNew c l ↔ d ∈ l ∨ d = c :=
  ⟨ListAux.nodup_snocNew List.contains_iff_mem hl, fun _ => ListAux.mem_snocNew List.contains_iff_mem⟩

theorem classList_aux (s : Schema) (acc : List Nat) (h : acc.Nodup) :
    (s.foldl (fun acc o => insertNew o.cls acc) acc).Nodup ∧
    ∀ d, d ∈ s.foldl (fun acc o => insertNew o.cls acc) acc ↔ d ∈ acc ∨ ∃ o ∈ s, o.cls = d := by
  induction s generalizing acc with
  | nil => exact ⟨h, fun d => by simp only [List.foldl_nil, List.not_mem_nil, false_and, exists_false, or_false]⟩
  | cons o os ih =>
    obtain ⟨h1, h1'⟩ := insertNew_spec o.cls acc h
    obtain ⟨h2, h2'⟩ := ih (insertNew o.cls acc) h1
    exact ⟨h2, fun d => by
      simp only [List.foldl_cons, h2', h1', List.mem_cons, exists_eq_or_imp, or_assoc, eq_comm (a := d)]⟩

theorem classList_nodup (s : Schema) : (classList s).Nodup := (classList_aux s [] List.nodup_nil).1

theorem mem_classList {s : Schema} {d : Nat} : d ∈ classList s ↔ ∃ o ∈ s, o.cls = d :=
  ((classList_aux s [] List.nodup_nil).2 d).trans (or_iff_right List.not_mem_nil)

theorem mem_classNames {s : Schema} {c : Nat} {n : String} : n ∈ classNames s c ↔ (c, n) ∈ keys s := by
  simp only [classNames, keys, List.mem_map, List.mem_filter, beq_iff_eq, Obj.key, Prod.mk.injEq, and_assoc]

theorem classNames_nodup {s : Schema} (h : (keys s).Nodup) (c : Nat) : (classNames s c).Nodup := by
  unfold classNames
  apply List.Nodup.map_on
  · intro o1 h1 o2 h2 e
    simp only [List.mem_filter, beq_iff_eq] at h1 h2
    apply Keyed.eq_of_key h h1.1 h2.1
    unfold Obj.key
    rw [h1.2, h2.2, e]
  · exact (List.Nodup.of_map _ h).filter _

theorem planRound_spec {sim : Sim} {ctx : Ctx} {A B : Schema} {cl : List Nat} {ps : List (Nat × Plan)}
    (h : planRound sim ctx A B cl = .ok ps) :
    ps.map (·.1) = cl ∧ ∀ cp ∈ ps,
      planObjs (envFor sim ctx A B cp.1) (classNames A cp.1) (classNames B cp.1) = .ok cp.2 := by
  induction cl generalizing ps with
  | nil =>
    cases h
    exact ⟨rfl, nofun⟩
  | cons c cs ih =>
    rw [planRound] at h
    split at h
    · cases h
    · rename_i p hp
      split at h
      · rename_i ps' hps'
        cases h
        obtain ⟨h1, h2⟩ := ih hps'
        exact ⟨congrArg (c :: ·) h1, List.forall_mem_cons.2 ⟨hp, h2⟩⟩
      · cases h

theorem planFix_spec {sim : Sim} {A B : Schema} {cl : List Nat} {fuel : Nat} {ctx0 ctx : Ctx}
    {ps : List (Nat × Plan)} (h : planFix sim A B cl fuel ctx0 = .ok (ps, ctx)) :
    planRound sim ctx A B cl = .ok ps ∧ ctxOf ps = ctx := by
  induction fuel generalizing ctx0 with
  | zero => cases h
  | succ f ih =>
    rw [planFix] at h
    split at h
    · cases h
    · rename_i ps' hps'
      split at h
      · rename_i he
        cases h
        exact ⟨hps', he⟩
      · exact ih h

theorem mem_ctxOf_renames {ps : List (Nat × Plan)} {r : Key × String} :
    r ∈ (ctxOf ps).renames ↔ ∃ cp ∈ ps, ∃ m ∈ cp.2.matched,
      m.conf.isSome = true ∧ m.x ≠ m.y ∧ r = ((cp.1, m.y), m.x) := by
  simp only [ctxOf, List.mem_flatMap, List.mem_filterMap, Option.ite_none_right_eq_some,
    Option.some.injEq, Bool.and_eq_true, bne_iff_ne, ne_eq, and_assoc, eq_comm (a := r)]

theorem ctxOf_renames_nodup {ps : List (Nat × Plan)} (hcl : (ps.map (·.1)).Nodup)
    {k : Key × String → Key} (f : Match → String) (hk : ∀ c (m : Match), k ((c, m.y), m.x) = (c, f m))
    (hnd : ∀ cp ∈ ps, (cp.2.matched.map f).Nodup) : ((ctxOf ps).renames.map k).Nodup := by
  unfold ctxOf
  rw [List.map_flatMap]
  apply nodup_flatMap_of_tag (·.1) (fun k : Key => k.1) hcl
  · intro cp _ b hb
    obtain ⟨r, hr, rfl⟩ := List.mem_map.1 hb
    obtain ⟨m, _, hr⟩ := List.mem_filterMap.1 hr
    obtain ⟨_, hr⟩ := Option.ite_none_right_eq_some.1 hr
    cases hr
    rw [hk]
  · intro cp hcp
    apply List.Nodup.of_map (fun k : Key => k.2)
    rw [List.map_map]
    refine (filterMap_sublist_map f _ ?_ cp.2.matched).nodup (hnd cp hcp)
    intro m r hr
    obtain ⟨_, hr⟩ := Option.ite_none_right_eq_some.1 hr
    cases hr
    exact congrArg Prod.snd (hk cp.1 m)

theorem mem_env_renames {sim : Sim} {ctx : Ctx} {A B : Schema} {c : Nat} {yn xn : String} :
    (yn, xn) ∈ (envFor sim ctx A B c).renames ↔ ((c, yn), xn) ∈ ctx.renames := by
  simp only [envFor, List.mem_filterMap]
  constructor
  · rintro ⟨⟨⟨c', y⟩, x⟩, hr, h⟩
    obtain ⟨hc, h⟩ := Option.ite_none_right_eq_some.1 h
    cases h
    exact beq_iff_eq.1 hc ▸ hr
  · exact fun h => ⟨_, h, if_pos (beq_iff_eq.2 rfl)⟩

/-- a successful run of the planner at the fixed point of the comparison context -/
structure DiffRun (sim : Sim) (A B : Schema) (ps : List (Nat × Plan)) (ctx : Ctx) : Prop where
  vA : Valid A
  vB : Valid B
  ss : SimSound sim
  clNodup : (ps.map (·.1)).Nodup
  cl : ∀ k ∈ keys A ++ keys B, ∃ p, (k.1, p) ∈ ps
  plan : ∀ cp ∈ ps, planObjs (envFor sim ctx A B cp.1) (classNames A cp.1) (classNames B cp.1) = .ok cp.2
  fix : ctxOf ps = ctx

structure ClassRun (sim : Sim) (A B : Schema) (ps : List (Nat × Plan)) (ctx : Ctx) (c : Nat) (p : Plan) : Prop where
  run : DiffRun sim A B ps ctx
  mem : (c, p) ∈ ps

section run
variable {sim : Sim} {A A' B : Schema} {ps : List (Nat × Plan)} {ctx : Ctx} {c : Nat} {p : Plan}

theorem ClassRun.plan (C : ClassRun sim A B ps ctx c p) :
    planObjs (envFor sim ctx A B c) (classNames A c) (classNames B c) = .ok p :=
  C.run.plan (c, p) C.mem

theorem ClassRun.matched_keys (C : ClassRun sim A B ps ctx c p)
    {m : Match} (hm : m ∈ p.matched) :
    (c, m.y) ∈ keys A ∧ (c, m.x) ∈ keys B ∧ (m.x = m.y ∨ ((c, m.x) ∉ keys A ∧ (c, m.y) ∉ keys B)) := by
  have := plan_matched_candidate (C.plan) m hm
  simp only [Candidate, mem_classNames] at this
  exact ⟨this.2.1, this.1, this.2.2⟩

theorem ClassRun.matched_of_rename (C : ClassRun sim A B ps ctx c p)
    {yn xn : String} (h : ((c, yn), xn) ∈ ctx.renames) :
    ∃ m ∈ p.matched, m.conf.isSome = true ∧ m.x ≠ m.y ∧ m.y = yn ∧ m.x = xn := by
  obtain ⟨⟨c', p'⟩, hcp, m, hm, h1, h2, h3⟩ := mem_ctxOf_renames.1 (C.run.fix ▸ h)
  cases h3
  cases Keyed.snd_eq_of_key C.run.clNodup C.mem hcp
  exact ⟨m, hm, h1, h2, rfl, rfl⟩

/-- at the fixed point nothing is suppressed: the target of a recorded rename is matched -/
theorem ClassRun.mem_createdX (C : ClassRun sim A B ps ctx c p)
    {xn : String} : xn ∈ p.createdX ↔ (c, xn) ∈ keys B ∧ xn ∉ p.matchedX := by
  rw [(createdX_spec (C.plan)).1, mem_classNames]
  refine and_congr_right fun _ => and_iff_left_of_imp fun hm => ⟨rfl, fun hr => ?_⟩
  obtain ⟨yn, hr1, _⟩ := mem_renamesX.1 hr
  obtain ⟨m, hm1, _, _, _, hm5⟩ := C.matched_of_rename (mem_env_renames.1 hr1)
  exact hm (List.mem_map.2 ⟨m, hm1, hm5⟩)

theorem ClassRun.mem_deletedY (C : ClassRun sim A B ps ctx c p)
    {yn : String} : yn ∈ p.deletedY ↔ (c, yn) ∈ keys A ∧ yn ∉ p.matchedY := by
  rw [(deletedY_spec (C.plan)).1, mem_classNames]
  refine and_congr_right fun _ => and_iff_left_of_imp fun hm => ⟨rfl, fun hr => ?_⟩
  obtain ⟨xn, hr1, _⟩ := mem_renamesY.1 hr
  obtain ⟨m, hm1, _, _, hm4, _⟩ := C.matched_of_rename (mem_env_renames.1 hr1)
  exact hm (List.mem_map.2 ⟨m, hm1, hm4⟩)

theorem DiffRun.renOK (R : DiffRun sim A B ps ctx) : RenOK A ctx.renames := by
  have hsrc : ∀ r ∈ ctx.renames, r.1 ∈ keys A ∧ tgt r ∉ keys A := by
    intro r hr
    obtain ⟨cp, hcp, m, hm, _, h2, rfl⟩ := mem_ctxOf_renames.1 (R.fix ▸ hr)
    obtain ⟨k1, _, k3⟩ := ClassRun.matched_keys ⟨R, hcp⟩ hm
    exact ⟨k1, (k3.resolve_left h2).1⟩
  exact ⟨R.fix ▸ ctxOf_renames_nodup R.clNodup (·.y) (fun _ _ => rfl)
      fun cp hcp => (plan_matched_nodup (R.plan _ hcp)).2,
    fun r hr => (hsrc r hr).1, fun r hr => (hsrc r hr).2,
    R.fix ▸ ctxOf_renames_nodup R.clNodup (·.x) (fun _ _ => rfl)
      fun cp hcp => (plan_matched_nodup (R.plan _ hcp)).1⟩

theorem ClassRun.same_pair (C : ClassRun sim A B ps ctx c p)
    {m : Match} (hm : m ∈ p.matched) (hc : m.conf = none) :
    m.x = m.y ∧ ∃ y x, find A (c, m.y) = some y ∧ find B (c, m.x) = some x ∧ renameObj ctx.renames y = x := by
  obtain ⟨k1, k2, _⟩ := C.matched_keys hm
  obtain ⟨y, hy⟩ := mem_keys_iff_find.1 k1
  obtain ⟨x, hx⟩ := mem_keys_iff_find.1 k2
  have h1 := matched_none_sim (C.plan) hm hc
  -- `envFor` leaves `guidance` at its default `none`
  rw [effSim_no_guidance rfl] at h1
  have h2 : sim ctx y x = 1000 := by
    simp only [envFor, hy, hx] at h1
    exact h1
  have hyk := find_key hy
  have hxk := find_key hx
  obtain ⟨h3, h4⟩ := C.run.ss ctx y x ((congrArg Prod.fst hyk).trans (congrArg Prod.fst hxk).symm) h2
  exact ⟨(congrArg Prod.snd hxk).symm.trans (h4.symm.trans (congrArg Prod.snd hyk)), y, x, hy, hx, h3⟩

theorem ClassRun.rn_fixed (C : ClassRun sim A B ps ctx c p)
    {yn : String} (h : ∀ m ∈ p.matched, m.y = yn → m.x = m.y) : rn ctx.renames (c, yn) = (c, yn) := by
  apply rn_of_not_src
  intro hs
  obtain ⟨⟨⟨c', y'⟩, x'⟩, hr, hk⟩ := List.mem_map.1 hs
  cases hk
  obtain ⟨m, hm, _, hne, hy, _⟩ := C.matched_of_rename hr
  exact hne (h m hm hy)

theorem ClassRun.rn_matched (C : ClassRun sim A B ps ctx c p)
    {m : Match} (hm : m ∈ p.matched) : rn ctx.renames (c, m.y) = (c, m.x) := by
  by_cases hxy : m.x = m.y
  · rw [hxy]
    refine C.rn_fixed fun m' hm' hy => ?_
    rw [Keyed.eq_of_key (plan_matched_nodup (C.plan)).2 hm' hm hy]
    exact hxy
  · -- a pair with different names is not left alone, so its rename is recorded
    have hc : m.conf.isSome = true := by
      cases hconf : m.conf with
      | none => exact absurd (C.same_pair hm hconf).1 hxy
      | some v => rfl
    exact rn_of_src (r := ((c, m.y), m.x)) C.run.renOK.srcNodup
      (C.run.fix ▸ mem_ctxOf_renames.2 ⟨(c, p), C.mem, m, hm, hc, hxy, rfl⟩)

theorem ClassRun.matched_mem_renamed (C : ClassRun sim A B ps ctx c p) {m : Match} (hm : m ∈ p.matched) :
    (c, m.x) ∈ keys (renameAll ctx.renames A) := by
  rw [keys_renameAll, ← C.rn_matched hm]
  exact List.mem_map.2 ⟨_, (C.matched_keys hm).1, rfl⟩

theorem ClassRun.rn_unmatched (C : ClassRun sim A B ps ctx c p)
    {yn : String} (hy : yn ∉ p.matchedY) : rn ctx.renames (c, yn) = (c, yn) :=
  C.rn_fixed fun m hm hmy => absurd (List.mem_map.2 ⟨m, hm, hmy⟩) hy


/-- the ways a command gets into the plan `p` of class `c` -/
inductive Planned (A' B : Schema) (p : Plan) : Nat → Cmd → Prop
  | create {x : Obj} : x.name ∈ p.createdX → find B x.key = some x → Planned A' B p x.cls (.create x)
  | alter {c : Nat} {m : Match} {x : Obj} : m ∈ p.matched → m.conf.isSome = true → find B (c, m.x) = some x →
      find A' (c, m.x) ≠ some x → Planned A' B p c (.alter c m.x x.data x.refs)
  | delete {c : Nat} {n : String} : n ∈ p.deletedY → Planned A' B p c (.delete c n)

theorem alterCmd_eq_some {m : Match} {a : Cmd} : alterCmd A' B c m = some a ↔
    m.conf.isSome = true ∧ ∃ x, find B (c, m.x) = some x ∧ find A' (c, m.x) ≠ some x ∧
      a = .alter c m.x x.data x.refs := by
  unfold alterCmd
  split
  · rename_i cf x hcf hx
    simp only [hcf, hx, Option.isSome_some, Option.some.injEq, true_and, exists_eq_left',
      Option.ite_none_left_eq_some, eq_comm (a := a)]
  · rename_i h
    refine iff_of_false nofun fun ⟨h1, x, hx, _⟩ => ?_
    obtain ⟨cf, hcf⟩ := Option.isSome_iff_exists.1 h1
    exact h cf x hcf hx

theorem mem_classCmds {a : Cmd} : a ∈ classCmds A' B c p ↔
    (∃ cr ∈ p.creates, ∃ x, find B (c, cr.1) = some x ∧ Cmd.create x = a) ∨
    (∃ m ∈ p.matched, alterCmd A' B c m = some a) ∨ ∃ d ∈ p.deletes, Cmd.delete c d.1 = a := by
  simp only [classCmds, List.mem_append, List.mem_filterMap, List.mem_map, Option.map_eq_some_iff, or_assoc]

theorem mem_classCmds_iff_planned {a : Cmd} : a ∈ classCmds A' B c p ↔ Planned A' B p c a := by
  rw [mem_classCmds]
  constructor
  · rintro (⟨cr, hcr, x, hx, rfl⟩ | ⟨m, hm, ha⟩ | ⟨d, hd, rfl⟩)
    · obtain ⟨rfl, hn⟩ := Prod.mk.inj (find_key hx)
      exact .create (List.mem_map.2 ⟨cr, hcr, hn.symm⟩) (find_key hx ▸ hx)
    · obtain ⟨hc, x, hx, hne, rfl⟩ := alterCmd_eq_some.1 ha
      exact .alter hm hc hx hne
    · exact .delete (List.mem_map.2 ⟨d, hd, rfl⟩)
  · intro h
    cases h with
    | @create x hn hx =>
      obtain ⟨cr, hcr, e⟩ := List.mem_map.1 hn
      exact Or.inl ⟨cr, hcr, x, (congrArg (fun n => find B (x.cls, n)) e).trans hx, rfl⟩
    | alter hm hc hx hne => exact Or.inr (Or.inl ⟨_, hm, alterCmd_eq_some.2 ⟨hc, _, hx, hne, rfl⟩⟩)
    | delete hn =>
      obtain ⟨d, hd, rfl⟩ := List.mem_map.1 hn
      exact Or.inr (Or.inr ⟨d, hd, rfl⟩)

theorem Planned.cls {a : Cmd} (h : Planned A' B p c a) : a.key.1 = c := by
  cases h <;> rfl

/-- all commands of the second phase -/
abbrev cmdsOf (A' B : Schema) (ps : List (Nat × Plan)) : List Cmd :=
  ps.flatMap fun cp => classCmds A' B cp.1 cp.2

theorem mem_cmdsOf_iff {a : Cmd} :
    a ∈ cmdsOf A' B ps ↔ ∃ c p, (c, p) ∈ ps ∧ Planned A' B p c a := by
  simp only [cmdsOf, List.mem_flatMap, mem_classCmds_iff_planned, Prod.exists]

theorem ClassRun.classCmds_nodup (C : ClassRun sim A B ps ctx c p) (A' : Schema) :
    (classCmds A' B c p).Nodup := by
  have hpl := C.plan
  unfold classCmds
  rw [List.nodup_append, List.nodup_append]
  -- each of the three blocks has distinct names; the blocks differ in their constructor
  refine ⟨⟨?_, ?_, ?_⟩, ?_, ?_⟩
  · apply List.Nodup.of_map (·.key.2)
    refine (filterMap_sublist_map (fun x : String × Nat => x.1) _ ?_ p.creates).nodup
      ((createdX_spec hpl).2 (classNames_nodup C.run.vB.nodup c))
    intro a b hb
    obtain ⟨x, hx, rfl⟩ := Option.map_eq_some_iff.1 hb
    exact congrArg Prod.snd (find_key hx)
  · apply List.Nodup.of_map (·.key.2)
    refine (filterMap_sublist_map (fun m : Match => m.x) _ ?_ p.matched).nodup (plan_matched_nodup hpl).1
    intro m a ha
    obtain ⟨_, x, _, _, rfl⟩ := alterCmd_eq_some.1 ha
    rfl
  · intro a ha b hb
    obtain ⟨_, _, h⟩ := List.mem_filterMap.1 ha
    obtain ⟨x, _, rfl⟩ := Option.map_eq_some_iff.1 h
    obtain ⟨m, _, hm⟩ := List.mem_filterMap.1 hb
    obtain ⟨_, x', _, _, rfl⟩ := alterCmd_eq_some.1 hm
    exact Cmd.noConfusion
  · apply List.Nodup.of_map (·.key.2)
    rw [List.map_map]
    exact (deletedY_spec hpl).2 (classNames_nodup C.run.vA.nodup c)
  · intro a ha b hb
    obtain ⟨d, _, rfl⟩ := List.mem_map.1 hb
    rcases List.mem_append.1 ha with ha | ha
    · obtain ⟨_, _, h⟩ := List.mem_filterMap.1 ha
      obtain ⟨x, _, rfl⟩ := Option.map_eq_some_iff.1 h
      exact Cmd.noConfusion
    · obtain ⟨m, _, hm⟩ := List.mem_filterMap.1 ha
      obtain ⟨_, x', _, _, rfl⟩ := alterCmd_eq_some.1 hm
      exact Cmd.noConfusion

theorem DiffRun.cmds_nodup (R : DiffRun sim A B ps ctx) (A' : Schema) : (cmdsOf A' B ps).Nodup :=
  nodup_flatMap_of_tag (·.1) (·.key.1) R.clNodup (fun _ _ _ hb => (mem_classCmds_iff_planned.1 hb).cls)
    fun _ hcp => ClassRun.classCmds_nodup ⟨R, hcp⟩ A'

theorem ClassRun.not_created_of_matched (C : ClassRun sim A B ps ctx c p) {m : Match}
    (hm : m ∈ p.matched) : ¬ IsCreated (cmdsOf A' B ps) (c, m.x) := by
  rintro ⟨x, hx, hk⟩
  obtain ⟨_, p', hp', h⟩ := mem_cmdsOf_iff.1 hx
  cases h with | create hxn _ =>
  obtain ⟨rfl, e⟩ := Prod.mk.inj hk
  cases Keyed.snd_eq_of_key C.run.clNodup C.mem hp'
  exact ((C.mem_createdX).1 hxn).2 (List.mem_map.2 ⟨m, hm, e.symm⟩)

theorem ClassRun.not_deleted_of_matched (C : ClassRun sim A B ps ctx c p) {m : Match}
    (hm : m ∈ p.matched) : ¬ IsDeleted (cmdsOf A' B ps) (c, m.x) := by
  intro hd
  obtain ⟨_, p', hp', h⟩ := mem_cmdsOf_iff.1 hd
  cases h with | delete hyn =>
  cases Keyed.snd_eq_of_key C.run.clNodup C.mem hp'
  obtain ⟨k1, k2⟩ := (C.mem_deletedY).1 hyn
  rcases (C.matched_keys hm).2.2 with k3 | k3
  · exact k2 (List.mem_map.2 ⟨m, hm, k3.symm⟩)
  · exact k3.1 k1

theorem altered_or_deleted_of_touches {cmds : List Cmd} {k : Key} :
    touches cmds k = true → IsAltered cmds k ∨ IsDeleted cmds k := by
  unfold touches
  rw [List.any_eq_true]
  rintro ⟨a, ha, h⟩
  cases a with
  | create x => cases h
  | rename c o n => cases h
  | alter c n d rs => exact Or.inl ⟨d, rs, beq_iff_eq.1 h ▸ ha⟩
  | delete c n => exact Or.inr (beq_iff_eq.1 h ▸ ha)

theorem firstBlocked_none {cmds : List Cmd} (h : firstBlocked A' cmds = none)
    {c : Nat} {n : String} (hd : Cmd.delete c n ∈ cmds) {o : Obj} (ho : o ∈ A') (hr : (c, n) ∈ o.refs) :
    IsAltered cmds o.key ∨ IsDeleted cmds o.key := by
  have := List.findSome?_eq_none_iff.1 h _ hd
  -- no object of `A'` refers to the deleted key and is untouched
  simp only [ite_eq_right_iff, reduceCtorEq, imp_false, List.any_eq_true, not_exists, not_and,
    Bool.and_eq_true, List.contains_iff_mem, Bool.not_eq_true'] at this
  exact altered_or_deleted_of_touches (Bool.not_eq_false _ ▸ this o ho hr)

theorem DiffRun.sched (R : DiffRun sim A B ps ctx)
    (hnb : firstBlocked (renameAll ctx.renames A) (cmdsOf (renameAll ctx.renames A) B ps) = none) :
    Sched (renameAll ctx.renames A) B (cmdsOf (renameAll ctx.renames A) B ps) := by
  have hok := R.renOK
  refine ⟨valid_renameAll R.vA hok, R.vB, ?cr, ?al, ?de, ?nr, ?oldk, ?newk, ?excl,
    fun c n hd o ho hr => firstBlocked_none hnb hd ho hr⟩
  case cr =>
    intro x hx
    obtain ⟨_, _, _, h⟩ := mem_cmdsOf_iff.1 hx
    cases h with | create _ hB => exact hB
  case al =>
    intro c n d rs ha
    obtain ⟨_, p, hp, h⟩ := mem_cmdsOf_iff.1 ha
    cases h with | alter hm _ hx _ =>
    exact ⟨(ClassRun.mk R hp).matched_mem_renamed hm, _, hx, rfl, rfl⟩
  case de =>
    intro c n hd
    obtain ⟨_, p, hp, h⟩ := mem_cmdsOf_iff.1 hd
    cases h with | delete hyn =>
    have C := ClassRun.mk R hp
    obtain ⟨hkA, hmat⟩ := (C.mem_deletedY).1 hyn
    rw [keys_renameAll, ← C.rn_unmatched hmat]
    exact List.mem_map.2 ⟨_, hkA, rfl⟩
  case nr =>
    intro c o n h
    obtain ⟨_, _, _, h⟩ := mem_cmdsOf_iff.1 h
    cases h
  case oldk =>
    intro k hk
    rw [keys_renameAll] at hk
    obtain ⟨⟨c, yn⟩, hk0, rfl⟩ := List.mem_map.1 hk
    obtain ⟨p, hp⟩ := R.cl _ (List.mem_append_left _ hk0)
    have C := ClassRun.mk R hp
    by_cases hmat : yn ∈ p.matchedY
    · right
      obtain ⟨m, hm, rfl⟩ := List.mem_map.1 hmat
      rw [C.rn_matched hm]
      have k2 := (C.matched_keys hm).2.1
      refine ⟨C.not_created_of_matched hm, ?_, k2⟩
      obtain ⟨x, hx⟩ := mem_keys_iff_find.1 k2
      cases hconf : m.conf with
      | none =>
        right
        obtain ⟨_, y, x', hy, hx', hren⟩ := C.same_pair hm hconf
        have := find_renameAll R.vA hok hy
        rw [C.rn_matched hm] at this
        rw [this, hx', hren]
      | some v =>
        by_cases hsame : find (renameAll ctx.renames A) (c, m.x) = some x
        · right
          rw [hsame, hx]
        · left
          exact ⟨x.data, x.refs, mem_cmdsOf_iff.2 ⟨c, p, hp, .alter hm (hconf ▸ rfl) hx hsame⟩⟩
    · left
      rw [C.rn_unmatched hmat]
      exact mem_cmdsOf_iff.2 ⟨c, p, hp, .delete ((C.mem_deletedY).2 ⟨hk0, hmat⟩)⟩
  case newk =>
    rintro ⟨c, xn⟩ hk
    obtain ⟨p, hp⟩ := R.cl _ (List.mem_append_right _ hk)
    have C := ClassRun.mk R hp
    by_cases hmat : xn ∈ p.matchedX
    · right
      obtain ⟨m, hm, rfl⟩ := List.mem_map.1 hmat
      exact ⟨C.matched_mem_renamed hm, C.not_deleted_of_matched hm⟩
    · left
      obtain ⟨x, hx⟩ := mem_keys_iff_find.1 hk
      obtain ⟨rfl, rfl⟩ := Prod.mk.inj (find_key hx)
      exact ⟨x, mem_cmdsOf_iff.2 ⟨_, p, hp, .create ((C.mem_createdX).2 ⟨hk, hmat⟩) hx⟩, rfl⟩
  case excl =>
    rintro ⟨c, n⟩ ⟨d, rs, ha⟩
    obtain ⟨_, p, hp, h⟩ := mem_cmdsOf_iff.1 ha
    cases h with | alter hm _ _ _ =>
    have C := ClassRun.mk R hp
    exact ⟨C.not_created_of_matched hm, C.not_deleted_of_matched hm⟩

theorem DiffRun.apply (R : DiffRun sim A B ps ctx)
    (hnb : firstBlocked (renameAll ctx.renames A) (cmdsOf (renameAll ctx.renames A) B ps) = none)
    {order : List Cmd} (hp : order.Perm (cmdsOf (renameAll ctx.renames A) B ps))
    (hdep : DepClosed (renameAll ctx.renames A) (cmdsOf (renameAll ctx.renames A) B ps) order) :
    ∃ s, applyAll A (ctx.renames.map toRename ++ order) = .ok s ∧ Same s B := by
  obtain ⟨s, hs1, hs2⟩ := sched_apply (R.sched hnb) (R.cmds_nodup _) hp hdep
  exact ⟨s, (applyAll_renames R.renOK _).trans hs1, hs2⟩

end run

theorem diff_run {sim : Sim} {A B : Schema} {ps : List (Nat × Plan)} {ctx ctx0 : Ctx} {fuel : Nat}
    (hA : Valid A) (hB : Valid B) (hs : SimSound sim)
    (h : planFix sim A B (classList (A ++ B)) fuel ctx0 = .ok (ps, ctx)) : DiffRun sim A B ps ctx := by
  obtain ⟨h1, h2⟩ := planFix_spec h
  obtain ⟨h3, h4⟩ := planRound_spec h1
  refine ⟨hA, hB, hs, h3 ▸ classList_nodup _, fun k hk => ?_, h4, h2⟩
  rw [← keys_append] at hk
  obtain ⟨o, ho, rfl⟩ := List.mem_map.1 hk
  obtain ⟨cp, hcp, e⟩ := List.mem_map.1 (h3 ▸ mem_classList.2 ⟨o, ho, rfl⟩)
  exact ⟨cp.2, (e ▸ hcp : (o.cls, cp.2) ∈ ps)⟩

/-- **C02 on the model**: a computed migration, when it exists, applies and yields the target. -/
theorem apply_diff {sim : Sim} {A B : Schema} (hA : Valid A) (hB : Valid B) (hs : SimSound sim)
    {cmds : List Cmd} (h : diff sim A B = .ok cmds) : ∃ s, applyAll A cmds = .ok s ∧ Same s B := by
  unfold diff at h
  split at h
  · cases h
  · rename_i ps ctx hfix
    have R := diff_run hA hB hs hfix
    simp only at h
    split at h
    · cases h
    · rename_i hnb
      split at h
      · rename_i o ho
        cases h
        exact R.apply hnb (order_facts ho).1 (order_facts ho).2
      · cases h

end EdbVerif.Schema
