/-
Lemmas about the planner model `planObjs` (`delta_objects`): candidate pairs,
sorting, greedy matching, ordering by inheritance, what a successful run returns (`planObjs_ok` and the
facts read off it), and the lemma behind the partition theorems of C02 (`exactlyOne4_of_matching`).
-/
import EdbVerif.Model.SchemaSpec
import EdbVerif.Lemmas.SchemaList
import EdbVerif.Lemmas.ListAux
import EdbVerif.Lemmas.Topo

namespace EdbVerif.Schema

theorem mem_candidates {old new : List String} {x y : String} :
    (x, y) ∈ candidates old new ↔ Candidate old new x y := by
  simp only [candidates, Candidate, List.mem_append, List.mem_map, List.mem_filter, List.mem_flatMap,
    List.contains_iff_mem, Prod.mk.injEq, Bool.not_eq_true', not_contains]
  constructor
  · rintro (⟨k, ⟨hk1, hk2⟩, rfl, rfl⟩ | ⟨a, ⟨ha1, ha2⟩, b, ⟨hb1, hb2⟩, rfl, rfl⟩)
    · exact ⟨hk2, hk1, Or.inl rfl⟩
    · exact ⟨ha1, hb1, Or.inr ⟨ha2, hb2⟩⟩
  · rintro ⟨hx, hy, (rfl | ⟨h1, h2⟩)⟩
    · exact Or.inl ⟨x, ⟨hy, hx⟩, rfl, rfl⟩
    · exact Or.inr ⟨x, ⟨hx, h1⟩, y, ⟨hy, h2⟩, rfl, rfl⟩

theorem mem_matrix {e : Env} {old new : List String} {c : Cell} (h : c ∈ matrix e old new) :
    Candidate old new c.x c.y ∧ c.s = effSim e c.x c.y := by
  obtain ⟨p, hp, rfl⟩ := List.mem_map.1 h
  exact ⟨mem_candidates.1 hp, rfl⟩

theorem mem_insertCell {a c : Cell} {l : List Cell} : c ∈ insertCell a l ↔ c = a ∨ c ∈ l :=
  (ListAux.ins_perm (ins := insertCell) (lt := fun a b : Cell => a.le b = true) (fun _ => rfl)
    (fun _ _ _ => rfl) a l).mem_iff.trans List.mem_cons

theorem mem_sortCells {c : Cell} {l : List Cell} : c ∈ sortCells l ↔ c ∈ l :=
  (ListAux.sort_perm (ins := insertCell) (lt := fun a b : Cell => a.le b = true) (fun _ => rfl)
    (fun _ _ _ => rfl) rfl (fun _ _ => rfl) l).mem_iff

/-- `full_matrix` after the sort -/
abbrev sortedMatrix (e : Env) (old new : List String) : List Cell := sortCells (matrix e old new)

/-- `comparison_map` -/
abbrev cmap (e : Env) (old new : List String) : List Cell := greedy (sortedMatrix e old new) []

theorem greedy_spec (cs acc : List Cell) (hx : (acc.map (·.x)).Nodup) (hy : (acc.map (·.y)).Nodup) :
    ((greedy cs acc).map (·.x)).Nodup ∧ ((greedy cs acc).map (·.y)).Nodup ∧
      ∀ c ∈ greedy cs acc, c ∈ acc ∨ c ∈ cs := by
  induction cs generalizing acc with
  | nil => exact ⟨hx, hy, fun c h => Or.inl h⟩
  | cons d ds ih =>
    unfold greedy
    split
    · obtain ⟨h1, h2, h3⟩ := ih acc hx hy
      exact ⟨h1, h2, fun c h => (h3 c h).imp_right (List.mem_cons_of_mem _)⟩
    · rename_i hc
      simp only [Bool.or_eq_true, not_or, List.any_eq_true, beq_iff_eq, not_exists, not_and] at hc
      have ext : ∀ f : Cell → String, (acc.map f).Nodup → (∀ c ∈ acc, ¬f c = f d) →
          ((acc ++ [d]).map f).Nodup := by
        intro f hn hf
        rw [List.map_append, List.map_singleton, ListAux.nodup_snoc]
        exact ⟨fun h => let ⟨c, hc1, hc2⟩ := List.mem_map.1 h; hf c hc1 hc2, hn⟩
      obtain ⟨h1, h2, h3⟩ := ih (acc ++ [d]) (ext _ hx hc.1) (ext _ hy hc.2)
      refine ⟨h1, h2, fun c h => ?_⟩
      rcases h3 c h with h | h
      · rcases List.mem_append.1 h with h | h
        · exact Or.inl h
        · exact Or.inr (List.mem_singleton.1 h ▸ List.mem_cons_self)
      · exact Or.inr (List.mem_cons_of_mem _ h)

theorem cmap_spec (e : Env) (old new : List String) :
    ((cmap e old new).map (·.x)).Nodup ∧
    ((cmap e old new).map (·.y)).Nodup ∧
      ∀ c ∈ cmap e old new, c ∈ matrix e old new := by
  obtain ⟨h1, h2, h3⟩ := greedy_spec (sortedMatrix e old new) [] .nil .nil
  exact ⟨h1, h2, fun c h => mem_sortCells.1 ((h3 c h).resolve_left List.not_mem_nil)⟩

theorem inhGraph_eq (anc : String → List String) (l : List String) :
    inhGraph anc l = Topo.posGraph (fun n => (anc n).map (fun a => l.idxOf a)) l :=
  Topo.posGraph_of_aux (fun _ => rfl) (fun _ _ _ => rfl) _

theorem sortByInheritance_perm {anc : String → List String} {l r : List String}
    (h : sortByInheritance anc l = .ok r) : r.Perm l := by
  unfold sortByInheritance at h
  split at h
  · rename_i o ho
    injection h with h
    exact h ▸ (Topo.sortEx_posGraph (inhGraph_eq anc l ▸ ho)).1
  · cases h

theorem orderNew_perm {e : Env} {cm ox : List Cell} (hx : (cm.map (·.x)).Nodup)
    (h : orderNew e cm = .ok ox) : ox.Perm cm := by
  unfold orderNew at h
  split at h
  · split at h
    · rename_i o ho
      injection h with h
      have := (sortByInheritance_perm ho).filterMap fun x => cm.find? (fun c => c.x == x)
      rwa [filterMap_find?_map (·.x) cm hx, h] at this
    · cases h
  · injection h with h
    exact h ▸ .refl _

theorem orderOld_perm {e : Env} {d r : List String} (h : orderOld e d = .ok r) : r.Perm d := by
  unfold orderOld at h
  split at h
  · exact sortByInheritance_perm h
  · injection h with h
    exact h ▸ .refl _

theorem decide1_eq_some {e : Env} {old : List String} {M : List Cell} {c : Cell} {m : Match}
    (h : decide1 e old M c = some m) :
    m.x = c.x ∧ m.y = c.y ∧ (m.conf = none → c.s = 1000) ∧
    (m.conf.isSome = true →
      (((600 < c.s && c.s < 1000) && canAlter e.guidance c.y c.x)
        || ((!canCreate e.guidance c.x || !canDelete e.guidance c.y) && canAlter e.guidance c.y c.x)
        || (renamesX e.renames old).contains c.x) = true) := by
  unfold decide1 at h
  simp only at h
  split at h
  · rename_i hcond
    injection h with h
    subst h
    exact ⟨rfl, rfl, nofun, fun _ => hcond⟩
  · split at h
    · rename_i hs
      injection h with h
      subst h
      exact ⟨rfl, rfl, fun _ => beq_iff_eq.1 hs, nofun⟩
    · cases h

/-- The names that get a create (delete) command: those names of one side (`univ`) that no match has at
    its end `f`, in the order `ord` of the commands, without the banned ones (`ok`) and the pending renames
    (`ren`). -/
theorem unmatched_spec {univ ord ren : List String} {matched : List Match} {f : Match → String}
    {ok : String → Bool}
    (hord : ord.Perm (univ.filter fun x => !matched.any (fun m => f m == x))) :
    (∀ x, x ∈ ord.filter (fun x => ok x && !ren.contains x) ↔
        x ∈ univ ∧ x ∉ matched.map f ∧ ok x = true ∧ x ∉ ren) ∧
      (univ.Nodup → (ord.filter fun x => ok x && !ren.contains x).Nodup) := by
  refine ⟨fun x => ?_, fun hn => (hord.nodup_iff.2 (hn.filter _)).filter _⟩
  simp only [List.mem_filter, hord.mem_iff, Bool.and_eq_true, Bool.not_eq_true', not_contains, List.any_eq_false,
    beq_iff_eq, List.mem_map, not_exists, not_and, and_assoc]

theorem ExactlyOne4.drop {a b c d : Prop} (h : ExactlyOne4 a b c d) (hd : ¬d) : ExactlyOne3 a b c := by
  rcases h with ⟨ha, hb, hc, _⟩ | ⟨ha, hb, hc, _⟩ | ⟨ha, hb, hc, _⟩ | ⟨_, _, _, h⟩
  · exact Or.inl ⟨ha, hb, hc⟩
  · exact Or.inr (Or.inl ⟨ha, hb, hc⟩)
  · exact Or.inr (Or.inr ⟨ha, hb, hc⟩)
  · exact absurd h hd

/-- The partition of one side: a name `x` of `univ` is in exactly one of four cases: in `rest` (created /
    deleted), at the end `f` (`Match.x` / `Match.y`) of a match that is altered, of a match that is left
    alone, or unmatched and suppressed.  The matching is one-to-one at `f`, so the match of `x` is unique. -/
theorem exactlyOne4_of_matching {matched : List Match} {f : Match → String} {univ rest ren : List String}
    {ok : String → Bool} {x : String} (hnd : (matched.map f).Nodup)
    (hrest : x ∈ rest ↔ x ∈ univ ∧ x ∉ matched.map f ∧ ok x = true ∧ x ∉ ren) (hx : x ∈ univ) :
    ExactlyOne4 (x ∈ rest) (∃ m ∈ matched, f m = x ∧ m.conf.isSome = true)
      (∃ m ∈ matched, f m = x ∧ m.conf = none) (x ∉ matched.map f ∧ (ok x = false ∨ x ∈ ren)) := by
  by_cases hm : x ∈ matched.map f
  · obtain ⟨m, hm1, rfl⟩ := List.mem_map.1 hm
    have hnr : f m ∉ rest := fun h' => (hrest.1 h').2.1 hm
    have huniq : ∀ m' ∈ matched, f m' = f m → m'.conf = m.conf :=
      fun m' hm' e => congrArg _ (Keyed.eq_of_key hnd hm' hm1 e)
    cases hconf : m.conf with
    | some c =>
      refine Or.inr (Or.inl ⟨hnr, ⟨m, hm1, rfl, hconf ▸ rfl⟩, ?_, fun h' => h'.1 hm⟩)
      rintro ⟨m', hm', hx', hn'⟩
      rw [huniq m' hm' hx', hconf] at hn'
      cases hn'
    | none =>
      refine Or.inr (Or.inr (Or.inl ⟨hnr, ?_, ⟨m, hm1, rfl, hconf⟩, fun h' => h'.1 hm⟩))
      rintro ⟨m', hm', hx', hn'⟩
      rw [huniq m' hm' hx', hconf] at hn'
      cases hn'
  · have hna : ∀ q : Match → Prop, ¬ ∃ m ∈ matched, f m = x ∧ q m :=
      fun _ ⟨m, hm1, hm2, _⟩ => hm (List.mem_map.2 ⟨m, hm1, hm2⟩)
    by_cases hr : x ∈ rest
    · refine Or.inl ⟨hr, hna _, hna _, fun h' => h'.2.elim (fun h1 => ?_) (hrest.1 hr).2.2.2⟩
      rw [(hrest.1 hr).2.2.1] at h1
      cases h1
    · refine Or.inr (Or.inr (Or.inr ⟨hr, hna _, hna _, hm, ?_⟩))
      by_cases h1 : ok x = true
      · exact Or.inr (Classical.not_not.1 fun h2 => hr (hrest.2 ⟨hx, hm, h1, h2⟩))
      · exact Or.inl (Bool.not_eq_true _ ▸ h1)

section plan
variable {e : Env} {old new : List String} {p : Plan}

theorem planObjs_ok (h : planObjs e old new = .ok p) : ∃ ox dord,
    ox.Perm (cmap e old new) ∧ dord.Perm (deletedOf old p.matched) ∧
    p.matched = matchedOf e old (sortedMatrix e old new) ox ∧
    p.creates = createsOf e old new (sortedMatrix e old new) p.matched ∧
    p.deletes = deletesOf e old (sortedMatrix e old new) dord := by
  unfold planObjs at h
  simp only at h
  split at h
  · cases h
  · rename_i ox hox
    split at h
    · cases h
    · rename_i dord hd
      injection h with h
      subst h
      exact ⟨ox, dord, orderNew_perm (cmap_spec e old new).1 hox, orderOld_perm hd, rfl, rfl, rfl⟩

theorem matched_cell (h : planObjs e old new = .ok p) {m : Match} (hm : m ∈ p.matched) :
    ∃ c ∈ matrix e old new, decide1 e old (sortedMatrix e old new) c = some m := by
  obtain ⟨ox, _, hox, _, hmat, _⟩ := planObjs_ok h
  rw [hmat] at hm
  obtain ⟨c, hc, hd⟩ := List.mem_filterMap.1 hm
  exact ⟨c, (cmap_spec e old new).2.2 c (hox.mem_iff.1 hc), hd⟩

theorem plan_matched_nodup (h : planObjs e old new = .ok p) : p.matchedX.Nodup ∧ p.matchedY.Nodup := by
  obtain ⟨ox, _, hox, _, hmat, _⟩ := planObjs_ok h
  obtain ⟨hx, hy, _⟩ := cmap_spec e old new
  -- `decide1` keeps either end, so the ends of the matches are a sublist of those of the cells
  have key : ∀ (f : Cell → String) (g : Match → String),
      (∀ c m, decide1 e old (sortedMatrix e old new) c = some m → g m = f c) →
      ((cmap e old new).map f).Nodup → (p.matched.map g).Nodup :=
    fun f g hfg hn => hmat ▸ (filterMap_sublist_map f g hfg ox).nodup ((hox.map f).nodup_iff.2 hn)
  exact ⟨key _ _ (fun _ _ h => (decide1_eq_some h).1) hx, key _ _ (fun _ _ h => (decide1_eq_some h).2.1) hy⟩

theorem plan_matched_candidate (h : planObjs e old new = .ok p) :
    ∀ m ∈ p.matched, Candidate old new m.x m.y := by
  intro m hm
  obtain ⟨c, hc, hd⟩ := matched_cell h hm
  obtain ⟨h1, h2, _⟩ := decide1_eq_some hd
  rw [h1, h2]
  exact (mem_matrix hc).1

theorem createdX_spec (h : planObjs e old new = .ok p) :
    (∀ x, x ∈ p.createdX ↔ x ∈ new ∧ x ∉ p.matchedX ∧ canCreate e.guidance x = true ∧
      x ∉ renamesX e.renames old) ∧ (new.Nodup → p.createdX.Nodup) := by
  obtain ⟨_, _, _, _, _, hcr, _⟩ := planObjs_ok h
  rw [Plan.createdX, hcr, createsOf, map_fst_pair]
  exact unmatched_spec (f := (·.x)) (.refl _)

theorem deletedY_spec (h : planObjs e old new = .ok p) :
    (∀ y, y ∈ p.deletedY ↔ y ∈ old ∧ y ∉ p.matchedY ∧ canDelete e.guidance y = true ∧
      y ∉ renamesY e.renames old) ∧ (old.Nodup → p.deletedY.Nodup) := by
  obtain ⟨_, dord, _, hd, _, _, hde⟩ := planObjs_ok h
  rw [Plan.deletedY, hde, deletesOf, map_fst_pair]
  exact unmatched_spec (f := (·.y)) hd

theorem mem_renamesX {ren : List (String × String)} {old : List String} {x : String} :
    x ∈ renamesX ren old ↔ ∃ y, (y, x) ∈ ren ∧ y ∈ old := by
  simp only [renamesX, List.mem_map, List.mem_filter, List.contains_iff_mem, Prod.exists, exists_eq_right]

theorem mem_renamesY {ren : List (String × String)} {old : List String} {y : String} :
    y ∈ renamesY ren old ↔ ∃ x, (y, x) ∈ ren ∧ y ∈ old := by
  simp only [renamesY, List.mem_map, List.mem_filter, List.contains_iff_mem, Prod.exists, exists_and_right,
    exists_eq_right]

theorem not_suppressedNew (hg : e.guidance = none) (hr : e.renames = []) (x : String) :
    ¬ SuppressedNew e old p x := by
  rintro ⟨_, h1 | h1⟩
  · rw [hg] at h1
    cases h1
  · rw [hr] at h1
    cases h1

theorem not_suppressedOld (hg : e.guidance = none) (hr : e.renames = []) (y : String) :
    ¬ SuppressedOld e old p y := by
  rintro ⟨_, h1 | h1⟩
  · rw [hg] at h1
    cases h1
  · rw [hr] at h1
    cases h1

theorem effSim_no_guidance (hg : e.guidance = none) (x y : String) : effSim e x y = e.sim y x := by
  simp only [effSim, hg, canAlter, Bool.not_true, Bool.and_false, Bool.false_eq_true, if_false]

theorem matched_none_sim (h : planObjs e old new = .ok p) {m : Match} (hm : m ∈ p.matched)
    (hc : m.conf = none) : effSim e m.x m.y = 1000 := by
  obtain ⟨c, hcm, hd⟩ := matched_cell h hm
  obtain ⟨h1, h2, h3, _⟩ := decide1_eq_some hd
  rw [h1, h2, ← (mem_matrix hcm).2]
  exact h3 hc

theorem matched_some_sim (h : planObjs e old new = .ok p) {m : Match} (hm : m ∈ p.matched)
    (hc : m.conf.isSome = true) (hg : e.guidance = none) (hr : m.x ∉ renamesX e.renames old) :
    600 < e.sim m.y m.x ∧ e.sim m.y m.x < 1000 := by
  obtain ⟨c, hcm, hd⟩ := matched_cell h hm
  obtain ⟨h1, h2, _, h4⟩ := decide1_eq_some hd
  have hcond := h4 hc
  rw [h1] at hr
  -- with no guidance everything is allowed, so only the similarity test is left
  simp only [hg, canCreate, canDelete, canAlter, not_contains.2 hr, Bool.not_true, Bool.or_self,
    Bool.or_false, Bool.and_true, Bool.and_eq_true, decide_eq_true_eq, (mem_matrix hcm).2,
    effSim_no_guidance hg] at hcond
  rw [h1, h2]
  exact hcond

end plan

end EdbVerif.Schema
