/-
C13: the executable name-resolution functions of `Model/PgAst.lean` decide the
declarative resolution relations of `Model/PgAstSpec.lean`; likewise the
alias-conflict and duplicate-name tests.
-/
import EdbVerif.Model.PgAstSpec

namespace EdbVerif.PgAst

theorem resolveQual_iff (a c : Name) (ls : List Level) :
    resolveQual a c ls = true ↔ ResolvesQual a c ls := by
  constructor
  · intro h
    fun_induction resolveQual a c ls with
    | case1 => cases h
    | case2 l ls h1 ih => exact .there h1 (ih h)
    | case3 l ls r h1 => exact .here h1 (Bool.and_eq_true_iff.1 h).1 (Bool.and_eq_true_iff.1 h).2
    | case4 => cases h
  · intro h
    induction h with
    | here h1 h2 h3 => simp only [resolveQual, h1, h2, h3, Bool.and_self]
    | there h1 _ ih => simp only [resolveQual, h1, ih]

theorem resolveQual3_iff (s t c : Name) (ls : List Level) :
    resolveQual3 s t c ls = true ↔ ResolvesQual3 s t c ls := by
  constructor
  · intro h
    fun_induction resolveQual3 s t c ls with
    | case1 => cases h
    | case2 l ls h1 ih => exact .there h1 (ih h)
    | case3 l ls r h1 => exact .here h1 (Bool.and_eq_true_iff.1 h).1 (Bool.and_eq_true_iff.1 h).2
    | case4 => cases h
  · intro h
    induction h with
    | here h1 h2 h3 => simp only [resolveQual3, h1, h2, h3, Bool.and_self]
    | there h1 _ ih => simp only [resolveQual3, h1, ih]

theorem resolveRel_iff (a : Name) (ls : List Level) :
    resolveRel a ls = true ↔ ResolvesRel a ls := by
  constructor
  · intro h
    fun_induction resolveRel a ls with
    | case1 => cases h
    | case2 l ls h1 ih => exact .there h1 (ih h)
    | case3 l ls r h1 => exact .here h1 h
    | case4 => cases h
  · intro h
    induction h with
    | here h1 h2 => simp only [resolveRel, h1, h2]
    | there h1 _ ih => simp only [resolveRel, h1, ih]

theorem resolveRel3_iff (s t : Name) (ls : List Level) :
    resolveRel3 s t ls = true ↔ ResolvesRel3 s t ls := by
  constructor
  · intro h
    fun_induction resolveRel3 s t ls with
    | case1 => cases h
    | case2 l ls h1 ih => exact .there h1 (ih h)
    | case3 l ls r h1 => exact .here h1 h
    | case4 => cases h
  · intro h
    induction h with
    | here h1 h2 => simp only [resolveRel3, h1, h2]
    | there h1 _ ih => simp only [resolveRel3, h1, ih]

theorem filter_offers_eq_nil (c : Name) (l : Level) :
    l.filter (·.offers c) = [] ↔ ∀ r ∈ l, r.offers c = false :=
  List.filter_eq_nil_iff.trans (forall₂_congr fun _ _ => Bool.eq_false_iff.symm)

theorem noLevelOffers_cons (c : Name) (l : Level) (ls : List Level) :
    NoLevelOffers c (l :: ls) ↔ l.filter (·.offers c) = [] ∧ NoLevelOffers c ls := by
  simp only [NoLevelOffers, List.forall_mem_cons, filter_offers_eq_nil]

theorem resolveCol_none_iff (c : Name) (ls : List Level) :
    resolveCol c ls = none ↔ NoLevelOffers c ls := by
  fun_induction resolveCol c ls with
  | case1 => exact ⟨fun _ => nofun, fun _ => rfl⟩
  | case2 l ls h ih => rw [ih, noLevelOffers_cons, and_iff_right h]
  | case3 l ls hne => exact ⟨nofun, fun h => absurd ((noLevelOffers_cons ..).1 h).1 hne⟩

theorem resolveCol_true_iff (c : Name) (ls : List Level) :
    resolveCol c ls = some true ↔ ResolvesCol c ls := by
  fun_induction resolveCol c ls with
  | case1 => exact ⟨nofun, nofun⟩
  | case2 l ls h ih =>
    rw [ih]
    refine ⟨.there ((filter_offers_eq_nil c l).1 h), fun hh => ?_⟩
    cases hh with
    | here h1 _ _ => exact absurd h h1
    | there _ h2 => exact h2
  | case3 l ls hne =>
    simp only [Option.some.injEq, Bool.and_eq_true, List.all_eq_true, decide_eq_true_eq,
      List.mem_filter, and_imp]
    refine ⟨fun h => .here hne h.1 h.2, fun hh => ?_⟩
    cases hh with
    | here _ h2 h3 => exact ⟨h2, h3⟩
    | there h1 _ => exact absurd ((filter_offers_eq_nil c l).2 h1) hne

theorem resolves_iff (ls : List Level) (parts : List Name) :
    resolves ls parts = true ↔ Resolves ls parts := by
  fun_cases resolves ls parts with
  | case1 c b h =>
    rw [Resolves, ← resolveCol_true_iff, ← resolveCol_none_iff, h]
    simp
  | case2 c h =>
    -- no level offers a column `c`: the bare name is then a whole-row reference to a relation
    rw [Resolves, ← resolveCol_true_iff, ← resolveCol_none_iff, h, resolveRel_iff]
    simp
  | case3 a c => exact resolveQual_iff a c ls
  | case4 s t c => exact resolveQual3_iff s t c ls
  | case5 h1 h2 h3 => simp [Resolves, *]

theorem resolvesStar_iff (ls : List Level) (qual : List Name) :
    resolvesStar ls qual = true ↔ ResolvesStar ls qual := by
  fun_cases resolvesStar ls qual with
  | case1 => exact ⟨fun _ => trivial, fun _ => rfl⟩
  | case2 a => exact resolveRel_iff a ls
  | case3 s t => exact resolveRel3_iff s t ls
  | case4 h1 h2 h3 => simp [ResolvesStar, *]

theorem noConflicts_iff {rv : List RVar} : noConflicts rv = true ↔ NoConflicts rv := by
  induction rv with
  | nil => exact ⟨fun _ => .nil, fun _ => rfl⟩
  | cons r rs ih =>
    simp only [noConflicts, NoConflicts, Bool.and_eq_true, List.all_eq_true, Bool.not_eq_true',
      List.pairwise_cons] at ih ⊢
    rw [ih]

theorem nodupNames_iff {ns : List Name} : nodupNames ns = true ↔ ns.Nodup := by
  induction ns with
  | nil => exact ⟨fun _ => .nil, fun _ => rfl⟩
  | cons n ns ih =>
    simp only [nodupNames, Bool.and_eq_true, Bool.not_eq_true', List.contains_eq_mem,
      decide_eq_false_iff_not, List.nodup_cons, ih]

end EdbVerif.PgAst
