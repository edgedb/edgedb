/-
The example spec of the non-vacuity `example`s in Props/C19.lean and its well-formedness facts.
-/
import EdbVerif.Model.ConfigSpec
namespace EdbVerif.C19
open EdbVerif.Config

def exPort : TSpec :=
  { name := "Port", fields := [
      { name := "database", ty := .sc .str, unique := true },
      { name := "port", ty := .sc .int },
      { name := "address", ty := .set .str, unique := true, default := some (.set [.str "localhost"]) },
      { name := "timeout", ty := .sc .dur, default := some (.sc .none) } ] }

def exSettings : List Setting := [
  { name := "i", ty := .sc .int, default := .sc (.int 0) },
  { name := "d", ty := .sc .dur, default := .sc (.dur 10000000) },
  { name := "mem", ty := .sc .mem, default := .sc (.mem 1024) },
  { name := "ints", ty := .sc .int, setOf := true, default := .set [] },
  { name := "obj", ty := .obj exPort, default := .sc .none },
  { name := "objs", ty := .obj exPort, setOf := true, default := .objs [] } ]

def exSpec : Spec := { settings := exSettings, types := [exPort] }

theorem exPort_ok : TSpecOK exPort := by
  refine ⟨by simp [exPort], by simp [exPort], ?_⟩
  intro f hf d hd
  simp only [exPort, List.mem_cons, List.not_mem_nil, or_false] at hf
  rcases hf with rfl | rfl | rfl | rfl <;> cases hd
  · exact ⟨fun x hx => by cases List.mem_singleton.mp hx; exact ⟨_, rfl, rfl⟩,
      List.pairwise_singleton _ _⟩
  · exact rfl

theorem exSpec_types (n : String) (t : TSpec) (h : exSpec.getType n = some t) : t = exPort := by
  unfold Spec.getType exSpec at h
  simp at h
  exact h.2.symm

theorem exSpec_get (n : String) (s : Setting) (h : exSpec.get n = some s) : s ∈ exSpec.settings := by
  unfold Spec.get at h
  exact List.mem_reverse.mp (List.mem_of_find?_eq_some h)

end EdbVerif.C19
