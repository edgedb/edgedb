/-
C07 — exact coverage of the rewrite plan where the hierarchy below the selected
type is a forest (no diamonds, no redundant bases below it): every visible
object of the type or a subtype is yielded exactly as often as it is stored.
`regularB = true` suffices for the forest hypothesis and can be evaluated on a concrete schema.
-/
import EdbVerif.Lemmas.PolicyPlan

namespace EdbVerif.Policy

variable {sch : Schema} (wf : WF sch) (holds : CondId → Obj → Bool) (db : DB)

theorem countP_unique {α} [BEq α] [LawfulBEq α] {l : List α} (hn : l.Nodup) {a : α} (ha : a ∈ l)
    {q : α → Bool} (hq : q a = true) (hu : ∀ x ∈ l, q x = true → x = a) : l.countP q = 1 := by
  -- on `l`, `q` is "being `a`", and `a` occurs once
  have hqa : ∀ x ∈ l, q x = true ↔ (x == a) = true := fun x hx =>
    ⟨fun h => beq_iff_eq.2 (hu x hx h), fun h => eq_of_beq h ▸ hq⟩
  exact (List.countP_congr hqa).trans (hn.count.trans (if_pos ha))

theorem sum_indicator {α} (l : List α) (q : α → Bool) (c : Nat) :
    (l.map (fun x => if q x = true then c else 0)).sum = c * l.countP q := by
  induction l with
  | nil => rfl
  | cons x xs ih =>
    rw [List.map_cons, List.sum_cons, ih, List.countP_cons]
    cases q x
    · exact Nat.zero_add _
    · exact (Nat.add_comm _ _).trans (Nat.mul_succ _ _).symm

theorem countP_own (t : TypeId) {o : Obj} (ha : isAbstract sch o.ty = false) :
    (if isAbstract sch t then [] else [(⟨t, true⟩ : Key)]).countP (inScope sch · o)
      = if o.ty == t then 1 else 0 := by
  split
  next hab => exact (if_neg fun h => by rw [← eq_of_beq h, ha] at hab; cases hab).symm
  next => rw [List.countP_singleton, inScope_skip]

theorem hasDup_false_of_nodup {l : List Nat} (h : l.Nodup) : hasDup l = false := by
  induction l with
  | nil => rfl
  | cons x xs ih =>
    rw [List.nodup_cons] at h
    rw [hasDup, ih h.2, Bool.or_false, List.contains_eq_mem, decide_eq_false h.1]

/-- Below `t` the hierarchy is a forest and the overlap branch of
    `try_type_rewrite` is never taken (on a well-formed schema the second follows from the first,
    by `overlap_false_of_disjoint` at each type of the cone). -/
structure Regular (sch : Schema) (t : TypeId) : Prop where
  tree : TreeBelow sch t
  noOverlap : ∀ s, inCone sch t s = true → childrenOverlap sch ⟨s, false⟩ = false

/-- executable check of `Regular` (all quantifiers range over declared types) -/
def regularB (sch : Schema) (t : TypeId) : Bool :=
  (t :: sch.map (·.id)).all fun s => !inCone sch t s ||
    (!childrenOverlap sch ⟨s, false⟩ &&
     (children sch s).all fun c₁ => (children sch s).all fun c₂ => (sch.map (·.id)).all fun d =>
       !(inCone sch c₁ d && inCone sch c₂ d) || c₁ == c₂)

/-- what `TreeBelow` asks of each type `s` of the cone: the cones of two different children of `s`
    are disjoint -/
def DisjointChildren (sch : Schema) (s : TypeId) : Prop :=
  ∀ c₁ ∈ children sch s, ∀ c₂ ∈ children sch s, ∀ d,
    inCone sch c₁ d = true → inCone sch c₂ d = true → c₁ = c₂

theorem regular_of_check {sch : Schema} {t : TypeId} (h : regularB sch t = true) : Regular sch t := by
  have key : ∀ s, inCone sch t s = true →
      childrenOverlap sch ⟨s, false⟩ = false ∧ DisjointChildren sch s := fun s hs => by
    have := List.all_eq_true.1 h s (List.mem_cons.2 (declared_of_inCone hs))
    rw [hs, Bool.not_true, Bool.false_or, Bool.and_eq_true, Bool.not_eq_true'] at this
    refine ⟨this.1, fun c₁ h₁ c₂ h₂ d hd₁ hd₂ => ?_⟩
    -- `d` is declared: it is `c₁`, a child, or has `c₁` among its stored ancestors
    have hd : d ∈ sch.map (·.id) := (declared_of_inCone hd₁).elim (fun e => by
      obtain ⟨dd, hdd, rfl, _⟩ := mem_children.1 h₁
      exact e ▸ List.mem_map_of_mem hdd) id
    have := List.all_eq_true.1 (List.all_eq_true.1 (List.all_eq_true.1 this.2 c₁ h₁) c₂ h₂) d hd
    rw [hd₁, hd₂] at this
    exact eq_of_beq this
  exact ⟨fun s hs => (key s hs).2, fun s hs => (key s hs).1⟩

include wf

theorem tree_child {t c : TypeId} (h : TreeBelow sch t) (hc : c ∈ children sch t) : TreeBelow sch c :=
  fun s hs => h s (inCone_iff.2 (.inr (inCone_child wf hc hs)))

theorem overlap_false_of_disjoint {s : TypeId} (h : DisjointChildren sch s) :
    childrenOverlap sch ⟨s, false⟩ = false := by
  have hn : (allDescs sch s).Nodup :=
    List.pairwise_flatMap.2 ⟨fun c _ => descendants_nodup wf c,
      (children_nodup wf s).imp_of_mem fun h₁ h₂ hne x hx y hy hxy =>
        hne (h _ h₁ _ h₂ x (inCone_of_mem_descendants wf hx)
          (hxy ▸ inCone_of_mem_descendants wf hy))⟩
  unfold childrenOverlap
  rw [hasDup_false_of_nodup hn, Bool.and_false]

theorem countP_children_cone {t d : TypeId} (htree : DisjointChildren sch t)
    (hm : isMaterial sch d = true) :
    (children sch t).countP (fun c => inCone sch c d && isMaterial sch c)
      = if t ∈ ancestorsOf sch d then 1 else 0 := by
  split
  next ht =>
    obtain ⟨c, hc, hcd⟩ := anc_first_step wf ht
    have hcd' : inCone sch c d = true := inCone_iff.2 hcd
    refine countP_unique (children_nodup wf t) hc ?_ fun c' hc' hq =>
      htree c' hc' c hc d (Bool.and_eq_true_iff.1 hq).1 hcd'
    rw [hcd']
    exact hcd.elim (· ▸ hm) (anc_material wf)
  next ht =>
    exact List.countP_eq_zero.2 fun c hc hq => ht (inCone_child wf hc (Bool.and_eq_true_iff.1 hq).1)

theorem countP_parts {t : TypeId} (htree : TreeBelow sch t) {o : Obj}
    (hm : isMaterial sch o.ty = true) (ha : isAbstract sch o.ty = false)
    (hin : inScope sch ⟨t, false⟩ o = true) : (parts sch ⟨t, false⟩).countP (inScope sch · o) = 1 := by
  have hself : DisjointChildren sch t := htree t (inCone_self sch t)
  unfold parts
  rw [overlap_false_of_disjoint wf hself, if_neg Bool.false_ne_true, List.countP_append, List.countP_filter,
    List.countP_map, countP_own t ha]
  show _ + (children sch t).countP (fun c => inCone sch c o.ty && isMaterial sch c) = 1
  rw [countP_children_cone wf hself hm]
  -- the object sits in the type's own table or below exactly one child, not both: `rank`
  rcases inCone_iff.1 (inScope_noskip sch t o ▸ hin) with h | h
  · rw [if_pos (beq_iff_eq.2 h), if_neg fun h' => Nat.lt_irrefl _ (h ▸ anc_rank wf h')]
  · rw [if_neg fun h' => Nat.lt_irrefl _ (eq_of_beq h' ▸ anc_rank wf h), if_pos h]

theorem evalKey_count {o : Obj} (hm : isMaterial sch o.ty = true) (ha : isAbstract sch o.ty = false)
    (hv : visible sch holds o = true) (n : Nat) (k : Key) (hn : need sch k ≤ n)
    (htree : k.skip = false → TreeBelow sch k.ty) (hin : inScope sch k o = true) :
    (evalKey sch holds db n k).count o = db.count o := by
  induction n generalizing k with
  | zero => exact absurd hn (need_pos sch k)
  | succ n ih =>
    obtain ⟨t, s⟩ := k
    cases hc : childrenHavePolicies sch ⟨t, s⟩
    · rw [evalKey_leaf holds db n hc]
      exact List.count_filter (by rw [hin, ← visible_eq_leaf wf holds hc hin hm, hv]; rfl)
    · cases (chp_true hc).1
      have htree := htree rfl
      -- a part either has the object in scope, and the count is known, or does not yield it at all
      have hpart : ∀ k' ∈ parts sch ⟨t, false⟩, (List.count o ∘ evalKey sch holds db n) k'
          = if inScope sch k' o = true then db.count o else 0 := fun k' hk' => by
        cases hin' : inScope sch k' o
        · exact List.count_eq_zero_of_not_mem fun h =>
            Bool.false_ne_true (hin'.symm.trans (evalKey_sound wf holds db n k' o h).2.1)
        · refine ih k' (need_part wf hc hk' hn) (fun hs' => ?_) hin'
          rcases mem_parts hk' with rfl | ⟨_, _, rfl⟩ | ⟨c, hch, rfl⟩
          · cases hs'
          · cases hs'
          · exact tree_child wf htree hch
      rw [evalKey_union holds db n hc, List.count_flatMap, List.map_congr_left hpart, sum_indicator,
        countP_parts wf htree hm ha hin, Nat.mul_one]

/-- **Exact coverage on forests**, for every key and any sufficient fuel: reading
    the key yields, as a bag, the visible objects in its scope. -/
theorem evalKey_perm (hdb : WFDB sch db) (n : Nat) (k : Key) (hn : need sch k ≤ n)
    (htree : k.skip = false → TreeBelow sch k.ty) :
    (evalKey sch holds db n k).Perm (db.filter fun o => inScope sch k o && visible sch holds o) := by
  rw [List.perm_iff_count]
  intro o
  by_cases h : o ∈ db.filter fun o => inScope sch k o && visible sch holds o
  · obtain ⟨hmem, hp⟩ := List.mem_filter.1 h
    rw [List.count_filter (p := fun o => inScope sch k o && visible sch holds o) hp]
    rw [Bool.and_eq_true] at hp
    exact evalKey_count wf holds db (hdb o hmem).2.1 (hdb o hmem).2.2 hp.2 n k hn htree hp.1
  · rw [List.count_eq_zero_of_not_mem h]
    exact List.count_eq_zero_of_not_mem fun h' =>
      have ⟨h1, h2, h3⟩ := evalKey_sound wf holds db n k o h'
      h (List.mem_filter.2 ⟨h1, by rw [h2, h3]; rfl⟩)

end EdbVerif.Policy
