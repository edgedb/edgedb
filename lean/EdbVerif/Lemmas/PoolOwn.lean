/-
C15, ownership (`InvOwn`).  A connection is on the stack, in limbo, lent, or in hand (`Hand`).  A primitive
leaves this view alone (`OS`) or moves one connection of one block (`InvOwn.modAt`, `Owns`).
-/
import EdbVerif.Lemmas.PoolPrims
import EdbVerif.Lemmas.ListAux

namespace EdbVerif.Pool

/-- `b'` looks like `b` to the ownership bookkeeping -/
def OV (b' b : Block) : Prop :=
  b'.uid = b.uid ∧ b'.name = b.name ∧ b'.conns = b.conns ∧ b'.stack.Sublist b.stack ∧
    b'.acquired = b.acquired

/-- what `InvOwn` reads of a block -/
def Block.ov (b : Block) : Nat × Nat × List (Nat × Bool) × List Nat × Int :=
  (b.uid, b.name, b.conns, b.stack, b.acquired)

theorem OV.of_view {b' b : Block} (h : b'.ov = b.ov) : OV b' b := by
  simp only [Block.ov, Prod.mk.injEq] at h
  exact ⟨h.1, h.2.1, h.2.2.1, h.2.2.2.1 ▸ .refl _, h.2.2.2.2⟩

theorem OV.refl (b : Block) : OV b b := .of_view rfl
theorem OV.trans {a b c : Block} (h1 : OV a b) (h2 : OV b c) : OV a c :=
  ⟨h1.1.trans h2.1, h1.2.1.trans h2.2.1, h1.2.2.1.trans h2.2.2.1, h1.2.2.2.1.trans h2.2.2.2.1,
    h1.2.2.2.2.trans h2.2.2.2.2⟩

/-- `s'` is `s` as far as `InvOwn` can see: same blocks up to `OV`, same holders, no new pending discard -/
structure OS (s' s : State) : Prop where
  sub : ∀ b' ∈ s'.blocks, ∃ b ∈ s.blocks, OV b' b
  sup : ∀ b ∈ s.blocks, ∃ b' ∈ s'.blocks, OV b' b
  h : s'.holders = s.holders
  l : (limbo s').Sublist (limbo s)
  n : s.nextUid ≤ s'.nextUid

theorem OS.refl (s : State) : OS s s :=
  ⟨fun b hb => ⟨b, hb, OV.refl b⟩, fun b hb => ⟨b, hb, OV.refl b⟩, rfl, List.Sublist.refl _, Nat.le_refl _⟩

theorem OS.trans {a b c : State} (h1 : OS a b) (h2 : OS b c) : OS a c := by
  refine ⟨?_, ?_, h1.h.trans h2.h, h1.l.trans h2.l, Nat.le_trans h2.n h1.n⟩
  · intro x hx
    obtain ⟨y, hy, hxy⟩ := h1.sub x hx
    obtain ⟨z, hz, hyz⟩ := h2.sub y hy
    exact ⟨z, hz, hxy.trans hyz⟩
  · intro z hz
    obtain ⟨y, hy, hyz⟩ := h2.sup z hz
    obtain ⟨x, hx, hxy⟩ := h1.sup y hy
    exact ⟨x, hx, hxy.trans hyz⟩

theorem InvOwn.ofOS {s' s : State} (h : InvOwn s) (v : OS s' s) : InvOwn s' := by
  refine ⟨?_, ?_, ?_, ?_, ?_, by rw [v.h]; exact h.single, ?_, ?_, v.l.nodup h.limboNd,
    fun p hp => Nat.lt_of_lt_of_le (h.limboUid p (v.l.subset hp)) v.n⟩
  · intro b1 hb1 b2 hb2 e
    obtain ⟨a1, ha1, hu1, hn1, _⟩ := v.sub b1 hb1
    obtain ⟨a2, ha2, hu2, hn2, _⟩ := v.sub b2 hb2
    rw [hu1, hu2]
    exact h.nameInj a1 ha1 a2 ha2 (by rw [← hn1, ← hn2]; exact e)
  · intro b1 hb1 b2 hb2 c hc1 hc2
    obtain ⟨a1, ha1, hu1, _, hcs1, _⟩ := v.sub b1 hb1
    obtain ⟨a2, ha2, hu2, _, hcs2, _⟩ := v.sub b2 hb2
    rw [hu1, hu2]
    rw [Block.ids, hcs1] at hc1
    rw [Block.ids, hcs2] at hc2
    exact h.disj a1 ha1 a2 ha2 c hc1 hc2
  · intro b' hb' c hc
    obtain ⟨b, hb, _, _, hcs, hst, _⟩ := v.sub b' hb'
    rw [hcs]; exact h.stackIdle b hb c (hst.subset hc)
  · intro b' hb'
    obtain ⟨b, hb, _, _, _, hst, _⟩ := v.sub b' hb'
    exact hst.nodup (h.stackNd b hb)
  · intro x hx
    rw [v.h] at hx
    obtain ⟨b, hb, hn, hc⟩ := h.held x hx
    obtain ⟨b', hb', _, hn', hcs, _⟩ := v.sup b hb
    exact ⟨b', hb', hn'.trans hn, by rw [hcs]; exact hc⟩
  · intro b' hb'
    obtain ⟨b, hb, _, hn, _, _, ha⟩ := v.sub b' hb'
    rw [v.h, ha, hn]; exact h.acq b hb
  · intro p hp b' hb' hu
    obtain ⟨b, hb, hu', _, hcs, hst, _⟩ := v.sub b' hb'
    have := h.limboIdle p (v.l.subset hp) b hb (hu'.symm.trans hu)
    rw [hcs]; exact ⟨this.1, fun hm => this.2 (hst.subset hm)⟩

theorem OS.ofMem {s' s : State} (hb : ∀ b, b ∈ s'.blocks ↔ b ∈ s.blocks)
    (hh : s'.holders = s.holders) (hl : (limbo s').Sublist (limbo s))
    (hn : s.nextUid ≤ s'.nextUid := by exact Nat.le_refl _) : OS s' s :=
  ⟨fun b h => ⟨b, (hb b).mp h, OV.refl b⟩, fun b h => ⟨b, (hb b).mpr h, OV.refl b⟩, hh, hl, hn⟩

theorem limbo_congr {s' s : State} (h : s'.tasks = s.tasks) : limbo s' = limbo s := by
  unfold limbo; rw [h]

theorem OS.fields {s' s : State} (hb : s'.blocks = s.blocks) (hh : s'.holders = s.holders)
    (ht : s'.tasks = s.tasks) (hn : s.nextUid ≤ s'.nextUid := by exact Nat.le_refl _) : OS s' s :=
  OS.ofMem (fun b => by rw [hb]) hh (by rw [limbo_congr ht]; exact List.Sublist.refl _) hn

theorem InvOwn.fail {s : State} (h : InvOwn s) (m : String) : InvOwn (s.fail m) :=
  h.ofOS (OS.fields rfl rfl rfl)

theorem OS.via {s' s1 s : State} (v : OS s1 s) (hb : s'.blocks = s1.blocks) (hh : s'.holders = s1.holders)
    (ht : s'.tasks = s1.tasks) (hn : s1.nextUid ≤ s'.nextUid := by exact Nat.le_refl _) : OS s' s :=
  OS.trans (OS.fields hb hh ht hn) v

theorem OS.ofCore {s' s : State} (h : SameCore s' s) : OS s' s := by
  obtain ⟨_, _, hb, hn, _, _, ht, _, hh, _, _, _⟩ := h
  exact OS.fields hb hh ht (by rw [hn]; exact Nat.le_refl _)

theorem OS.modOf {s' s : State} {u : Nat} {f : Block → Block} (hb : s'.blocks = modB s.blocks u f)
    (hh : s'.holders = s.holders) (ht : s'.tasks = s.tasks) (hf : ∀ b ∈ s.blocks, b.uid = u → OV (f b) b)
    (hn : s.nextUid ≤ s'.nextUid := by exact Nat.le_refl _) : OS s' s :=
  have h := hb ▸ sim_modB OV.refl hf
  ⟨h.1, h.2, hh, limbo_congr ht ▸ List.Sublist.refl _, hn⟩

theorem OS.map (s : State) (f : Block → Block) (hf : ∀ b, OV (f b) b) :
    OS { s with blocks := s.blocks.map f } s :=
  have h := sim_map fun b _ => hf b
  ⟨h.1, h.2, rfl, List.Sublist.refl _, Nat.le_refl _⟩

theorem Inert.ov {f : Block → Block} (hf : Inert f) (b : Block) : OV (f b) b := by
  rw [hf b]; exact .of_view rfl

theorem OS.toEnd (s : State) (u : Nat) : OS { s with blocks := toEnd s.blocks u } s :=
  OS.ofMem (fun _ => mem_toEnd) rfl (List.Sublist.refl _)

theorem OS.toFront (s : State) (u : Nat) : OS { s with blocks := toFront s.blocks u } s :=
  OS.ofMem (fun _ => mem_toFront) rfl (List.Sublist.refl _)

def Task.limboOf : Task → Option (Nat × Nat)
  | .disc b c false _ => some (b, c)
  | _ => none

theorem limbo_eq (s : State) : limbo s = s.tasks.filterMap fun p => p.2.limboOf := by
  unfold limbo
  congr

theorem limbo_addTask (s : State) (t : Task) :
    limbo (s.addTask t) = limbo s ++ (match t.limboOf with | some x => [x] | none => []) := by
  rw [limbo_eq, limbo_eq]
  show List.filterMap _ (s.tasks ++ [(s.nextTask, t)]) = _
  rw [List.filterMap_append]
  cases h : t.limboOf <;> simp [h]

theorem OS.addTask (s : State) {t : Task} (h : t.limboOf = none) : OS (s.addTask t) s :=
  OS.ofMem (fun _ => Iff.rfl) rfl (by rw [limbo_addTask, h]; simp)

theorem OS.dropTask (s : State) (tid : Nat) : OS (s.dropTask tid) s :=
  OS.ofMem (fun _ => Iff.rfl) rfl (by
    rw [limbo_eq, limbo_eq]
    exact List.Sublist.filterMap _ List.filter_sublist)

theorem limbo_setTask (s : State) (tid : Nat) {t' : Task} (h : t'.limboOf = none) :
    limbo (s.setTask tid t') = limbo (s.dropTask tid) := by
  rw [limbo_eq, limbo_eq]
  show (s.tasks.map _).filterMap _ = (s.tasks.filter _).filterMap _
  rw [List.filterMap_map, List.filterMap_filter]
  congr
  funext p
  by_cases hp : p.1 = tid <;> simp [hp, h]

theorem OS.setTask (s : State) (tid : Nat) {t' : Task} (h : t'.limboOf = none) : OS (s.setTask tid t') s :=
  OS.ofMem (fun _ => Iff.rfl) rfl (by rw [limbo_setTask s tid h]; exact (OS.dropTask s tid).l)

theorem limbo_setTask_gone {s : State} (hnd : (s.tasks.map (·.1)).Nodup) (hl : (limbo s).Nodup) {tid : Nat} {t t' : Task}
    {x : Nat × Nat} (hm : (tid, t) ∈ s.tasks) (ht : t.limboOf = some x) (h' : t'.limboOf = none) :
    x ∉ limbo (s.setTask tid t') := by
  obtain ⟨l₁, l₂, e, hk⟩ := Keyed.exists_split hnd hm
  rw [limbo_setTask s tid h']
  rw [limbo_eq] at hl ⊢
  show x ∉ (s.tasks.filter _).filterMap _
  rw [e, Keyed.erase_split rfl hk]
  rw [e] at hl
  simp only [List.filterMap_append, List.filterMap_cons, ht] at hl ⊢
  exact (List.nodup_cons.mp (List.perm_middle.nodup_iff.mp hl)).1

/-- what `InvOwn` says of the block `b` alone, given the holders `H` and the pending discards `L` -/
structure Owns (b : Block) (H : List Holder) (L : List (Nat × Nat)) : Prop where
  stackIdle : ∀ c ∈ b.stack, (c, false) ∈ b.conns
  stackNd : b.stack.Nodup
  held : ∀ x ∈ H, x.name = b.name → (x.conn, true) ∈ b.conns
  acq : b.acquired = ((H.filter (·.name == b.name)).length : Int)
  limboIdle : ∀ c, (b.uid, c) ∈ L → (c, false) ∈ b.conns ∧ c ∉ b.stack

theorem InvOwn.owns {s : State} (hu : (s.blocks.map (·.uid)).Nodup) (h : InvOwn s) {b : Block}
    (hb : b ∈ s.blocks) : Owns b s.holders (limbo s) where
  stackIdle := h.stackIdle b hb
  stackNd := h.stackNd b hb
  held := fun x hx e => by
    obtain ⟨b1, hb1, hn, hc⟩ := h.held x hx
    rwa [eq_of_uid hu hb1 hb (h.nameInj b1 hb1 b hb (hn.trans e))] at hc
  acq := h.acq b hb
  limboIdle := fun c hc => h.limboIdle (b.uid, c) hc b hb rfl

theorem InvOwn.ofOwns {s : State}
    (nameInj : ∀ b1 ∈ s.blocks, ∀ b2 ∈ s.blocks, b1.name = b2.name → b1.uid = b2.uid)
    (disj : ∀ b1 ∈ s.blocks, ∀ b2 ∈ s.blocks, ∀ c, c ∈ b1.ids → c ∈ b2.ids → b1.uid = b2.uid)
    (owns : ∀ b ∈ s.blocks, Owns b s.holders (limbo s))
    (known : ∀ x ∈ s.holders, ∃ b ∈ s.blocks, b.name = x.name)
    (single : (s.holders.map (·.conn)).Nodup) (limboNd : (limbo s).Nodup)
    (limboUid : ∀ p ∈ limbo s, p.1 < s.nextUid) : InvOwn s where
  nameInj := nameInj
  disj := disj
  stackIdle := fun b hb => (owns b hb).stackIdle
  stackNd := fun b hb => (owns b hb).stackNd
  held := fun x hx =>
    let ⟨b, hb, e⟩ := known x hx
    ⟨b, hb, e, (owns b hb).held x hx e.symm⟩
  single := single
  acq := fun b hb => (owns b hb).acq
  limboIdle := fun p hp b hb e => (owns b hb).limboIdle p.2 (by rw [e]; exact hp)
  limboNd := limboNd
  limboUid := limboUid

theorem Owns.mono {b : Block} {H H' : List Holder} {L L' : List (Nat × Nat)} (o : Owns b H L)
    (hH : H'.filter (·.name == b.name) = H.filter (·.name == b.name))
    (hL : ∀ c, (b.uid, c) ∈ L' → (b.uid, c) ∈ L) : Owns b H' L' where
  stackIdle := o.stackIdle
  stackNd := o.stackNd
  held := fun x hx e => by
    have : x ∈ H'.filter (·.name == b.name) := List.mem_filter.mpr ⟨hx, beq_iff_eq.mpr e⟩
    rw [hH] at this
    exact o.held x (List.mem_filter.mp this).1 e
  acq := by rw [hH]; exact o.acq
  limboIdle := fun c hc => o.limboIdle c (hL c hc)

/-- Only block `u` and the holders of its database change, limbo does not grow: only `f b` is checked. -/
theorem InvOwn.modAt {s s' : State} (hw : WF s) (h : InvOwn s) {u : Nat} {b : Block}
    (hb : s.find u = some b) {f : Block → Block} (hB : s'.blocks = modB s.blocks u f) (hf : KeepsUid f)
    (hname : (f b).name = b.name)
    (hids : ∀ c ∈ (f b).ids, c ∈ b.ids ∨ ∀ x ∈ s.blocks, c ∉ x.ids)
    {H' : List Holder} (hH' : s'.holders = H')
    (hH : ∀ n, n ≠ b.name → H'.filter (·.name == n) = s.holders.filter (·.name == n))
    (hsingle : (H'.map (·.conn)).Nodup)
    (hL : (limbo s').Sublist (limbo s)) (hN : s.nextUid ≤ s'.nextUid)
    (o : Owns (f b) H' (limbo s')) : InvOwn s' := by
  subst hH'
  have hbm := State.find_some hb
  have hcases : ∀ x ∈ s'.blocks, (x.uid ≠ u ∧ x ∈ s.blocks) ∨ x = f b := fun x hx =>
    mem_modB_cases hw.uids hb (by rw [← hB]; exact hx)
  have hother : ∀ x ∈ s.blocks, x.uid ≠ u → x.name ≠ b.name := fun x hx hxu e =>
    hxu ((h.nameInj x hx b hbm.1 e).trans hbm.2)
  refine .ofOwns ?_ ?_ ?_ ?_ hsingle (hL.nodup h.limboNd)
    (fun p hp => Nat.lt_of_lt_of_le (h.limboUid p (hL.subset hp)) hN)
  · intro b1 hb1 b2 hb2 e
    rcases hcases b1 hb1 with ⟨_, h1⟩ | rfl <;> rcases hcases b2 hb2 with ⟨_, h2⟩ | rfl
    · exact h.nameInj b1 h1 b2 h2 e
    · rw [hf b]; exact h.nameInj b1 h1 b hbm.1 (e.trans hname)
    · rw [hf b]; exact h.nameInj b hbm.1 b2 h2 (hname.symm.trans e)
    · rfl
  · intro b1 hb1 b2 hb2 c h1' h2'
    rcases hcases b1 hb1 with ⟨_, h1⟩ | rfl <;> rcases hcases b2 hb2 with ⟨_, h2⟩ | rfl
    · exact h.disj b1 h1 b2 h2 c h1' h2'
    · rw [hf b]
      rcases hids c h2' with hi | hi
      · exact h.disj b1 h1 b hbm.1 c h1' hi
      · exact absurd h1' (hi b1 h1)
    · rw [hf b]
      rcases hids c h1' with hi | hi
      · exact h.disj b hbm.1 b2 h2 c hi h2'
      · exact absurd h2' (hi b2 h2)
    · rfl
  · intro x hx
    rcases hcases x hx with ⟨hxu, hxs⟩ | rfl
    · exact (h.owns hw.uids hxs).mono (hH _ (hother x hxs hxu)) (fun c hc => hL.subset hc)
    · exact o
  · intro x hx
    by_cases e : x.name = b.name
    · exact ⟨f b, by rw [hB]; exact mem_modB_at hb f, hname.trans e.symm⟩
    · have hxs : x ∈ s'.holders.filter (·.name == x.name) := List.mem_filter.mpr ⟨hx, beq_iff_eq.mpr rfl⟩
      rw [hH _ e] at hxs
      obtain ⟨b1, hb1, hn, _⟩ := h.held x (List.mem_filter.mp hxs).1
      have hb1u : b1.uid ≠ u := fun e' =>
        e (by rw [← hn, State.eq_of_find hw.uids hb hb1 e'])
      exact ⟨b1, by rw [hB]; exact mem_modB_other f hb1 hb1u, hn⟩

theorem not_lent {s : State} (hw : WF s) (h : InvOwn s) {b : Block} (hb : b ∈ s.blocks) {c : Nat}
    (hc : (c, false) ∈ b.conns) : ∀ x ∈ s.holders, x.conn ≠ c := by
  intro x hx e
  obtain ⟨b1, hb1, _, hcx⟩ := h.held x hx
  rw [e] at hcx
  have hu : b1.uid = b.uid :=
    h.disj b1 hb1 b hb c (List.mem_map_of_mem (f := (·.1)) hcx) (List.mem_map_of_mem (f := (·.1)) hc)
  rw [eq_of_uid hw.uids hb1 hb hu] at hcx
  exact not_free_and_used (hw.cids b hb) hc hcx

/-- connection `c` of block `u` is in hand: off the stack or back from its holder, not yet put anywhere -/
def Hand (s : State) (u c : Nat) : Prop :=
  ∃ b, s.find u = some b ∧ (c, false) ∈ b.conns ∧ c ∉ b.stack ∧ (u, c) ∉ limbo s

theorem Hand.ofCore {s s' : State} {u c : Nat} (h : Hand s u c) (hc : SameCore s' s) : Hand s' u c := by
  obtain ⟨_, _, hb, _, _, _, ht, _, _, _, _, _⟩ := hc
  obtain ⟨b, h1, h2, h3, h4⟩ := h
  refine ⟨b, ?_, h2, h3, ?_⟩
  · show findB s'.blocks u = some b
    rw [hb]; exact h1
  · rw [limbo_congr ht]; exact h4

theorem take_own {s : State} (hw : WF s) (h : InvOwn s) {u : Nat} {b : Block} (hb : s.find u = some b)
    (f : Block → Block) (hf : KeepsUid f) (hv : OV (f b) b) {c : Nat} (hc : c ∈ b.stack)
    (hnc : c ∉ (f b).stack) : InvOwn (s.mod u f) ∧ Hand (s.mod u f) u c := by
  have hbm := State.find_some hb
  refine ⟨h.ofOS (OS.modOf rfl rfl rfl fun x hx e => State.eq_of_find hw.uids hb hx e ▸ hv),
    f b, State.find_mod_at hb hf, ?_, hnc, ?_⟩
  · rw [hv.2.2.1]; exact h.stackIdle b hbm.1 c hc
  · exact fun hl => (h.limboIdle (u, c) hl b hbm.1 hbm.2).2 hc

theorem push_own {s : State} (hw : WF s) (h : InvOwn s) {u c : Nat} (hd : Hand s u c) :
    InvOwn (s.mod u fun b => { b with stack := b.stack ++ [c] }) := by
  obtain ⟨b, hb, hc1, hc2, hc3⟩ := hd
  have hbm := State.find_some hb
  have o := h.owns hw.uids hbm.1
  refine h.modAt hw hb rfl (fun _ => rfl) rfl (fun _ hc => .inl hc) rfl (fun _ _ => rfl) h.single
    (.refl _) (Nat.le_refl _) ⟨ListAux.forall_mem_snoc o.stackIdle hc1, ListAux.nodup_snoc.mpr ⟨hc2, o.stackNd⟩, o.held, o.acq, ?_⟩
  intro c' hc'
  obtain ⟨h1, h2⟩ := o.limboIdle c' hc'
  refine ⟨h1, fun hm => ?_⟩
  rcases List.mem_append.mp hm with hm | hm
  · exact h2 hm
  · rw [List.mem_singleton.mp hm, hbm.2] at hc'
    exact hc3 hc'

theorem schedDiscard_own {s : State} (hw : WF s) (h : InvOwn s) {u c : Nat} (hd : Hand s u c) (bh : Bool) :
    InvOwn (schedDiscard s u c bh) := by
  obtain ⟨b, hb, hc1, hc2, hc3⟩ := hd
  have hbm := State.find_some hb
  have hl : limbo (schedDiscard s u c bh) = limbo s ++ [(u, c)] := limbo_addTask s _
  refine ⟨h.nameInj, h.disj, h.stackIdle, h.stackNd, h.held, h.single, h.acq, ?_,
    hl ▸ ListAux.nodup_snoc.mpr ⟨hc3, h.limboNd⟩, ?_⟩
  · rw [hl]
    refine ListAux.forall_mem_snoc h.limboIdle fun x hx hxu => ?_
    rw [State.eq_of_find hw.uids hb hx hxu]
    exact ⟨hc1, hc2⟩
  · rw [hl]
    exact ListAux.forall_mem_snoc h.limboUid (hbm.2 ▸ hw.uidsFresh b hbm.1)

theorem eraseConn_own {s s' : State} (hw : WF s) (h : InvOwn s) {u c : Nat} {b : Block}
    (hb : s.find u = some b) (hc1 : (c, false) ∈ b.conns) (hc2 : c ∉ b.stack)
    (hB : s'.blocks = modB s.blocks u fun b => { b with conns := b.conns.filter (·.1 != c) })
    (hH : s'.holders = s.holders) (hl : (limbo s').Sublist (limbo s)) (hnl : (u, c) ∉ limbo s')
    (hN : s.nextUid ≤ s'.nextUid := by exact Nat.le_refl _) : InvOwn s' := by
  have hbm := State.find_some hb
  have o := h.owns hw.uids hbm.1
  have keep : ∀ p ∈ b.conns, p.1 ≠ c → p ∈ b.conns.filter (·.1 != c) := fun p hp hne =>
    List.mem_filter.mpr ⟨hp, bne_iff_ne.mpr hne⟩
  refine h.modAt hw hb hB (fun _ => rfl) rfl ?_ hH (fun _ _ => rfl) h.single hl hN
    ⟨?_, o.stackNd, ?_, o.acq, ?_⟩
  · intro c' hc'
    obtain ⟨p, hp, rfl⟩ := List.mem_map.mp hc'
    exact .inl (List.mem_map_of_mem (List.mem_filter.mp hp).1)
  · exact fun c' hc' => keep _ (o.stackIdle c' hc') fun e => hc2 (e ▸ hc')
  · intro x hx e
    have hx' := o.held x hx e
    refine keep _ hx' fun e' => ?_
    rw [show x.conn = c from e'] at hx'
    exact not_free_and_used (hw.cids b hbm.1) hc1 hx'
  · intro c' hc'
    obtain ⟨h1, h2⟩ := o.limboIdle c' (hl.subset hc')
    exact ⟨keep _ h1 fun e => hnl (by rw [← e, ← hbm.2]; exact hc'), h2⟩

theorem lend_own {s : State} (hw : WF s) (h : InvOwn s) {u c : Nat} (hd : Hand s u c) (r : Nat) :
    InvOwn (lend s r u c) := by
  obtain ⟨b, hb, hc1, hc2, hc3⟩ := hd
  have hbm := State.find_some hb
  have o := h.owns hw.uids hbm.1
  unfold lend
  simp only [show ({ s with nacq := s.nacq - 1 } : State).find u = some b from hb]
  split
  · have hfree := not_lent hw h hbm.1 hc1
    refine h.modAt hw hb rfl (fun _ => rfl) rfl
      (fun c' hc' => .inl (by rwa [Block.ids, map_fst_setFlag] at hc'))
      (H' := s.holders ++ [⟨r, b.name, c⟩]) rfl ?_ ?_ (.refl _) (Nat.le_refl _) ⟨?_, o.stackNd, ?_, ?_, ?_⟩
    · intro n hn
      rw [List.filter_append, List.filter_cons, if_neg fun e => hn (beq_iff_eq.mp e).symm, List.filter_nil,
        List.append_nil]
    · exact Keyed.nodup_map_snoc h.single hfree
    · exact fun c' hc' => mem_setFlag (o.stackIdle c' hc') fun e => absurd (e ▸ hc') hc2
    · exact ListAux.forall_mem_snoc (fun x hx e => mem_setFlag (o.held x hx e) fun _ => rfl) fun _ => mem_setFlag_self hc1
    · show b.acquired + 1 = _
      rw [List.filter_append, List.length_append, List.filter_cons, if_pos (beq_iff_eq.mpr rfl), o.acq]
      rfl
    · intro c' hc'
      obtain ⟨h1, h2⟩ := o.limboIdle c' hc'
      exact ⟨mem_setFlag h1 fun e => absurd (by rw [← e, ← hbm.2]; exact hc') hc3, h2⟩
  · exact h.ofOS (OS.fields rfl rfl rfl)

theorem unlend_own {s : State} (hw : WF s) (hreq : (s.holders.map (·.req)).Nodup) (h : InvOwn s)
    {r : Nat} {hd : Holder} {b : Block} {c' : Nat}
    (hfind : s.holders.find? (·.req == r) = some hd) (hb : findName s.blocks hd.name = some b)
    (hc : b.conns.find? (·.1 == hd.conn) = some (c', true)) :
    InvOwn (unlend s r b.uid hd.conn) ∧ Hand (unlend s r b.uid hd.conn) b.uid hd.conn := by
  have hbn := findName_some hb
  obtain ⟨hdm, hdr⟩ := Keyed.find_some hfind
  have hct : (hd.conn, true) ∈ b.conns := find_conn_some hc
  have hbf := State.find_of_mem hw.uids hbn.1
  have o := h.owns hw.uids hbn.1
  have hcnt := fun n => Keyed.length_filter_erase hreq hdm (·.name == n)
  rw [hdr] at hcnt
  let f : Block → Block := fun b =>
    { b with acquired := b.acquired - 1, conns := b.conns.map fun p => if p.1 == hd.conn then (hd.conn, false) else p }
  have hown : InvOwn (unlend s r b.uid hd.conn) := by
    refine h.modAt hw hbf (f := f) rfl (fun _ => rfl) rfl
      (fun c' hc' => .inl (by rwa [Block.ids, map_fst_setFlag] at hc'))
      (H' := s.holders.filter (·.req != r)) rfl ?_
      (Keyed.nodup_map_filter h.single) (.refl _) (Nat.le_refl _)
      ⟨?_, o.stackNd, ?_, ?_, ?_⟩
    · -- the holders of another database: the filter drops none of them
      intro n hn
      have := hcnt n
      rw [if_neg fun e => hn (hbn.2.trans (beq_iff_eq.mp e)).symm] at this
      exact (List.filter_sublist.filter _).eq_of_length (by omega)
    · exact fun c' hc' => mem_setFlag (o.stackIdle c' hc') fun _ => rfl
    · intro x hx e
      obtain ⟨hxs, hxr⟩ := List.mem_filter.mp hx
      refine mem_setFlag (o.held x hxs e) fun e' => ?_
      rw [Keyed.eq_of_key h.single hxs hdm e', hdr] at hxr
      exact absurd rfl (bne_iff_ne.mp hxr)
    · have := hcnt b.name
      rw [if_pos (beq_iff_eq.mpr hbn.2.symm)] at this
      show b.acquired - 1 = (((s.holders.filter (·.req != r)).filter (·.name == b.name)).length : Int)
      rw [o.acq]
      omega
    · exact fun c' hc' => ⟨mem_setFlag (o.limboIdle c' hc').1 fun _ => rfl, (o.limboIdle c' hc').2⟩
  refine ⟨hown, f b, State.find_mod_at hbf fun _ => rfl, mem_setFlag_self hct, ?_, ?_⟩
  · exact fun hm => not_free_and_used (hw.cids b hbn.1) (o.stackIdle _ hm) hct
  · exact fun hl => not_free_and_used (hw.cids b hbn.1) (o.limboIdle _ hl).1 hct

end EdbVerif.Pool
