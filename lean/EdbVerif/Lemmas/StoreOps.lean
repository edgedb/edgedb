/-
One walk through the body of each raw operation: from a consistent schema, inside `rawOK`, it commits one
record or fails with an error that is not internal (`step_outcome`). From that, `Inv` and `ClassesOK` along every
guarded history from the empty schema.
-/
import EdbVerif.Lemmas.StoreInv

namespace EdbVerif.Store

def Outcome (K : Prop) (P : State → Prop) : Except Err State → Prop
  | .ok s' => P s'
  | .error e => K → e.internal = false

variable {s : State} {id : Nat} {c : Cls}

section walk
variable {K : Prop} {P Q : State → Prop} {r : Except Err State}

theorem Outcome.ok {s' : State} (h : Outcome K P r) (hr : r = .ok s') : P s' := by
  subst hr; exact h

theorem Outcome.error {e : Err} (h : Outcome K P r) (hr : r = .error e) (hK : K) : e.internal = false := by
  subst hr; exact h hK

theorem Outcome.mono {K' : Prop} (h : Outcome K P r) (hK : K' → K) (hPQ : ∀ s', P s' → Q s') :
    Outcome K' Q r := by
  cases r with
  | error e => exact fun k => h (hK k)
  | ok s' => exact hPQ s' h

theorem Outcome.imp (h : Outcome K P r) (hPQ : ∀ s', P s' → Q s') : Outcome K Q r :=
  h.mono (fun k => k) hPQ

theorem Outcome.ite {b : Prop} [Decidable b] {r' : Except Err State}
    (ht : b → Outcome K P r') (hr : ¬ b → Outcome K P r) : Outcome K P (if b then r' else r) := by
  split
  · exact ht ‹_›
  · exact hr ‹_›

theorem Outcome.guard {b : Prop} [Decidable b] {e : Err} (he : e.internal = false)
    (hr : ¬ b → Outcome K P r) : Outcome K P (if b then .error e else r) :=
  Outcome.ite (fun _ _ => he) hr

/- One lemma per type at which the operations' bodies match: `refine` then unifies the lemma's `match` with
   the model's (a lemma polymorphic in the type does not unify). -/

theorem Outcome.data {x : Option (List Val)} {f : List Val → Except Err State}
    (hn : x = none → Outcome K P r) (hs : ∀ d, x = some d → Outcome K P (f d)) :
    Outcome K P (match (generalizing := false) x with | none => r | some d => f d) := by
  cases x with
  | none => exact hn rfl
  | some d => exact hs d rfl

theorem Outcome.type {x : Option Cls} {f : Cls → Except Err State}
    (hn : x = none → Outcome K P r) (hs : ∀ c, x = some c → Outcome K P (f c)) :
    Outcome K P (match (generalizing := false) x with | none => r | some c => f c) := by
  cases x with
  | none => exact hn rfl
  | some c => exact hs c rfl

theorem Outcome.check {x : Except Err Unit}
    (he : ∀ e, x = .error e → e.internal = false) (hok : Outcome K P r) :
    Outcome K P (match (generalizing := false) x with | .error e => .error e | .ok _ => r) := by
  cases x with
  | error e => exact fun _ => he e rfl
  | ok _ => exact hok

theorem Outcome.loop {x : Except Err (List Val × Option NameMaps)}
    {f : List Val → Option NameMaps → Except Err State}
    (he : ∀ e, x = .error e → e.internal = false) (hok : ∀ d nm, x = .ok (d, nm) → Outcome K P (f d nm)) :
    Outcome K P (match (generalizing := false) x with | .error e => .error e | .ok (d, nm) => f d nm) := by
  cases x with
  | error e => exact fun _ => he e rfl
  | ok p => exact hok p.1 p.2 rfl

theorem Outcome.names {x : Except Err NameMaps} {f : NameMaps → Except Err State} {n0 n1 : Option Name}
    (h : NameSpec s id c n0 n1 x) (hok : ∀ nm, NameChar s id c n0 n1 nm → Outcome K P (f nm)) :
    Outcome K P (match (generalizing := false) x with | .error e => .error e | .ok nm => f nm) := by
  cases x with
  | error e => exact fun _ => h
  | ok nm => exact hok nm h

theorem Outcome.refs {x : Except Err (List Edge × List Nat)} {f : List Edge → List Nat → Except Err State}
    {nd : Option (List Val)} (h : RefSpec s id c nd x) (hK : K → ClsOK c)
    (hok : ∀ rt tg, Rewired s id c nd rt → Outcome K P (f rt tg)) :
    Outcome K P (match (generalizing := false) x with | .error e => .error e | .ok (rt, tg) => f rt tg) := by
  cases x with
  | error e => exact fun k => (h (hK k)).elim
  | ok p => exact hok p.1 p.2 h

end walk

theorem data_of_type (hI : Inv s) (ht : mget s.idToType id = some c) : ∃ d, mget s.idToData id = some d :=
  Option.isSome_iff_exists.1 (by rw [← hI.types id, ht]; rfl)

theorem type_of_data {d : List Val} (hI : Inv s) (hd : mget s.idToData id = some d) :
    ∃ c, mget s.idToType id = some c :=
  Option.isSome_iff_exists.1 (by rw [hI.types id, hd]; rfl)

theorem type_none_of_data_none (hI : Inv s) (hd : mget s.idToData id = none) : mget s.idToType id = none :=
  Option.not_isSome_iff_eq_none.1 (by rw [hI.types id, hd]; nofun)

theorem handle_type {data : List Val} (hI : Inv s) (hg : handleOK s id c = true)
    (hd : mget s.idToData id = some data) : mget s.idToType id = some c := by
  obtain ⟨c', ht⟩ := type_of_data hI hd
  rw [handleOK, ht] at hg
  rw [ht, of_decide_eq_true hg]

theorem addRaw_outcome {data : List Val} (hI : Inv s) :
    Outcome (ClsOK c) (fun s' => Commit s s' id c none (some data)) (addRaw s id c data) := by
  unfold addRaw
  refine Outcome.guard rfl fun _ => ?_
  refine Outcome.check (fun e hdup => ?_) ?_
  · split at hdup
    · cases hdup
    · split at hdup
      · cases hdup
      · rename_i j hj
        obtain ⟨c', hc'⟩ := getById_of_listed hI hj
        rw [hc'] at hdup
        cases hdup; rfl
  refine Outcome.guard rfl fun hd => ?_
  have hd : mget s.idToData id = none := by simpa using hd
  have ht := type_none_of_data_none hI hd
  refine Outcome.guard rfl fun _ => ?_
  refine Outcome.refs (updateRefsTo_spec (nd := some data) hI hd ht fun f _ => .inl ⟨rfl, rfl⟩) (fun hc => hc)
    fun rt tg hR => ?_
  refine Outcome.names (updateObjName_spec hI fun _ h => nomatch h) fun nm hN => ?_
  refine Outcome.guard rfl fun _ => ?_
  exact ⟨hd, ht, mget_mset, mget_mset, hN, hR⟩

theorem delete_outcome (hI : Inv s) (hg : handleOK s id c = true) :
    Outcome (ClassesOK s) (fun s' => ∃ data, Commit s s' id c (some data) none) (delete s id c) := by
  unfold delete
  refine Outcome.data (fun _ _ => rfl) fun data hd => ?_
  have ht := handle_type hI hg hd
  refine Outcome.guard rfl fun _ => ?_
  refine Outcome.names (updateObjName_spec hI fun o h => ⟨data, ⟨ht, hd⟩, h⟩) fun nm hN => ?_
  refine Outcome.guard rfl fun _ => ?_
  refine Outcome.refs (updateRefsTo_spec (nd := none) hI hd ht fun f _ => .inl ⟨rfl, rfl⟩) (fun hC => hC id c ht)
    fun rt tg hR => ?_
  rw [if_neg (by simp [ht])]
  exact ⟨data, hd, ht, mget_merase, mget_merase, hN, hR⟩

theorem discard_outcome (hI : Inv s) (hg : handleOK s id c = true) :
    Outcome (ClassesOK s) (fun s' => s' = s ∨ ∃ data, Commit s s' id c (some data) none)
      (discard s id c) :=
  Outcome.ite (fun _ => (delete_outcome hI hg).imp fun _ => .inr) fun _ => .inl rfl

/-- What `set_obj_field` and `unset_obj_field` do once their guards are passed. The bodies of `setField` and
    `unsetField` end in this very term, so their walks close with `writeField_outcome` by definitional unfolding. -/
def writeField (s : State) (id : Nat) (c : Cls) (data : List Val) (f : Nat) (v : Val)
    (new : Nat → List Nat) : Except Err State :=
  let rn : Except Err NameMaps :=
    if f = c.nameIdx then updateObjName s id c (slot data f).name? v.name? else .ok s.nameMaps
  match rn with
  | .error e => .error e
  | .ok nm =>
    let rr : Except Err (List Edge × List Nat) :=
      if c.refIdxs.contains f then
        updateRefsTo s id c (fun g => if g = f then refsAt c f data else []) new
      else .ok (s.refsTo, s.refTargets)
    match rr with
    | .error e => .error e
    | .ok (rt, tg) =>
      .ok { s with idToData := mset s.idToData id (data.set f v)
                   nameToId := nm.n2i, shortNameToId := nm.sn, globalNameToId := nm.g
                   refsTo := rt, refTargets := tg }

theorem writeField_outcome {data : List Val} {f : Nat} {v : Val} {new : Nat → List Nat}
    (hI : Inv s) (hrec : Rec s id c data) (hlen : f < data.length)
    (hnew : ∀ g, new g = if g = f then refsAt c f (data.set f v) else []) :
    Outcome (ClassesOK s) (fun s' => Commit s s' id c (some data) (some (data.set f v)))
      (writeField s id c data f v new) := by
  have h0 : ∀ o, nameOf c data = some o → ∃ d, Rec s id c d ∧ nameOf c d = some o :=
    fun o h => ⟨data, hrec, h⟩
  unfold writeField
  refine Outcome.names ?_ fun nm (hN : NameChar s id c (nameOf c data) (nameOf c (data.set f v)) nm) => ?_
  · split
    · rename_i hf
      subst hf
      rw [nameOf_set_self c data v hlen]
      exact updateObjName_spec hI h0
    · rename_i hf
      rw [nameOf_set_ne c data f v hf]
      exact NameChar.same hI h0
  refine Outcome.refs ?_ (fun hC => hC id c hrec.1) fun rt tg hR => Commit.update hrec hN hR
  split
  · refine updateRefsTo_spec hI hrec.2 hrec.1 fun g _ => ?_
    rw [hnew g]
    by_cases hg : g = f
    · subst hg; exact .inl ⟨if_pos rfl, if_pos rfl⟩
    · exact .inr ⟨if_neg hg, if_neg hg, (refsAt_set_ne c data f g v hg).symm⟩
  · rename_i hr
    refine RefSpec.same hI hrec.2 hrec.1 fun g hg => ?_
    have : g ≠ f := fun h => hr (by simpa [h] using hg)
    exact (refsAt_set_ne c data f g v this).symm

theorem setField_outcome {f : Nat} {v : Val} (hI : Inv s) :
    Outcome (ClassesOK s)
      (fun s' => ∃ c data, f < data.length ∧ Commit s s' id c (some data) (some (data.set f v)))
      (setField s id f v) := by
  unfold setField
  refine Outcome.data (fun _ _ => rfl) fun data hd => ?_
  refine Outcome.type (fun hn => ?_) fun c ht => ?_
  · obtain ⟨_, ht⟩ := type_of_data hI hd
    cases hn.symm.trans ht
  refine Outcome.guard rfl fun _ => ?_
  refine Outcome.guard rfl fun hlen => ?_
  have hlen := Nat.lt_of_not_le hlen
  exact (writeField_outcome hI ⟨ht, hd⟩ hlen fun _ => rfl).imp fun s' h => ⟨c, data, hlen, h⟩

theorem unsetField_outcome {f : Nat} (hI : Inv s) :
    Outcome (ClassesOK s)
      (fun s' => s' = s ∨ ∃ c data, f < data.length ∧ Commit s s' id c (some data) (some (data.set f .nil)))
      (unsetField s id f) := by
  unfold unsetField
  refine Outcome.data (fun _ => .inl rfl) fun data hd => ?_
  refine Outcome.type (fun hn => ?_) fun c ht => ?_
  · obtain ⟨_, ht⟩ := type_of_data hI hd
    cases hn.symm.trans ht
  refine Outcome.guard rfl fun hlen => ?_
  have hlen := Nat.lt_of_not_le hlen
  refine Outcome.ite (fun _ => .inl rfl) fun _ => ?_
  refine (writeField_outcome (v := .nil) hI ⟨ht, hd⟩ hlen fun g => ?_).imp
    fun s' h => .inr ⟨c, data, hlen, h⟩
  rw [refsAt_set_nil c data f hlen, ite_self]

/-- The update loop of `update_obj` over distinct fields, started at data `d`. The one call of `_update_obj_name`,
    at the `name` entry, is made with the name `d` holds: no earlier entry can have changed it. -/
def LoopSpec (s : State) (id : Nat) (c : Cls) (ups : List (Nat × Val)) (d : List Val) (nm0 : Option NameMaps) :
    Except Err (List Val × Option NameMaps) → Prop
  | .error e => e = .indexError ∨ ∃ v, (c.nameIdx, v) ∈ ups ∧
      updateObjName s id c (slot d c.nameIdx).name? v.name? = .error e
  | .ok (d1, nm1) =>
    (∀ g, g ∉ ups.map (·.1) → slot d1 g = slot d g) ∧
    (∀ g v, (g, v) ∈ ups → slot d1 g = v) ∧
    (c.nameIdx ∉ ups.map (·.1) → nm1 = nm0) ∧
    (∀ v, (c.nameIdx, v) ∈ ups → ∃ m, nm1 = some m ∧
        updateObjName s id c (slot d c.nameIdx).name? v.name? = .ok m)

theorem updLoop_spec (ups : List (Nat × Val)) {d : List Val} {nm0 : Option NameMaps}
    (hnd : (ups.map (·.1)).Nodup) : LoopSpec s id c ups d nm0 (updLoop s id c ups d nm0) := by
  induction ups generalizing d nm0 with
  | nil =>
    exact ⟨fun _ _ => rfl, fun _ _ h => (List.not_mem_nil h).elim, fun _ => rfl,
      fun _ h => (List.not_mem_nil h).elim⟩
  | cons p rest ih =>
    obtain ⟨f, v⟩ := p
    obtain ⟨hfr, hnd'⟩ := List.nodup_cons.1 hnd
    have rest_ne : ∀ {v'}, (c.nameIdx, v') ∈ rest → c.nameIdx ≠ f :=
      fun hm e => hfr (List.mem_map.2 ⟨_, hm, e⟩)
    rw [updLoop]
    split
    · exact .inl rfl
    rename_i hlen
    have hlen := Nat.lt_of_not_le hlen
    simp only
    split
    · rename_i e hr
      split at hr
      · rename_i hf
        split at hr
        · cases hr
        · rename_i hu
          cases hr
          exact .inr ⟨v, hf ▸ List.mem_cons_self, hf ▸ hu⟩
      · cases hr
    rename_i nm' hr
    have := ih (d := d.set f v) (nm0 := nm') hnd'
    cases hres : updLoop s id c rest (d.set f v) nm' with
    | error e =>
      rw [hres] at this
      rcases this with h1 | ⟨v', hm, hu⟩
      · exact .inl h1
      · rw [slot_set_ne d f c.nameIdx v (rest_ne hm)] at hu
        exact .inr ⟨v', List.mem_cons_of_mem _ hm, hu⟩
    | ok r =>
      rw [hres] at this
      obtain ⟨i1, i2, i3, i4⟩ := this
      refine ⟨fun g hg => ?_, fun g v' hmem => ?_, fun hni => ?_, fun v' hmem => ?_⟩
      · rw [i1 g (mt (List.mem_cons_of_mem _) hg), slot_set_ne d f g v fun e => hg (e ▸ List.mem_cons_self)]
      · rcases List.mem_cons.1 hmem with hmem | hmem
        · cases hmem
          rw [i1 f hfr, slot_set_self d f v hlen]
        · exact i2 g v' hmem
      · rw [i3 (mt (List.mem_cons_of_mem _) hni)]
        rw [if_neg fun (e : f = c.nameIdx) => hni (e ▸ List.mem_cons_self)] at hr
        cases hr
        rfl
      · rcases List.mem_cons.1 hmem with hmem | hmem
        · cases hmem
          rw [if_pos rfl] at hr
          split at hr
          · rename_i m hm
            cases hr
            exact ⟨m, i3 hfr, hm⟩
          · cases hr
        · obtain ⟨m, h1, h2⟩ := i4 v' hmem
          rw [slot_set_ne d f c.nameIdx v (rest_ne hmem)] at h2
          exact ⟨m, h1, h2⟩

theorem updateObj_outcome {ups : List (Nat × Val)} (hI : Inv s)
    (ht : mget s.idToType id = some c) (hnd : (ups.map (·.1)).Nodup) :
    Outcome (ClassesOK s)
      (fun s' => s' = s ∨ ∃ data data1, Commit s s' id c (some data) (some data1) ∧
        (∀ g, g ∉ ups.map (·.1) → slot data1 g = slot data g) ∧
        (∀ g v, (g, v) ∈ ups → slot data1 g = v))
      (updateObj s id c ups) := by
  unfold updateObj
  refine Outcome.ite (fun _ => .inl rfl) fun _ => ?_
  obtain ⟨data, hd⟩ := data_of_type hI ht
  have hrec : Rec s id c data := ⟨ht, hd⟩
  have h0 : ∀ o, nameOf c data = some o → ∃ d, Rec s id c d ∧ nameOf c d = some o :=
    fun o h => ⟨data, hrec, h⟩
  rw [hd]
  have hloop' := updLoop_spec (s := s) (id := id) (c := c) ups (d := data) (nm0 := none) hnd
  refine Outcome.loop (fun e hloop => ?_) fun data1 nm hloop => ?_
  · rw [hloop] at hloop'
    rcases hloop' with rfl | ⟨v, _, hu⟩
    · rfl
    · exact updateObjName_no_internal hI h0 hu
  rw [hloop] at hloop'
  obtain ⟨l1, l2, l3, l4⟩ := hloop'
  refine Outcome.refs (updateRefsTo_spec (nd := some data1) hI hd ht fun g _ => ?_) (fun hC => hC id c ht)
    fun rt tg hR => ?_
  · by_cases hg : g ∈ ups.map (·.1)
    · have := List.contains_iff_mem.2 hg
      exact .inl ⟨if_pos this, if_pos this⟩
    · have := mt List.contains_iff_mem.1 hg
      exact .inr ⟨if_neg this, if_neg this, congrArg (refsOfField c g) (l1 g hg).symm⟩
  refine .inr ⟨data, data1, Commit.update hrec ?_ hR, l1, l2⟩
  by_cases hn : c.nameIdx ∈ ups.map (·.1)
  · obtain ⟨⟨f, v⟩, hp, rfl⟩ := List.mem_map.1 hn
    obtain ⟨m, rfl, hm⟩ := l4 v hp
    rw [show nameOf c data1 = v.name? from congrArg Val.name? (l2 _ v hp)]
    exact updateObjName_char hm
  · rw [l3 hn, show nameOf c data1 = nameOf c data from congrArg Val.name? (l1 _ hn)]
    exact NameChar.same hI h0

theorem step_outcome {op : RawOp} (hI : Inv s) (hg : rawOK s op = true) :
    Outcome (ClassesOK s ∧ opClsOK op)
      (fun s' => s' = s ∨ ∃ id c od nd, Commit s s' id c od nd ∧ (opClsOK op → od = none → ClsOK c))
      (step s op) := by
  cases op with
  | addRaw id c d =>
    exact (addRaw_outcome hI).mono And.right fun _ h => .inr ⟨_, _, _, _, h, fun hc _ => hc⟩
  | updateObj id c ups =>
    simp only [rawOK, Bool.and_eq_true, decide_eq_true_eq] at hg
    exact (updateObj_outcome hI hg.1 hg.2).mono And.left fun _ h =>
      h.imp_right fun ⟨_, _, hc, _⟩ => ⟨_, _, _, _, hc, nofun⟩
  | setField id f v =>
    exact (setField_outcome hI).mono And.left fun _ ⟨_, _, _, hc⟩ => .inr ⟨_, _, _, _, hc, nofun⟩
  | unsetField id f =>
    exact (unsetField_outcome hI).mono And.left fun _ h =>
      h.imp_right fun ⟨_, _, _, hc⟩ => ⟨_, _, _, _, hc, nofun⟩
  | delete id c =>
    exact (delete_outcome hI hg).mono And.left fun _ ⟨_, hc⟩ => .inr ⟨_, _, _, _, hc, nofun⟩
  | discard id c =>
    exact (discard_outcome hI hg).mono And.left fun _ h =>
      h.imp_right fun ⟨_, hc⟩ => ⟨_, _, _, _, hc, nofun⟩
  | delist n => cases hg

theorem step_inv {s' : State} {op : RawOp} (hI : Inv s) (hg : rawOK s op = true)
    (h : step s op = .ok s') : Inv s' := by
  rcases (step_outcome hI hg).ok h with rfl | ⟨_, _, _, _, hc, _⟩
  · exact hI
  · exact hc.inv hI

theorem step_no_internal {op : RawOp} {e : Err} (hI : Inv s) (hC : ClassesOK s)
    (hg : rawOK s op = true) (hop : opClsOK op) (h : step s op = .error e) : e.internal = false :=
  (step_outcome hI hg).error h ⟨hC, hop⟩

theorem step_classesOK {s' : State} {op : RawOp} (hI : Inv s) (hC : ClassesOK s)
    (hg : rawOK s op = true) (hop : opClsOK op) (h : step s op = .ok s') : ClassesOK s' := by
  rcases (step_outcome hI hg).ok h with rfl | ⟨_, _, _, _, hc, hcls⟩
  · exact hC
  · exact hc.classesOK hC (hcls hop)

theorem runRaw_induction {P : State → Prop} (ops : List RawOp)
    (hstep : ∀ {s s' op}, op ∈ ops → P s → rawOK s op = true → step s op = .ok s' → P s')
    (h : P s) : P (runRaw ops s) := by
  refine ops.foldlRecOn (motive := P) _ h fun s h op ho => ?_
  split
  · unfold apply
    split
    · exact hstep ho h ‹_› ‹_›
    · exact h
  · exact h

/- The raw operations do not keep `NoDangling` (`add_raw` takes any reference); the command layer guards it. -/

theorem runRaw_inv (ops : List RawOp) (hI : Inv s) : Inv (runRaw ops s) :=
  runRaw_induction ops (fun _ hI hg h => step_inv hI hg h) hI

theorem runRaw_classesOK (ops : List RawOp) (hops : ∀ op ∈ ops, opClsOK op)
    (hI : Inv s) (hC : ClassesOK s) : ClassesOK (runRaw ops s) :=
  (runRaw_induction (P := fun s => Inv s ∧ ClassesOK s) ops
    (fun ho h hg hs => ⟨step_inv h.1 hg hs, step_classesOK h.1 h.2 hg (hops _ ho) hs⟩) ⟨hI, hC⟩).2

theorem inv_empty : Inv State.empty := by
  have norec : ∀ {id c d}, ¬ Rec State.empty id c d := fun h => by cases h.1
  refine ⟨⟨?_, ?_, ?_, ?_, ?_, ?_⟩, fun e => ⟨?_, fun ⟨_, h, _⟩ => (norec h).elim⟩, fun _ => rfl⟩
  · exact fun _ _ _ _ h => (norec h).elim
  · exact fun _ _ _ _ h => (norec h).elim
  · exact fun _ _ _ _ h => (norec h).elim
  · intro _ _ h; cases h
  · intro _ _ _ h; cases h
  · intro _ _ _ h; cases h
  · intro h; cases h

theorem classesOK_empty : ClassesOK State.empty :=
  fun _ _ h => nomatch h

end EdbVerif.Store
