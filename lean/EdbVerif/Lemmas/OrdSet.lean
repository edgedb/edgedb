/-
Lemmas about the `OrderedSet` model (`Model/OrdSet.lean`).  Every operation has one normal form,
`step_eq`: the old keys are filtered in place and the absent keys of the argument are appended in
order of first occurrence.  Set semantics, absence of duplicates and the insertion-order law are
read off it; `OrderedSet(iterable)` is `Topo.dedup`, the list `sort_ex` is modelled with.
-/
import EdbVerif.Model.OrdSet
import EdbVerif.Lemmas.TopoAux

namespace EdbVerif.OrdSet
open Topo (dedup mem_dedup dedup_nodup)

theorem filter_tt (s : List Nat) : s.filter (fun _ => true) = s :=
  List.filter_eq_self.2 fun _ _ => rfl

theorem not_contains {l : List Nat} {y : Nat} : (!l.contains y) = true ↔ y ∉ l := by
  rw [Bool.not_eq_true', ← Bool.not_eq_true, List.contains_iff_mem]

theorem filter_absent_congr {l a b : List Nat} (h : ∀ y ∈ l, (y ∈ a ↔ y ∈ b)) :
    l.filter (!a.contains ·) = l.filter (!b.contains ·) :=
  List.filter_congr fun y hy =>
    Bool.eq_iff_iff.2 (not_contains.trans ((not_congr (h y hy)).trans not_contains.symm))

def fresh (s : OSet) (xs : List Nat) : List Nat := (dedup xs).filter (!s.contains ·)

theorem mem_fresh {s : OSet} {xs : List Nat} {y : Nat} : y ∈ fresh s xs ↔ y ∉ s ∧ y ∈ xs := by
  rw [fresh, List.mem_filter, mem_dedup, not_contains, and_comm]

theorem nodup_fresh (s : OSet) (xs : List Nat) : (fresh s xs).Nodup :=
  (dedup_nodup xs).filter _

theorem fresh_cons_of_mem {s : OSet} {x : Nat} (xs : List Nat) (hx : x ∈ s) :
    fresh s (x :: xs) = fresh s xs := by
  rw [fresh, dedup, List.filter_cons_of_neg (by simpa using hx), List.filter_filter]
  refine List.filter_congr fun y _ => ?_
  by_cases hy : y ∈ s <;> simp [hy]
  rintro rfl
  exact hy hx

theorem fresh_cons_of_not_mem {s : OSet} {x : Nat} (xs : List Nat) (hx : x ∉ s) :
    fresh s (x :: xs) = x :: fresh (s ++ [x]) xs := by
  rw [fresh, dedup, List.filter_cons_of_pos (by simpa using hx), List.filter_filter, fresh]
  congr 1
  refine List.filter_congr fun y _ => ?_
  rw [List.contains_append, Bool.not_or, List.contains_cons, List.contains_nil, Bool.or_false]
  rfl

theorem update_eq (s : OSet) (xs : List Nat) : update s xs = s ++ fresh s xs := by
  induction xs generalizing s with
  | nil => exact (List.append_nil s).symm
  | cons x xs ih =>
    rw [update, List.foldl_cons, ← update, ih]
    by_cases hx : x ∈ s
    · rw [show add s x = s from if_pos hx, fresh_cons_of_mem xs hx]
    · rw [show add s x = s ++ [x] from if_neg hx, fresh_cons_of_not_mem xs hx, List.append_assoc]
      rfl

theorem ofList_eq_dedup (xs : List Nat) : ofList xs = dedup xs :=
  (update_eq [] xs).trans (List.filter_eq_self.2 fun _ _ => rfl)

theorem foldl_discard_filter (s : OSet) (xs : List Nat) :
    xs.foldl discard s = s.filter (!xs.contains ·) := by
  induction xs generalizing s with
  | nil => exact (filter_tt s).symm
  | cons x xs ih =>
    rw [List.foldl_cons, ih, discard, List.filter_filter]
    exact List.filter_congr fun v _ => by rw [List.contains_cons, Bool.not_or, Bool.and_comm]; rfl

theorem foldl_toggle_eq {d : List Nat} (hd : d.Nodup) (s : OSet) :
    d.foldl toggle s = s.filter (!d.contains ·) ++ d.filter (!s.contains ·) := by
  induction d generalizing s with
  | nil => exact ((List.append_nil _).trans (filter_tt s)).symm
  | cons v d ih =>
    obtain ⟨hv, hd'⟩ := List.nodup_cons.1 hd
    have hne : ∀ y ∈ d, y ≠ v := fun y hy e => hv (e ▸ hy)
    rw [List.foldl_cons, ih hd']
    by_cases hvs : v ∈ s
    · -- `v` is discarded; the keys of `d` are other keys, present as before
      rw [show toggle s v = s.filter (· != v) from if_pos hvs, List.filter_filter,
        List.filter_cons_of_neg (by simpa using hvs)]
      congr 1
      · exact List.filter_congr fun y _ => by
          rw [List.contains_cons, Bool.not_or, Bool.and_comm]; rfl
      · exact filter_absent_congr fun y hy =>
          List.mem_filter.trans (and_iff_left (bne_iff_ne.2 (hne y hy)))
    · -- `v` goes last; it is neither in `d` nor among the old keys
      rw [show toggle s v = s ++ [v] from (if_neg hvs).trans (if_neg hvs), List.filter_append,
        List.filter_cons_of_pos (by simpa using hv), List.filter_nil, List.append_assoc,
        List.filter_cons_of_pos (by simpa using hvs), List.singleton_append]
      congr 1
      · exact filter_absent_congr fun y hy =>
          (List.mem_cons.trans (or_iff_right fun (e : y = v) => hvs (e ▸ hy))).symm
      · congr 1
        exact filter_absent_congr fun y hy =>
          List.mem_append.trans (or_iff_left fun h => hne y hy (List.mem_singleton.1 h))

/-- the old keys an operation leaves in place -/
def keep : Op → Nat → Bool
  | .add _ | .update _ => fun _ => true
  | .discard x => (· != x)
  | .diff xs | .sym xs => (!xs.contains ·)
  | .inter xs => xs.contains
  | .clear => fun _ => false

/-- the keys it inserts, in the order it meets them -/
def ins : Op → List Nat
  | .add x => [x]
  | .update xs | .sym xs => xs
  | _ => []

theorem step_eq (s : OSet) (op : Op) : step s op = s.filter (keep op) ++ fresh s (ins op) := by
  cases op with
  | add x => exact (update_eq s [x]).trans (by rw [keep, filter_tt]; rfl)
  | discard x => exact (List.append_nil _).symm
  | update xs => exact (update_eq s xs).trans (by rw [keep, filter_tt]; rfl)
  | diff xs => exact (foldl_discard_filter s xs).trans (List.append_nil _).symm
  | inter xs =>
    -- `self - it` is discarded: what stays is what `it` contains
    refine (foldl_discard_filter s _).trans ((List.filter_congr fun y hy => ?_).trans
      (List.append_nil _).symm)
    simp [ofList_eq_dedup, mem_dedup, hy, keep]
  | sym xs =>
    refine ((congrArg (List.foldl toggle s) (ofList_eq_dedup xs)).trans
      (foldl_toggle_eq (dedup_nodup xs) s)).trans (congrArg (· ++ fresh s xs) ?_)
    exact filter_absent_congr fun _ _ => mem_dedup
  | clear =>
    exact ((List.append_nil _).trans (List.filter_eq_nil_iff.2 fun _ _ => Bool.false_ne_true)).symm

theorem mem_step_iff (s : OSet) (op : Op) (y : Nat) :
    y ∈ step s op ↔ y ∈ s ∧ keep op y = true ∨ y ∉ s ∧ y ∈ ins op := by
  rw [step_eq, List.mem_append, List.mem_filter, mem_fresh]

theorem nodup_step (s : OSet) (op : Op) (h : s.Nodup) : (step s op).Nodup := by
  rw [step_eq]
  exact List.nodup_append.2 ⟨h.filter _, nodup_fresh _ _, fun a ha b hb e =>
    (mem_fresh.1 hb).1 (e ▸ (List.mem_filter.1 ha).1)⟩

theorem nodup_run (ops : List Op) : (run ops).Nodup :=
  List.foldlRecOn ops step List.nodup_nil fun s h op _ => nodup_step s op h

theorem mem_step (s : OSet) (P : Nat → Prop) (h : ∀ y, y ∈ s ↔ P y) (op : Op) (y : Nat) :
    y ∈ step s op ↔ specStep P op y := by
  rw [mem_step_iff, h]
  by_cases hy : P y <;> cases op <;> simp [keep, ins, specStep, hy]

theorem mem_run (ops : List Op) (y : Nat) : y ∈ run ops ↔ specRun ops y :=
  List.foldl_rel (l := ops) (f := step) (g := specStep) (r := fun s P => ∀ y, y ∈ s ↔ P y)
    (fun _ => ⟨(fun h => nomatch h), False.elim⟩) (fun op _ s P h => mem_step s P h op) y

theorem mem_step_self (s : OSet) (op : Op) (y : Nat) : y ∈ step s op ↔ specStep (· ∈ s) op y :=
  mem_step s _ (fun _ => Iff.rfl) op y

theorem mem_add (s : OSet) (x y : Nat) : y ∈ add s x ↔ y ∈ s ∨ y = x :=
  mem_step_self s (.add x) y

theorem mem_discard (s : OSet) (x y : Nat) : y ∈ discard s x ↔ y ∈ s ∧ y ≠ x :=
  mem_step_self s (.discard x) y

theorem mem_update (s : OSet) (xs : List Nat) (y : Nat) : y ∈ update s xs ↔ y ∈ s ∨ y ∈ xs :=
  mem_step_self s (.update xs) y

theorem mem_ofList (xs : List Nat) (y : Nat) : y ∈ ofList xs ↔ y ∈ xs := by
  rw [ofList_eq_dedup, mem_dedup]

theorem mem_diffUpdate (s : OSet) (xs : List Nat) (y : Nat) :
    y ∈ diffUpdate s xs ↔ y ∈ s ∧ y ∉ xs :=
  mem_step_self s (.diff xs) y

theorem mem_interUpdate (s : OSet) (xs : List Nat) (y : Nat) :
    y ∈ interUpdate s xs ↔ y ∈ s ∧ y ∈ xs :=
  mem_step_self s (.inter xs) y

theorem mem_symUpdate (s : OSet) (xs : List Nat) (y : Nat) :
    y ∈ symUpdate s xs ↔ ((y ∈ s ∧ y ∉ xs) ∨ (y ∉ s ∧ y ∈ xs)) :=
  mem_step_self s (.sym xs) y

theorem mem_toggle (s : OSet) (v y : Nat) :
    y ∈ toggle s v ↔ ((y ∈ s ∧ y ≠ v) ∨ (y = v ∧ v ∉ s)) := by
  unfold toggle
  split
  · rename_i hv
    rw [mem_discard]
    exact ⟨Or.inl, fun h => h.elim id fun h => absurd hv h.2⟩
  · rename_i hv
    rw [mem_add]
    exact ⟨fun h => h.elim (fun hy => Or.inl ⟨hy, fun e => hv (e ▸ hy)⟩) fun e => Or.inr ⟨e, hv⟩,
      fun h => h.elim (fun h => Or.inl h.1) fun h => Or.inr h.1⟩

theorem nodup_add (s : OSet) (x : Nat) (h : s.Nodup) : (add s x).Nodup :=
  nodup_step s (.add x) h

theorem nodup_discard (s : OSet) (x : Nat) (h : s.Nodup) : (discard s x).Nodup :=
  h.filter _

theorem nodup_toggle (s : OSet) (v : Nat) (h : s.Nodup) : (toggle s v).Nodup := by
  unfold toggle
  split
  · exact nodup_discard s v h
  · exact nodup_add s v h

theorem nodup_ofList (xs : List Nat) : (ofList xs).Nodup :=
  ofList_eq_dedup xs ▸ dedup_nodup xs

end EdbVerif.OrdSet
