/-
Two histories for Props/C15, on what the pruning entry points break.  `pallRun`: a request holds a connection
when `prune_all_connections` (HA failover) drops it from `conns`; the resulting blocks and holders, by
evaluation.  `leakRun`: a `prune_inactive_connections` task is aborted while it holds a connection; `NoLeak`
is the predicate that fails there.
-/
import EdbVerif.Model.PoolSpec

namespace EdbVerif.Pool

def pallRun : List (Env × Ev) :=
  [({}, .acq 0 0), ({}, .start 0), ({}, .cdone 0 true false), ({}, .resume 0), ({}, .pall)]

theorem pallRun_state : (run (init 1) pallRun).blocks =
      [{ uid := 0, name := 0, conns := [], stack := [], acquired := 1, quota := 1 }] ∧
    (run (init 1) pallRun).holders = [⟨0, 0, 0⟩] := by decide +kernel

def pruneLocals (s : State) (u : Nat) : List Nat :=
  (s.prunes.filter (·.block == u)).flatMap (·.locals)

/-- every connection that is not lent is idle, or scheduled for discard, or in the hands of a
    suspended prune task -/
def NoLeak (s : State) : Prop :=
  (s.blocks.all fun b => b.conns.all fun p =>
    p.2 || b.stack.contains p.1 || (limbo s).contains (b.uid, p.1) || (pruneLocals s b.uid).contains p.1) = true

/-- max = 2, one database: two connections; one is handed back as broken (discard + reconnect),
    the reconnect fails 4 times while `prune_inactive_connections` — which has taken the other,
    idle, connection off the stack — waits in `try_acquire`; it receives the abort error and dies
    (corpus/C16/leak-7-prune-task-aborted.json) -/
def leakRun : List (Env × Ev) :=
  [({}, .acq 0 0), ({}, .acq 1 0), ({}, .start 1), ({}, .start 0),
   ({}, .cdone 0 true false), ({}, .resume 0), ({}, .cdone 1 true false), ({}, .resume 1),
   ({ heldShort := [0] }, .rel 1 false), ({ heldShort := [0] }, .rel 0 true),
   ({}, .start 2), ({}, .start 3), ({}, .cdone 3 false false),
   ({}, .prune 1000 0),
   ({}, .start 4), ({}, .cdone 4 false false), ({}, .start 5), ({}, .cdone 5 false false),
   ({}, .start 6), ({}, .cdone 6 false false),
   ({}, .resume 1000)]

end EdbVerif.Pool
