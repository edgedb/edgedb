/-
What the raw operations of `FlatSchema` have in common (`Commit`: one record rewritten, the indexes following),
and `Inv` preserved once for all of them (`Commit.inv`). Then `_update_refs_to` called from a consistent schema
(`RefSpec`, `updateRefsTo_spec`): it yields the reverse index a `Commit` asks for, or the class is ill-formed.
-/
import EdbVerif.Lemmas.StoreNames
import EdbVerif.Lemmas.StoreRefs

namespace EdbVerif.Store

variable {s s' : State} {id : Nat} {c : Cls} {od nd : Option (List Val)}

theorem rec_old (hod : mget s.idToData id = od) (hoc : mget s.idToType id = od.map (fun _ => c))
    (c' : Cls) (d' : List Val) : Rec s id c' d' ↔ od = some d' ∧ c' = c := by
  unfold Rec
  rw [hod, hoc]
  cases od <;> simp [and_comm, @eq_comm _ c]

/-- `rt` is the reverse index of `s` with the outgoing edges of `id` replaced by those of the record `nd` -/
def Rewired (s : State) (id : Nat) (c : Cls) (nd : Option (List Val)) (rt : List Edge) : Prop :=
  ∀ e : Edge, e ∈ rt ↔ (e.src ≠ id ∧ e ∈ s.refsTo) ∨
    (e.src = id ∧ ∃ d, nd = some d ∧ e.cls = c ∧ e.field ∈ c.refIdxs ∧ e.tgt ∈ refsAt c e.field d)

/-- One raw operation seen from outside: it rewrote the record of object `id` of class `c` from `od` to
    `nd` (`none` = absent) and left every other record alone; the name maps moved as `_update_obj_name`
    prescribes. -/
structure Commit (s s' : State) (id : Nat) (c : Cls) (od nd : Option (List Val)) : Prop where
  hod : mget s.idToData id = od
  hoc : mget s.idToType id = od.map (fun _ => c)
  hD : ∀ j, mget s'.idToData j = if j = id then nd else mget s.idToData j
  hT : ∀ j, mget s'.idToType j = if j = id then nd.map (fun _ => c) else mget s.idToType j
  hN : NameChar s id c (od.bind (nameOf c)) (nd.bind (nameOf c))
          ⟨s'.nameToId, s'.shortNameToId, s'.globalNameToId⟩
  hR : Rewired s id c nd s'.refsTo

theorem Commit.rec_iff (hc : Commit s s' id c od nd) (j : Nat) (c' : Cls) (d' : List Val) :
    Rec s' j c' d' ↔ (j = id ∧ nd = some d' ∧ c' = c) ∨ (j ≠ id ∧ Rec s j c' d') := by
  by_cases hj : j = id
  · subst hj
    rw [rec_old ((hc.hD j).trans (if_pos rfl)) ((hc.hT j).trans (if_pos rfl))]
    simp
  · unfold Rec
    rw [hc.hD, hc.hT]
    simp [hj]

variable {I : Option Nat} {j : Nat} {p0 p1 : Prop} [Decidable p0] [Decidable p1]

/- `p0` / `p1`: the old / new record of `id` bears the key of the index entry `I`. -/

theorem index_other (hj : I = some j) (hne : j ≠ id) (h0 : p0 → I = some id) (h1 : p1 → I = none ∨ p0) :
    (if p1 then some id else if p0 then none else I) = some j := by
  have n0 : ¬ p0 := fun h => hne (Option.some.inj (hj.symm.trans (h0 h)))
  have n1 : ¬ p1 := fun h => (h1 h).elim (fun e => nomatch hj.symm.trans e) n0
  rw [if_neg n1, if_neg n0, hj]

theorem index_back (h : (if p1 then some id else if p0 then none else I) = some j) :
    (j = id ∧ p1) ∨ (¬ p0 ∧ I = some j) := by
  split at h
  · cases h; exact .inl ⟨rfl, ‹_›⟩
  · split at h
    · cases h
    · exact .inr ⟨‹_›, h⟩

theorem Commit.names (hI : NamesAgree s) (hc : Commit s s' id c od nd) : NamesAgree s' := by
  have ro := rec_old hc.hod hc.hoc
  obtain ⟨q1, q2, q3, q4, q5, q6⟩ := hI
  have old : ∀ {n}, od.bind (nameOf c) = some n → ∃ d0, Rec s id c d0 ∧ nameOf c d0 = some n :=
    fun h => let ⟨d0, hd, hn⟩ := Option.bind_eq_some_iff.1 h; ⟨d0, (ro c d0).2 ⟨hd, rfl⟩, hn⟩
  have new : ∀ {n}, nd.bind (nameOf c) = some n → ∃ d1, Rec s' id c d1 ∧ nameOf c d1 = some n :=
    fun h => let ⟨d1, hd, hn⟩ := Option.bind_eq_some_iff.1 h; ⟨d1, (hc.rec_iff id c d1).2 (.inl ⟨rfl, hd, rfl⟩), hn⟩
  -- `id = j`, `c = c'`: so that `rfl` eliminates `j` and `c'`
  have keep : ∀ {j c' d'}, Rec s j c' d' → (id = j ∧ c = c' ∧ od = some d') ∨ (j ≠ id ∧ Rec s' j c' d') := by
    intro j c' d' hrec
    by_cases hj : j = id
    · cases hj
      obtain ⟨h1, h2⟩ := (ro c' d').1 hrec
      exact .inl ⟨rfl, h2.symm, h1⟩
    · exact .inr ⟨hj, (hc.rec_iff j c' d').2 (.inr ⟨hj, hrec⟩)⟩
  refine ⟨?_, ?_, ?_, ?_, ?_, ?_⟩
  · intro j c' d' n hrec hname hg
    refine (hc.hN.n2i n).trans ?_
    rcases (hc.rec_iff j c' d').1 hrec with ⟨rfl, hnd, rfl⟩ | ⟨hj, hrec0⟩
    · rw [if_pos ⟨hg, hnd ▸ hname⟩]
    · exact index_other (q1 j c' d' n hrec0 hname hg) hj
        (fun ⟨hcg, h0⟩ => let ⟨d0, hr0, hn0⟩ := old h0; q1 id c d0 n hr0 hn0 hcg)
        (hc.hN.fresh_q n)
  · intro j c' d' n hrec hname hg
    refine (hc.hN.g c' n).trans ?_
    rcases (hc.rec_iff j c' d').1 hrec with ⟨rfl, hnd, rfl⟩ | ⟨hj, hrec0⟩
    · rw [if_pos ⟨hg, rfl, hnd ▸ hname⟩]
    · refine index_other (q2 j c' d' n hrec0 hname hg) hj ?_ (hc.hN.fresh_g c' n)
      rintro ⟨hcg, rfl, h0⟩
      obtain ⟨d0, hr0, hn0⟩ := old h0
      exact q2 id c' d0 n hr0 hn0 hcg
  · intro j c' d' n hrec hname hs
    refine (hc.hN.sn (c', n.short, j)).2 ?_
    rcases (hc.rec_iff j c' d').1 hrec with ⟨rfl, hnd, rfl⟩ | ⟨hj, hrec0⟩
    · exact .inl ⟨hs, n, hnd ▸ hname, rfl⟩
    · exact .inr ⟨q3 j c' d' n hrec0 hname hs, fun ⟨_, _, _, h⟩ => hj (Prod.mk.inj (Prod.mk.inj h).2).2⟩
  · intro n j hget
    rcases index_back ((hc.hN.n2i n).symm.trans hget) with ⟨rfl, h1⟩ | ⟨h0, hget⟩
    · obtain ⟨d1, hr1, hn1⟩ := new h1.2
      exact ⟨c, d1, hr1, h1.1, hn1⟩
    · obtain ⟨c', d', hrec0, hg, hname⟩ := q4 n j hget
      rcases keep hrec0 with ⟨rfl, rfl, hd⟩ | ⟨_, hrec1⟩
      · exact absurd ⟨hg, hd ▸ hname⟩ h0
      · exact ⟨c', d', hrec1, hg, hname⟩
  · intro c' n j hget
    rcases index_back ((hc.hN.g c' n).symm.trans hget) with ⟨rfl, hg, rfl, h1⟩ | ⟨h0, hget⟩
    · obtain ⟨d1, hr1, hn1⟩ := new h1
      exact ⟨d1, hr1, hg, hn1⟩
    · obtain ⟨d', hrec0, hg, hname⟩ := q5 c' n j hget
      rcases keep hrec0 with ⟨rfl, rfl, hd⟩ | ⟨_, hrec1⟩
      · exact absurd ⟨hg, rfl, hd ▸ hname⟩ h0
      · exact ⟨d', hrec1, hg, hname⟩
  · intro c' sn j hmem
    rcases (hc.hN.sn (c', sn, j)).1 hmem with ⟨hs, n, h1, he⟩ | ⟨hmem, hnot⟩
    · cases he
      obtain ⟨d1, hr1, hn1⟩ := new h1
      exact ⟨d1, n, hr1, hs, hn1, rfl⟩
    · obtain ⟨d', n, hrec0, hs, hname, hsn⟩ := q6 c' sn j hmem
      rcases keep hrec0 with ⟨rfl, rfl, hd⟩ | ⟨_, hrec1⟩
      · exact absurd ⟨hs, n, hd ▸ hname, by rw [hsn]⟩ hnot
      · exact ⟨d', n, hrec1, hs, hname, hsn⟩

theorem Commit.inv (hI : Inv s) (hc : Commit s s' id c od nd) : Inv s' := by
  have rn := hc.rec_iff
  refine ⟨hc.names hI.names, fun e => ?_, fun j => ?_⟩
  · rw [hc.hR e]
    by_cases hj : e.src = id
    · simp only [hj, ne_eq, not_true_eq_false, false_and, true_and, false_or]
      constructor
      · rintro ⟨d, hnd, hc, hf, ht⟩
        exact ⟨d, (rn id e.cls d).2 (Or.inl ⟨rfl, hnd, hc⟩), hc ▸ hf, hc ▸ ht⟩
      · rintro ⟨d, hrec, hf, ht⟩
        rcases (rn id e.cls d).1 hrec with ⟨_, hnd, hc⟩ | ⟨hne, _⟩
        · exact ⟨d, hnd, hc, hc ▸ hf, hc ▸ ht⟩
        · exact absurd rfl hne
    · simp only [ne_eq, hj, not_false_eq_true, true_and, false_and, or_false]
      rw [hI.refs]
      constructor
      · rintro ⟨d, hrec, hf, ht⟩
        exact ⟨d, (rn e.src e.cls d).2 (Or.inr ⟨hj, hrec⟩), hf, ht⟩
      · rintro ⟨d, hrec, hf, ht⟩
        rcases (rn e.src e.cls d).1 hrec with ⟨h, _, _⟩ | ⟨_, hrec0⟩
        · exact absurd h hj
        · exact ⟨d, hrec0, hf, ht⟩
  · rw [hc.hD, hc.hT]
    by_cases hj : j = id
    · simp [hj]
    · simp [hj, hI.types j]

def orefs (c : Cls) (f : Nat) (od : Option (List Val)) : List Nat :=
  match od with
  | some d => refsAt c f d
  | none => []

/-- What a call of `_update_refs_to` for object `id` yields from a consistent schema: the reverse index with
    the edges of `id` replaced by those of `nd`; its only error exit (a `KeyError` on an edge it expects) is
    taken only if `c` lists a reference field twice, so an error proves `¬ ClsOK c`. This is what makes the
    internal errors of the raw operations unreachable under `ClassesOK`. -/
def RefSpec (s : State) (id : Nat) (c : Cls) (nd : Option (List Val)) :
    Except Err (List Edge × List Nat) → Prop
  | .ok r => Rewired s id c nd r.1
  | .error _ => ¬ ClsOK c

section refs
variable (hI : Inv s) (hod : mget s.idToData id = od) (hoc : mget s.idToType id = od.map (fun _ => c))
include hI hod hoc

/- `hf` in the next two lemmas: for each reference field the call passes the references of the old and of the new
   record (first arm), or nothing at all for a field that does not change (second arm: `set_obj_field` passes only
   the field written, `update_obj` only the fields listed). -/

theorem refs_commit {orig new : Nat → List Nat} {R : List Edge}
    (h : ∀ e, e ∈ R ↔ (e ∈ s.refsTo ∧ ¬ Removed id c orig new c.refIdxs e) ∨ Added id c orig new c.refIdxs e)
    (hf : ∀ f ∈ c.refIdxs, (orig f = orefs c f od ∧ new f = orefs c f nd) ∨
      (orig f = [] ∧ new f = [] ∧ orefs c f od = orefs c f nd)) : Rewired s id c nd R := by
  intro e
  have ro := rec_old hod hoc
  have hA : e.src = id → (e ∈ s.refsTo ↔ e.cls = c ∧ e.field ∈ c.refIdxs ∧ e.tgt ∈ orefs c e.field od) := by
    intro hj
    rw [hI.refs e, hj]
    constructor
    · rintro ⟨d, hrec, hfm, ht⟩
      obtain ⟨rfl, hc⟩ := (ro e.cls d).1 hrec
      exact ⟨hc, hc ▸ hfm, hc ▸ ht⟩
    · rintro ⟨hc, hfm, ht⟩
      cases od with
      | none => cases ht
      | some d => exact ⟨d, (ro e.cls d).2 ⟨rfl, hc⟩, hc ▸ hfm, hc ▸ ht⟩
  have hB : (∃ d, nd = some d ∧ e.cls = c ∧ e.field ∈ c.refIdxs ∧ e.tgt ∈ refsAt c e.field d) ↔
      e.cls = c ∧ e.field ∈ c.refIdxs ∧ e.tgt ∈ orefs c e.field nd := by
    cases nd <;> simp [orefs]
  rw [h, hB]
  unfold Removed Added
  by_cases hj : e.src = id
  · rw [hA hj]
    -- an edge of `id` was there iff the old record holds it; it is there now iff it was kept or added, and by
    -- `hf` at its field that is iff the new record holds it
    have := hf e.field
    clear hA hB ro h hf hI
    grind
  · simp [hj]

theorem updateRefsTo_spec {orig new : Nat → List Nat}
    (hf : ∀ f ∈ c.refIdxs, (orig f = orefs c f od ∧ new f = orefs c f nd) ∨
      (orig f = [] ∧ new f = [] ∧ orefs c f od = orefs c f nd)) :
    RefSpec s id c nd (updateRefsTo s id c orig new) := by
  cases h : updateRefsTo s id c orig new with
  | ok r => exact refs_commit hI hod hoc (updateRefsTo_mem h) hf
  | error e =>
    refine fun hc => updateRefsTo_ok hc (fun f hfm t ht => ?_) e h
    rcases hf f hfm with ⟨h1, _⟩ | ⟨h1, _⟩ <;> rw [h1] at ht
    · cases od with
      | none => cases ht
      | some d => exact (hI.refs ⟨t, c, f, id⟩).2 ⟨d, ⟨hoc, hod⟩, hfm, ht⟩
    · cases ht

theorem RefSpec.same (hf : ∀ f ∈ c.refIdxs, orefs c f od = orefs c f nd) {tg : List Nat} :
    RefSpec s id c nd (.ok (s.refsTo, tg)) :=
  refs_commit hI hod hoc (orig := fun _ => []) (new := fun _ => []) (by simp [Removed, Added])
    fun f hfm => .inr ⟨rfl, rfl, hf f hfm⟩

end refs

theorem Commit.present_iff (hc : Commit s s' id c od nd) (t : Nat) :
    present s' t = if t = id then nd.isSome else present s t := by
  unfold present
  rw [hc.hD t]
  split <;> rfl

theorem Commit.classesOK (hc : Commit s s' id c od nd) (hC : ClassesOK s) (hcls : od = none → ClsOK c) :
    ClassesOK s' := by
  intro j c' hj
  rw [hc.hT j] at hj
  split at hj
  · cases nd with
    | none => cases hj
    | some d =>
      cases hj
      cases od with
      | none => exact hcls rfl
      | some d0 => exact hC id c hc.hoc
  · exact hC j c' hj

theorem Commit.update {data data1 : List Val} {nm : NameMaps}
    {rt : List Edge} {tg : List Nat}
    (hrec : Rec s id c data) (hN : NameChar s id c (nameOf c data) (nameOf c data1) nm)
    (hR : Rewired s id c (some data1) rt) :
    Commit s { s with idToData := mset s.idToData id data1
                      nameToId := nm.n2i, shortNameToId := nm.sn, globalNameToId := nm.g
                      refsTo := rt, refTargets := tg } id c (some data) (some data1) := by
  refine ⟨hrec.2, hrec.1, mget_mset, fun j => ?_, hN, hR⟩
  split
  · rename_i hj; rw [hj]; exact hrec.1
  · rfl

end EdbVerif.Store
