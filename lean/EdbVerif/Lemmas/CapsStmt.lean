/-
C08 — statement and script level: capabilities from the generated table + the query lemmas.
-/
import EdbVerif.Lemmas.CapsKinds
import EdbVerif.Lemmas.CapsQuery

namespace EdbVerif.Caps
open EdbVerif.Gen.Caps

theorem kindCapsE_ok {k : Kind} {c : Caps} (h : kindCapsE k = .ok c) : kindCaps k = some c := by
  unfold kindCapsE at h
  split at h
  · next hk => cases h; exact hk
  · cases h

theorem queryCaps_ok {K : Bool → Kind} {fe : FnEnv} {q : Q} {c : Caps}
    (h : (match record fe Cx.top q with
          | .error e => (.error e : Except Reject Caps)
          | .ok l => kindCapsE (K (hasDml l))) = .ok c) :
    ∃ l, record fe Cx.top q = .ok l ∧ kindCaps (K (hasDml l)) = some c := by
  split at h
  · cases h
  · next l hr => exact ⟨l, hr, kindCapsE_ok h⟩

theorem stmtCaps_modifications {fe : FnEnv} {q : Q} {c : Caps}
    (h : stmtCaps fe (.query q) = .ok c ∨ stmtCaps fe (.analyze q) = .ok c) :
    sub MODIFICATIONS c ↔ containsDML fe q = true := by
  have ⟨l, hr, hc⟩ : ∃ l, record fe Cx.top q = .ok l ∧
      some (if hasDml l then MODIFICATIONS else NONE) = some c := by
    rcases h with h | h
    · obtain ⟨l, hr, hk⟩ := queryCaps_ok (K := .query) h
      exact ⟨l, hr, (kindCaps_query _).symm.trans hk⟩
    · obtain ⟨l, hr, hk⟩ := queryCaps_ok (K := .analyze) h
      exact ⟨l, hr, (kindCaps_analyze _).symm.trans hk⟩
  cases hc
  rw [← record_hasDml hr]
  cases hasDml l with
  | false => exact iff_of_false (by decide : ¬ sub MODIFICATIONS NONE) Bool.false_ne_true
  | true => exact iff_of_true (sub_refl _) rfl

theorem analyze_precise {fe : FnEnv} {q : Q} {c : Caps}
    (h : stmtCaps fe (.analyze q) = .ok c) (hd : containsDML fe q = false) : ¬ sub MODIFICATIONS c :=
  mt (stmtCaps_modifications (.inr h)).mp (Bool.eq_false_iff.mp hd)

/-- no MODIFICATIONS ⇒ the query contains no DML ⇒ it reaches no DML statement ⇒ it is pure -/
theorem query_sound {fe : FnEnv} (hwf : fe.WF) {q : Q} {c : Caps}
    (h : stmtCaps fe (.query q) = .ok c ∨ stmtCaps fe (.analyze q) = .ok c)
    (hm : ¬ sub MODIFICATIONS c) (ρ : VEnv) (db : DB) : (run fe ρ db q).1 = db :=
  run_pure fe hwf q ρ db (Bool.eq_false_iff.mpr
    (mt (fun hs => (stmtCaps_modifications h).mpr (containsStmt_containsDML hs)) hm))

theorem stmt_sound {fe : FnEnv} (hwf : fe.WF) {s : Stmt} {c : Caps}
    (h : stmtCaps fe s = .ok c) (hm : ¬ sub MODIFICATIONS c) (db : DB) : runStmt fe db s = db := by
  cases s with
  | query q => exact query_sound hwf (.inl h) hm [] db
  | analyze q => exact query_sound hwf (.inr h) hm [] db
  | command k => rfl

theorem stmtCaps_named {fe : FnEnv} {s : Stmt} {c : Caps} (h : stmtCaps fe s = .ok c) : sub c named := by
  cases s with
  | query q => obtain ⟨_, _, hk⟩ := queryCaps_ok (K := .query) h; exact kindCaps_named hk
  | analyze q => obtain ⟨_, _, hk⟩ := queryCaps_ok (K := .analyze) h; exact kindCaps_named hk
  | command k => exact kindCaps_named (kindCapsE_ok h)

theorem mapE_ok {f : α → Except ε β} {as : List α} {bs : List β} (h : mapE f as = .ok bs) :
    as.map f = bs.map .ok := by
  induction as generalizing bs with
  | nil => cases h; rfl
  | cons a as ih =>
    unfold mapE at h
    split at h
    · cases h
    · next b hf =>
      split at h
      · cases h
      · next bs' hm =>
        cases h
        rw [List.map_cons, List.map_cons, hf, ih hm]

theorem mapE_mem {f : α → Except ε β} {as : List α} {bs : List β} (h : mapE f as = .ok bs) :
    (∀ b ∈ bs, ∃ a ∈ as, f a = .ok b) ∧ (∀ a ∈ as, ∃ b ∈ bs, f a = .ok b) := by
  refine ⟨fun b hb => List.mem_map.mp ?_, fun a ha => ?_⟩
  · rw [mapE_ok h]; exact List.mem_map_of_mem hb
  · have := List.mem_map_of_mem (f := f) ha
    rw [mapE_ok h] at this
    exact (List.mem_map.mp this).imp fun b hb => ⟨hb.1, hb.2.symm⟩

theorem scriptCaps_ok {fe : FnEnv} {ss : List Stmt} {c : Caps} (h : scriptCaps fe ss = .ok c) :
    ∃ cs, mapE (stmtCaps fe) ss = .ok cs ∧ c = groupCaps cs := by
  unfold scriptCaps at h
  split at h
  · cases h
  · next cs hm => cases h; exact ⟨cs, hm, rfl⟩

theorem script_dml {fe : FnEnv} {ss : List Stmt} {c : Caps} (h : scriptCaps fe ss = .ok c)
    {q : Q} (hq : Stmt.query q ∈ ss ∨ Stmt.analyze q ∈ ss) (hd : containsDML fe q = true) :
    sub MODIFICATIONS c := by
  obtain ⟨cs, hm, rfl⟩ := scriptCaps_ok h
  rw [modifications_group]
  rcases hq with hq | hq
  · obtain ⟨b, hb, hf⟩ := (mapE_mem hm).2 _ hq
    exact ⟨b, hb, (stmtCaps_modifications (.inl hf)).mpr hd⟩
  · obtain ⟨b, hb, hf⟩ := (mapE_mem hm).2 _ hq
    exact ⟨b, hb, (stmtCaps_modifications (.inr hf)).mpr hd⟩

theorem runScript_eq_self {fe : FnEnv} {ss : List Stmt}
    (h : ∀ s ∈ ss, ∀ db, runStmt fe db s = db) (db : DB) : runScript fe db ss = db := by
  induction ss with
  | nil => rfl
  | cons s ss ih =>
    rw [runScript, List.foldl_cons, h s List.mem_cons_self]
    exact ih fun s hs => h s (List.mem_cons_of_mem _ hs)

theorem script_sound {fe : FnEnv} (hwf : fe.WF) {ss : List Stmt} {c : Caps}
    (h : scriptCaps fe ss = .ok c) (hm : ¬ sub MODIFICATIONS c) (db : DB) : runScript fe db ss = db := by
  obtain ⟨cs, hmap, rfl⟩ := scriptCaps_ok h
  refine runScript_eq_self (fun s hs db => ?_) db
  obtain ⟨u, hu, hsu⟩ := (mapE_mem hmap).2 s hs
  exact stmt_sound hwf hsu (fun hsub => hm ((modifications_group cs).mpr ⟨u, hu, hsub⟩)) db

theorem scriptCaps_named {fe : FnEnv} {ss : List Stmt} {c : Caps} (h : scriptCaps fe ss = .ok c) :
    sub c named := by
  obtain ⟨cs, hmap, rfl⟩ := scriptCaps_ok h
  refine groupCaps_sub_iff.mpr fun u hu => ?_
  obtain ⟨s, _, hs⟩ := (mapE_mem hmap).1 u hu
  exact stmtCaps_named hs

end EdbVerif.Caps
