/-
Test vectors of the form "the run succeeds and its result has this property", for the non-vacuity examples
and witnesses of the `Props` files: the statement becomes one closed Bool, which is evaluated once.
-/
namespace EdbVerif

/-- `∃ a, x = .ok a ∧ P a` by one evaluation of `x`: witness and check.  The hypothesis is spelt with
    `toOption`/`any` and not with a `match`: the kernel, checking the application to a closed `x`, compares
    the arguments of these and does not evaluate `x` a second time. -/
theorem exists_ok {ε α : Type} {x : Except ε α} {P : α → Prop} [DecidablePred P]
    (h : x.toOption.any (fun a => decide (P a)) = true) : ∃ a, x = .ok a ∧ P a := by
  cases x with
  | error e => cases h
  | ok a => exact ⟨a, rfl, of_decide_eq_true h⟩

end EdbVerif
