/-
C12 — the GENERATED operator tables and the cast-distance table, re-proved by kernel evaluation
whenever `Gen/Types.lean` changes.  Evaluating `resolve` costs one pass through `bindCand` per overload
and argument list; an overload can bind only if each parameter accepts its argument on its own, so the
tables are first rewritten to run `findCallable` on the overloads that pass this test.
-/
import EdbVerif.Model.TypesSpec

namespace EdbVerif.Types
open EdbVerif.Gen.Types

theorem argDist_isSome {abs : Bool} {base : Option Ty} {t : Ty} {p : PTy} {x : Nat × Option Ty}
    (h : argDist abs base t p = some x) : (argDist false none t p).isSome = true := by
  unfold argDist at h ⊢
  split at h
  · split at h
    · split at h
      · cases h
      · simp [*]
    · cases h
  · split at h
    · simp [*]
    · split at h
      · simp only [Option.map_eq_some_iff] at h
        obtain ⟨d, hd, _⟩ := h
        simp [*]
      · cases h

theorem bindArgs_accepts {abs : Bool} : ∀ (args : List Ty) (ps : List PTy) (base : Option Ty)
    (x : Nat × Option Ty), bindArgs abs base args ps = some x →
    ∀ (i : Nat) (t : Ty), args[i]? = some t → ∃ p, ps[i]? = some p ∧ (argDist false none t p).isSome = true
  | [], _, _, _, _, _, _, ht => by cases ht
  | _ :: _, [], _, _, h, _, _, _ => by cases h
  | a :: as, p :: ps, base, x, h, i, t, ht => by
    simp only [bindArgs] at h
    split at h
    · cases h
    · rename_i d base' hd
      split at h
      · cases h
      · rename_i r base'' hr
        cases i with
        | zero =>
          simp only [List.getElem?_cons_zero, Option.some.injEq] at ht
          subst ht
          exact ⟨p, rfl, argDist_isSome hd⟩
        | succ i => exact bindArgs_accepts as ps base' _ hr i t ht

/-- parameter `i` of `c` accepts an argument of type `t` on its own -/
def fitsAt (i : Nat) (t : Ty) (c : Callable) : Bool :=
  match c.params[i]? with
  | some p => (argDist false none t p.2).isSome
  | none => false

theorem bindCand_fitsAt {c : Callable} {args : List Ty} (h : (bindCand c args).isSome = true) {i : Nat}
    {t : Ty} (ht : args[i]? = some t) : fitsAt i t c = true := by
  cases hb : bindArgs c.abstract none args (c.params.map (·.2)) with
  | none => simp [bindCand, hb] at h
  | some x =>
    obtain ⟨p, hp, ha⟩ := bindArgs_accepts _ _ _ _ hb i t ht
    simp only [List.getElem?_map, Option.map_eq_some_iff] at hp
    obtain ⟨q, hq, rfl⟩ := hp
    simp [fitsAt, hq, ha]

theorem findCallable_filter {keep : Callable → Bool} {args : List Ty}
    (h : ∀ c, (bindCand c args).isSome = true → keep c = true) (cands : List Callable) :
    findCallable (cands.filter keep) args = findCallable cands args := by
  have : (cands.filter keep).filterMap (bindCand · args) = cands.filterMap (bindCand · args) := by
    induction cands with
    | nil => rfl
    | cons c cs ih =>
      cases hk : keep c
      · have : bindCand c args = none := by
          cases hb : bindCand c args
          · rfl
          · rw [h c (by simp [hb])] at hk; cases hk
        simp [hk, this, ih]
      · simp [hk, List.filterMap_cons, ih]
  unfold findCallable
  rw [this]

def pickOp (cs : List Callable) (args : List Ty) : Res :=
  pick ((findCallable cs args).filter fun b => !b.cand.abstract)

theorem resolveOp_scalar (f : Fn) (x : Sc) :
    resolveOp f [.scalar x] = pickOp ((operOverloads f).filter (fitsAt 0 (.scalar x))) [.scalar x] := by
  rw [pickOp, findCallable_filter fun c h => bindCand_fitsAt h rfl]
  rfl

theorem resolveOp_scalars (f : Fn) (x y : Sc) :
    resolveOp f [.scalar x, .scalar y] =
      pickOp (((operOverloads f).filter (fitsAt 0 (.scalar x))).filter (fitsAt 1 (.scalar y)))
        [.scalar x, .scalar y] := by
  rw [pickOp, findCallable_filter fun c h => bindCand_fitsAt h rfl,
    findCallable_filter fun c h => bindCand_fitsAt h rfl]
  rfl

/-- generated obligation (numeric_table): for every arithmetic operator and every pair of numeric
    scalars, overload resolution and the promotion semantics of the typed evaluator agree — on the
    result type and on whether the operation is defined at all — and resolution is never ambiguous;
    every numeric arithmetic overload returns what its primitive computes on that carrier -/
theorem numericTable : numericTableOK = true := by
  simp only [numericTableOK, callOK, resolve, resolveOp_scalar, resolveOp_scalars]
  decide +kernel

/-- generated obligation: comparison operators on numeric pairs resolve unambiguously to `bool` -/
theorem compareTable : compareTableOK = true := by
  simp only [compareTableOK, callOK, resolve, resolveOp_scalars]
  decide +kernel

/-- generated obligation: no operator has both recursive and non-recursive collection overloads
    (`compile_operator` relies on it, looking only at the first one) -/
theorem recursiveTable : recursiveTableOK = true := by decide +kernel

/-- generated obligation: the implicit cast distance is the shortest-path metric of the graph -/
theorem distTable : distTableOK = true := by decide +kernel

end EdbVerif.Types
