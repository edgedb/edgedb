/-
C03: the shell order produced with the C20 model (`Topo.sortEx` over the
shell→shell references) exists for acyclic schemas, is a permutation, and puts
every referenced user object before its referrer.
-/
import EdbVerif.Lemmas.Topo
import EdbVerif.Model.DescribeSpec

namespace EdbVerif.Describe

theorem shellGraph_eq (objs : List (Top QName)) :
    shellGraph objs = Topo.posGraph (fun o => o.shellNames.filterMap (idxOfName objs)) objs :=
  rfl

theorem idxOfName_some (objs : List (Top QName)) (q : QName) (j : Nat)
    (h : idxOfName objs q = some j) : ∃ o, objs[j]? = some o ∧ o.name = q := by
  unfold idxOfName at h
  simp only at h
  split at h
  · next hlt =>
    obtain rfl := Option.some.inj h
    refine ⟨objs[_]'hlt, List.getElem?_eq_getElem hlt, ?_⟩
    have := List.getElem_idxOf (xs := objs.map (·.name)) (x := q) (by rwa [List.length_map])
    rwa [List.getElem_map] at this
  · cases h

theorem idxOfName_of_mem (objs : List (Top QName)) (q : QName) (hq : q ∈ objs.map (·.name)) :
    ∃ j, idxOfName objs q = some j := by
  unfold idxOfName
  have := List.idxOf_lt_length_iff.2 hq
  simp only [List.length_map] at this
  refine ⟨List.idxOf q (objs.map (·.name)), ?_⟩
  simp only [this, ↓reduceIte]

/-- index → name (junk outside the range) -/
def nameAt (objs : List (Top QName)) (i : Nat) : QName :=
  ((objs[i]?).map (·.name)).getD ⟨[], ""⟩

theorem nameAt_eq {objs : List (Top QName)} {i : Nat} {o : Top QName} (h : objs[i]? = some o) :
    nameAt objs i = o.name := by
  rw [nameAt, h]
  rfl

theorem hard_shellDep (S : Schema) (i j : Nat) (h : Topo.Hard (shellGraph S.objs) i j) :
    ShellDep S (nameAt S.objs i) (nameAt S.objs j) := by
  obtain ⟨o, ho, hdep, _⟩ := Topo.hard_posGraph_iff.1 (shellGraph_eq S.objs ▸ h)
  obtain ⟨q, hq, hj⟩ := List.mem_filterMap.1 hdep
  obtain ⟨o', ho', rfl⟩ := idxOfName_some S.objs q j hj
  rw [nameAt_eq ho, nameAt_eq ho']
  exact ⟨o, List.mem_of_getElem? ho, rfl, hq, List.mem_map_of_mem (List.mem_of_getElem? ho')⟩

theorem shellGraph_acyclic (S : Schema) (hac : ¬ ∃ q, Relation.TransGen (ShellDep S) q q) :
    ¬ Topo.Cyclic (fun a b => Topo.Hard (shellGraph S.objs) a b ∨ Topo.Ctrl (shellGraph S.objs) a b) := by
  rintro ⟨a, ha⟩
  apply hac
  refine ⟨nameAt S.objs a, ?_⟩
  refine Relation.TransGen.lift (nameAt S.objs) ?_ a a ha
  intro x y hxy
  rcases hxy with h | h
  · exact hard_shellDep S x y h
  · exact absurd (shellGraph_eq S.objs ▸ h) (Topo.not_ctrl_posGraph x y)

theorem acyclic_of_rank (S : Schema) (r : QName → Nat)
    (h : ∀ a b, ShellDep S a b → r b < r a) : ¬ ∃ q, Relation.TransGen (ShellDep S) q q := by
  rintro ⟨q, hq⟩
  have : ∀ a b, Relation.TransGen (ShellDep S) a b → r b < r a := by
    intro a b hab
    induction hab with
    | single h1 => exact h _ _ h1
    | tail _ h2 ih => exact Nat.lt_trans (h _ _ h2) ih
  exact Nat.lt_irrefl _ (this q q hq)

/-- `o` is created after every user object its shell refers to -/
def Ordered (names : List QName) (l : List (Top QName)) : Prop :=
  ∀ pre o post, l = pre ++ o :: post → ∀ q ∈ o.shellNames, q ∈ names → q ∈ pre.map (·.name)

theorem sortShells_spec (S : Schema)
    (hac : ¬ ∃ q, Relation.TransGen (ShellDep S) q q) :
    ∃ l, sortShells S.objs = .ok l ∧ l.Perm S.objs ∧ Ordered S.names l := by
  have hcyc := (Topo.sortEx_cycle_iff (shellGraph S.objs) true (shellGraph_eq S.objs ▸ Topo.posGraph_wf _ _)
    (Or.inl rfl)).not.2 (shellGraph_acyclic S hac)
  have hunres := (Topo.sortEx_unres_iff (shellGraph S.objs) true).not.2 fun h => Bool.noConfusion h.1
  cases hs : Topo.sortEx (shellGraph S.objs) true with
  | cycle i p => exact absurd ⟨i, p, hs⟩ hcyc
  | unresolved d i => exact absurd ⟨d, i, hs⟩ hunres
  | ok order =>
    obtain ⟨hperm, hbefore⟩ := Topo.sortEx_posGraph (shellGraph_eq S.objs ▸ hs)
    refine ⟨order.filterMap (S.objs[·]?), by simp only [sortShells, hs], hperm, ?_⟩
    intro pre o post hsplit q hq hqS
    obtain ⟨j, hj⟩ := idxOfName_of_mem S.objs q hqS
    obtain ⟨oj, hoj, hn⟩ := idxOfName_some S.objs q j hj
    exact hn ▸ List.mem_map_of_mem (hbefore pre o post hsplit j oj (List.mem_filterMap.2 ⟨q, hq, hj⟩) hoj)

end EdbVerif.Describe
