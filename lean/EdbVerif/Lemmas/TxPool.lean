/-
C09, the compiler pool's transport: with the pool of /repo (`PoolVer.fixed`) the
REUSE_LAST_STATE_MARKER shortcut is unobservable — every `compile_in_tx` works on a state equal
to the bytes the server holds — so the composed system is the pickle-transport system of
`Lemmas/TxProto.lean`.
-/
import EdbVerif.Lemmas.TxProto

namespace EdbVerif.Tx

/-- Whenever the pool would send the marker, the worker's `LAST_STATE` is the state the
    server's `_last_comp_state` bytes unpickle to. -/
def Sys.Coherent (y : Sys) : Prop := y.wtok = some y.stok → y.wobj = y.srv.last

theorem Sys.cin_eq (y : Sys) (h : y.Coherent) : y.cin = y.srv.last := by
  unfold Sys.cin Sys.reuse
  by_cases hr : (y.srv.inTx && y.srv.last.isSome && y.wtok == some y.stok) = true
  · simp only [hr, ↓reduceIte]
    simp only [Bool.and_eq_true, beq_iff_eq] at hr
    exact h hr.2
  · simp [hr]

theorem Sys.init_coherent (p : Payload) : (Sys.init p).Coherent := by
  intro h; simp [Sys.init] at h

theorem Sys.after_fixed_coherent (y : Sys) (srv' : Server) (st : ConState) (compiled : Bool) :
    (y.after .fixed srv' st compiled).Coherent := by
  unfold Sys.after Sys.Coherent
  cases compiled
  · simp
  · simp

theorem Sys.after_srv (v : PoolVer) (y : Sys) (srv' : Server) (st : ConState) (compiled : Bool) :
    (y.after v srv' st compiled).srv = srv' := by
  unfold Sys.after
  cases compiled <;> cases v <;> simp

theorem Sys.step_fixed (y : Sys) (h : y.Coherent) (e : SEv) :
    (y.step .fixed e).1.srv = (y.srv.step e).1 ∧ (y.step .fixed e).2 = (y.srv.step e).2 ∧
    (y.step .fixed e).1.Coherent := by
  unfold Sys.step Server.step
  rw [Sys.cin_eq y h]
  exact ⟨Sys.after_srv _ _ _ _ _, rfl, Sys.after_fixed_coherent _ _ _ _⟩

theorem Sys.runAll_fixed (y : Sys) (h : y.Coherent) (es : List SEv) :
    (Sys.runAll .fixed y es).1.srv = (Server.runAll y.srv es).1 ∧
    (Sys.runAll .fixed y es).2 = (Server.runAll y.srv es).2 ∧
    (Sys.runAll .fixed y es).1.Coherent := by
  induction es generalizing y with
  | nil => exact ⟨rfl, rfl, h⟩
  | cons e es ih =>
    obtain ⟨h1, h2, h3⟩ := Sys.step_fixed y h e
    obtain ⟨i1, i2, i3⟩ := ih (y.step .fixed e).1 h3
    simp only [Sys.runAll, Server.runAll]
    rw [h1] at i1 i2
    exact ⟨i1, by rw [i2, h2], i3⟩

theorem Server.stepScriptOn_srv {s : Server} {cin : Option ConState} {ss : List Stmt}
    {r : Server × SOut × ConState} (h : s.stepScriptOn cin ss = some r) : r.1 = s.compileFailed := by
  unfold Server.stepScriptOn at h
  split at h
  · cases h
  · split at h
    · cases h
    · dsimp only at h
      split at h
      · cases h
      · exact Option.some.inj h ▸ rfl

/-- A script the compiler rejects, through the fixed pool: the server keeps its bytes and the
    next call does not take the marker shortcut. -/
theorem Sys.stepScript_fixed (y : Sys) (ss : List Stmt) (y' : Sys) (o : SOut)
    (hs : y.stepScript .fixed ss = some (y', o)) :
    y'.srv.last = y.srv.last ∧ y'.Coherent ∧ y'.cin = y'.srv.last := by
  unfold Sys.stepScript at hs
  cases hr : y.srv.stepScriptOn y.cin ss with
  | none => rw [hr] at hs; cases hs
  | some v =>
    rw [hr] at hs
    cases hs
    have hc := Sys.after_fixed_coherent y v.1 v.2.2 false
    exact ⟨by rw [Sys.after_srv, Server.stepScriptOn_srv hr, Server.compileFailed_last], hc, Sys.cin_eq _ hc⟩

end EdbVerif.Tx
