/-
The scheduling theorem: a set of create / alter / delete commands that
describes the difference of two valid schemas (`Sched`), applied in ANY order
that respects the dependency relation `needs`, succeeds and ends in the target.
-/
import EdbVerif.Lemmas.SchemaApply

namespace EdbVerif.Schema

def IsCreated (cmds : List Cmd) (k : Key) : Prop := ∃ x, Cmd.create x ∈ cmds ∧ x.key = k
def IsAltered (cmds : List Cmd) (k : Key) : Prop := ∃ d rs, Cmd.alter k.1 k.2 d rs ∈ cmds
def IsDeleted (cmds : List Cmd) (k : Key) : Prop := Cmd.delete k.1 k.2 ∈ cmds

/-- `cmds` is a correct description of the difference between `A'` and `B` -/
structure Sched (A' B : Schema) (cmds : List Cmd) : Prop where
  vA : Valid A'
  vB : Valid B
  -- what each command is: a create or alter makes the entry of `B` at its key, alter and delete act on old keys
  cr : ∀ x, Cmd.create x ∈ cmds → find B x.key = some x
  al : ∀ c n d rs, Cmd.alter c n d rs ∈ cmds →
        (c, n) ∈ keys A' ∧ ∃ x, find B (c, n) = some x ∧ d = x.data ∧ rs = x.refs
  de : ∀ c n, Cmd.delete c n ∈ cmds → (c, n) ∈ keys A'
  nr : ∀ c o n, Cmd.rename c o n ∉ cmds
  -- every key is accounted for: an old one is deleted or stays (altered, or already as in `B`), a new one is
  -- created or was there
  oldk : ∀ k ∈ keys A', IsDeleted cmds k ∨
          (¬ IsCreated cmds k ∧ (IsAltered cmds k ∨ find A' k = find B k) ∧ k ∈ keys B)
  newk : ∀ k ∈ keys B, IsCreated cmds k ∨ (k ∈ keys A' ∧ ¬ IsDeleted cmds k)
  -- an altered key is neither created nor deleted; an old object that refers to a deleted key is altered or deleted
  excl : ∀ k, IsAltered cmds k → ¬ IsCreated cmds k ∧ ¬ IsDeleted cmds k
  nb : ∀ c n, Cmd.delete c n ∈ cmds → ∀ o ∈ A', (c, n) ∈ o.refs →
        IsAltered cmds o.key ∨ IsDeleted cmds o.key

/-- every command comes after the commands it needs -/
def DepClosed (A' : Schema) (cmds order : List Cmd) : Prop :=
  ∀ pre a suf, order = pre ++ a :: suf → ∀ b ∈ cmds, needs A' a b = true → b ∈ pre

def Cmd.key : Cmd → Key
  | .create x => x.key
  | .rename c o _ => (c, o)
  | .alter c n _ _ => (c, n)
  | .delete c n => (c, n)

open Classical in
/-- the finite map after the commands in `done` have run -/
noncomputable def expect (A' B : Schema) (done : List Cmd) (k : Key) : Option Obj :=
  if IsCreated done k ∨ IsAltered done k then find B k
  else if IsDeleted done k then none else find A' k

section expect
variable {A' B : Schema} {done : List Cmd} {k : Key}

theorem expect_of_target (h : IsCreated done k ∨ IsAltered done k) : expect A' B done k = find B k :=
  if_pos h

theorem expect_of_deleted (h : ¬ (IsCreated done k ∨ IsAltered done k)) (hd : IsDeleted done k) :
    expect A' B done k = none :=
  (if_neg h).trans (if_pos hd)

theorem expect_of_untouched (h : ¬ (IsCreated done k ∨ IsAltered done k)) (hd : ¬ IsDeleted done k) :
    expect A' B done k = find A' k :=
  (if_neg h).trans (if_neg hd)

end expect

def Inv (A' B : Schema) (done : List Cmd) (s : Schema) : Prop :=
  (keys s).Nodup ∧ ∀ k, find s k = expect A' B done k

section marks
variable {l l' : List Cmd} {a : Cmd} {k : Key}

theorem IsCreated.append : IsCreated (l ++ l') k ↔ IsCreated l k ∨ IsCreated l' k := by
  simp only [IsCreated, List.mem_append, or_and_right, exists_or]

theorem IsAltered.append : IsAltered (l ++ l') k ↔ IsAltered l k ∨ IsAltered l' k := by
  simp only [IsAltered, List.mem_append, exists_or]

theorem IsDeleted.append : IsDeleted (l ++ l') k ↔ IsDeleted l k ∨ IsDeleted l' k :=
  List.mem_append

theorem IsCreated.key_eq (h : IsCreated [a] k) : a.key = k := by
  obtain ⟨x, hx, rfl⟩ := h
  rw [← List.mem_singleton.1 hx]
  rfl

theorem IsAltered.key_eq (h : IsAltered [a] k) : a.key = k := by
  obtain ⟨d, rs, hx⟩ := h
  rw [← List.mem_singleton.1 hx]
  rfl

theorem IsDeleted.key_eq (h : IsDeleted [a] k) : a.key = k := by
  rw [← List.mem_singleton.1 h]
  rfl

theorem IsCreated.mono (h : ∀ b ∈ l, b ∈ l') : IsCreated l k → IsCreated l' k :=
  fun ⟨x, hx, hk⟩ => ⟨x, h _ hx, hk⟩
theorem IsAltered.mono (h : ∀ b ∈ l, b ∈ l') : IsAltered l k → IsAltered l' k :=
  fun ⟨dd, rs, hx⟩ => ⟨dd, rs, h _ hx⟩
theorem IsDeleted.mono (h : ∀ b ∈ l, b ∈ l') : IsDeleted l k → IsDeleted l' k :=
  fun hx => h _ hx

theorem expect_eq_of_iff {A' B : Schema} (e1 : IsCreated l k ↔ IsCreated l' k)
    (e2 : IsAltered l k ↔ IsAltered l' k) (e3 : IsDeleted l k ↔ IsDeleted l' k) :
    expect A' B l k = expect A' B l' k := by
  rw [expect, expect, propext e1, propext e2, propext e3]

theorem expect_congr {A' B : Schema} (h : ∀ b, b ∈ l ↔ b ∈ l') : expect A' B l k = expect A' B l' k :=
  expect_eq_of_iff ⟨.mono fun b => (h b).1, .mono fun b => (h b).2⟩
    ⟨.mono fun b => (h b).1, .mono fun b => (h b).2⟩ (h _)

theorem expect_append_of_ne {A' B : Schema} (h : a.key ≠ k) : expect A' B (l ++ [a]) k = expect A' B l k :=
  expect_eq_of_iff (IsCreated.append.trans (or_iff_left fun h' => h h'.key_eq))
    (IsAltered.append.trans (or_iff_left fun h' => h h'.key_eq))
    (IsDeleted.append.trans (or_iff_left fun h' => h h'.key_eq))

theorem expect_nil (A' B : Schema) : expect A' B [] k = find A' k :=
  expect_of_untouched (fun h => h.elim (fun ⟨_, h, _⟩ => nomatch h) fun ⟨_, _, h⟩ => nomatch h) List.not_mem_nil

end marks

section step
variable {A' B : Schema} {cmds done : List Cmd} {s : Schema}

theorem expect_all (hS : Sched A' B cmds) (k : Key) : expect A' B cmds k = find B k := by
  by_cases h1 : IsCreated cmds k ∨ IsAltered cmds k
  · exact expect_of_target h1
  · have hB : k ∈ keys B → k ∈ keys A' ∧ ¬ IsDeleted cmds k :=
      fun hk => (hS.newk k hk).resolve_left fun h => h1 (Or.inl h)
    by_cases h2 : IsDeleted cmds k
    · rw [expect_of_deleted h1 h2, find_eq_none_iff.2 fun hk => (hB hk).2 h2]
    · rw [expect_of_untouched h1 h2]
      by_cases hk : k ∈ keys A'
      · rcases hS.oldk k hk with h | ⟨_, h | h, _⟩
        exacts [absurd h h2, absurd (Or.inr h) h1, h]
      · rw [find_eq_none_iff.2 hk, find_eq_none_iff.2 fun hk' => hk (hB hk').1]

theorem Inv.step (hinv : Inv A' B done s) {a : Cmd} {v : Option Obj}
    (h : ∃ s1, apply s a = .ok s1 ∧ Upd s s1 a.key v) (hv : expect A' B (done ++ [a]) a.key = v) :
    ∃ s1, apply s a = .ok s1 ∧ Inv A' B (done ++ [a]) s1 := by
  obtain ⟨s1, h1, hu⟩ := h
  refine ⟨s1, h1, hu.1, fun k => ?_⟩
  rw [hu.2]
  by_cases h : k = a.key
  · rw [if_pos h, h, hv]
  · rw [if_neg h, hinv.2, expect_append_of_ne (Ne.symm h)]

theorem create_unique (hS : Sched A' B cmds) {x x' : Obj} (h : Cmd.create x ∈ cmds)
    (h' : Cmd.create x' ∈ cmds) (hk : x.key = x'.key) : x = x' :=
  Option.some.inj ((hS.cr x h).symm.trans (hk ▸ hS.cr x' h'))

/-- the state in the middle of a run -/
structure Mid (A' B : Schema) (cmds done : List Cmd) (s : Schema) : Prop where
  S : Sched A' B cmds
  sub : ∀ b ∈ done, b ∈ cmds
  closed : ∀ b ∈ done, ∀ b' ∈ cmds, needs A' b b' = true → b' ∈ done
  inv : Inv A' B done s

theorem refs_present (M : Mid A' B cmds done s)
    {x : Obj} (hx : x ∈ B)
    (hdeps : ∀ x', Cmd.create x' ∈ cmds → x'.key ∈ x.refs → Cmd.create x' ∈ done) :
    ∀ r ∈ x.refs, r ∈ keys s := by
  intro r hr
  have hrB := M.S.vB.closed x hx r hr
  rw [mem_keys_iff_find, M.inv.2 r]
  by_cases h1 : IsCreated done r ∨ IsAltered done r
  · rw [expect_of_target h1]
    exact mem_keys_iff_find.1 hrB
  · obtain ⟨h2, h3⟩ := (M.S.newk r hrB).resolve_left
      fun ⟨x', hx', e⟩ => h1 (Or.inl ⟨x', hdeps x' hx' (e ▸ hr), e⟩)
    rw [expect_of_untouched h1 fun h => h3 (h.mono M.sub)]
    exact mem_keys_iff_find.1 h2

theorem step_create (M : Mid A' B cmds done s)
    {x : Obj} (ha : Cmd.create x ∈ cmds) (hna : Cmd.create x ∉ done)
    (hdeps : ∀ b ∈ cmds, needs A' (.create x) b = true → b ∈ done) :
    ∃ s1, apply s (.create x) = .ok s1 ∧ Inv A' B (done ++ [.create x]) s1 := by
  have hnc : ¬ IsCreated done x.key := fun ⟨x', hx', hk⟩ =>
    hna (create_unique M.S (M.sub _ hx') ha hk ▸ hx')
  have hnal : ¬ IsAltered done x.key := fun h => (M.S.excl _ (h.mono M.sub)).1 ⟨x, ha, rfl⟩
  have hfree : x.key ∉ keys s := by
    rw [← find_eq_none_iff, M.inv.2]
    by_cases hd : IsDeleted done x.key
    · exact expect_of_deleted (not_or.2 ⟨hnc, hnal⟩) hd
    · rw [expect_of_untouched (not_or.2 ⟨hnc, hnal⟩) hd]
      -- an old object with this key would have to be deleted, and the create waits for that
      refine find_eq_none_iff.2 fun hkA => ?_
      rcases M.S.oldk _ hkA with h | ⟨h, _⟩
      · exact hd (hdeps _ h (beq_iff_eq.2 rfl))
      · exact h ⟨x, ha, rfl⟩
  have hrefs := refs_present M (find_mem (M.S.cr x ha))
    fun x' hx' hr => hdeps _ hx' (List.contains_iff_mem.2 hr)
  have hexp : expect A' B (done ++ [.create x]) x.key = some x :=
    (expect_of_target (Or.inl (IsCreated.append.2 (Or.inr ⟨x, List.mem_singleton_self _, rfl⟩)))).trans
      (M.S.cr x ha)
  exact M.inv.step (apply_create M.inv.1 hfree hrefs) hexp

theorem step_alter (M : Mid A' B cmds done s)
    {c : Nat} {n : String} {d : Nat} {rs : List Key}
    (ha : Cmd.alter c n d rs ∈ cmds) (hna : Cmd.alter c n d rs ∉ done)
    (hdeps : ∀ b ∈ cmds, needs A' (.alter c n d rs) b = true → b ∈ done) :
    ∃ s1, apply s (.alter c n d rs) = .ok s1 ∧ Inv A' B (done ++ [.alter c n d rs]) s1 := by
  obtain ⟨hkA, x, hx, rfl, rfl⟩ := M.S.al _ _ _ _ ha
  obtain ⟨hncr, hndl⟩ := M.S.excl (c, n) ⟨_, _, ha⟩
  have hnal : ¬ IsAltered done (c, n) := by
    rintro ⟨d', rs', h'⟩
    obtain ⟨_, x', hx', rfl, rfl⟩ := M.S.al _ _ _ _ (M.sub _ h')
    cases hx.symm.trans hx'
    exact hna h'
  obtain ⟨y, hy⟩ := mem_keys_iff_find.1 hkA
  have hcur : find s (c, n) = some y := by
    rw [M.inv.2, expect_of_untouched (not_or.2 ⟨fun h => hncr (h.mono M.sub), hnal⟩)
      fun h => hndl (h.mono M.sub), hy]
  have hrefs := refs_present M (find_mem hx)
    fun x' hx' hr => hdeps _ hx' (List.contains_iff_mem.2 hr)
  have hexp : expect A' B (done ++ [.alter c n x.data x.refs]) (c, n) = some x :=
    (expect_of_target (k := (c, n))
      (Or.inr (IsAltered.append.2 (Or.inr ⟨_, _, List.mem_singleton_self _⟩)))).trans hx
  exact M.inv.step (apply_alter M.inv.1 hcur (find_key hx) hrefs) hexp

theorem step_delete (M : Mid A' B cmds done s)
    {c : Nat} {n : String}
    (ha : Cmd.delete c n ∈ cmds) (hna : Cmd.delete c n ∉ done)
    (hdeps : ∀ b ∈ cmds, needs A' (.delete c n) b = true → b ∈ done) :
    ∃ s1, apply s (.delete c n) = .ok s1 ∧ Inv A' B (done ++ [.delete c n]) s1 := by
  -- a creation of the same key waits for this delete
  have hwait : ∀ x, x.key = (c, n) → Cmd.create x ∉ done := fun x hk hx =>
    hna (M.closed _ hx _ ha (beq_iff_eq.2 hk))
  have hnca : ¬ (IsCreated done (c, n) ∨ IsAltered done (c, n)) := by
    rintro (⟨x, hx, hk⟩ | h)
    · exact hwait x hk hx
    · exact (M.S.excl _ (h.mono M.sub)).2 ha
  obtain ⟨y, hy⟩ := mem_keys_iff_find.1 (M.S.de c n ha)
  have hcur : find s (c, n) = some y := by
    rw [M.inv.2, expect_of_untouched hnca hna, hy]
  -- a target object whose creates have run cannot refer to the key: the key would
  -- have been created again, which waits for this delete
  have htarget : ∀ o b, find B o.key = some o → b ∈ done → (c, n) ∈ o.refs →
      (∀ x', needs A' b (.create x') = o.refs.contains x'.key) → False := by
    intro o b hoB hb hr hnb
    rcases M.S.newk _ (M.S.vB.closed o (find_mem hoB) _ hr) with ⟨x', hx', hk'⟩ | ⟨_, h⟩
    · exact hwait x' hk' (M.closed _ hb _ hx' ((hnb x').trans (List.contains_iff_mem.2 (hk' ▸ hr))))
    · exact h ha
  have hnoref : ∀ o ∈ s, (c, n) ∉ o.refs := by
    intro o ho hr
    have hfo := find_of_mem M.inv.1 ho
    rw [M.inv.2] at hfo
    by_cases h : IsCreated done o.key ∨ IsAltered done o.key
    · rw [expect_of_target h] at hfo
      rcases h with ⟨xo, hxo, hko⟩ | ⟨d', rs', h⟩
      · obtain rfl : xo = o := Option.some.inj ((hko ▸ M.S.cr xo (M.sub _ hxo)).symm.trans hfo)
        exact htarget xo _ hfo hxo hr fun _ => rfl
      · obtain ⟨_, x, hx, rfl, rfl⟩ := M.S.al _ _ _ _ (M.sub _ h)
        obtain rfl : x = o := Option.some.inj (hx.symm.trans hfo)
        exact htarget x _ hfo h hr fun _ => rfl
    · by_cases hnd : IsDeleted done o.key
      · rw [expect_of_deleted h hnd] at hfo
        cases hfo
      · rw [expect_of_untouched h hnd] at hfo
        -- `o` is still the old object, so the delete waits for what becomes of `o`
        have hn : ∀ b, (∀ y, find A' o.key = some y → needs A' (.delete c n) b = y.refs.contains (c, n)) →
            b ∈ cmds → b ∈ done := fun b hb hbc =>
          hdeps b hbc ((hb o hfo).trans (List.contains_iff_mem.2 hr))
        rcases M.S.nb c n ha o (find_mem hfo) hr with ⟨d', rs', h'⟩ | h'
        · exact h (Or.inr ⟨d', rs', hn _ (fun y hy => by simp only [needs, hy]) h'⟩)
        · exact hnd (hn _ (fun y hy => by simp only [needs, hy]) h')
  have hexp : expect A' B (done ++ [.delete c n]) (c, n) = none := by
    refine expect_of_deleted ?_ (IsDeleted.append.2 (Or.inr (List.mem_singleton_self _)))
    rw [IsCreated.append, IsAltered.append]
    rintro ((h | ⟨_, h, _⟩) | (h | ⟨_, _, h⟩))
    · exact hnca (Or.inl h)
    · cases List.mem_singleton.1 h
    · exact hnca (Or.inr h)
    · cases List.mem_singleton.1 h
  exact M.inv.step (apply_delete M.inv.1 (mem_keys_iff_find.2 ⟨y, hcur⟩) hnoref) hexp

theorem Mid.step {a : Cmd} (M : Mid A' B cmds done s)
    (ha : a ∈ cmds) (hna : a ∉ done) (hdeps : ∀ b ∈ cmds, needs A' a b = true → b ∈ done) :
    ∃ s1, apply s a = .ok s1 ∧ Inv A' B (done ++ [a]) s1 := by
  cases a with
  | create x => exact step_create M ha hna hdeps
  | rename c o n => exact absurd ha (M.S.nr c o n)
  | alter c n d rs => exact step_alter M ha hna hdeps
  | delete c n => exact step_delete M ha hna hdeps

theorem Sched.run (hS : Sched A' B cmds) {order : List Cmd} (hnd : order.Nodup)
    (hsubO : ∀ b ∈ order, b ∈ cmds) (hdep : DepClosed A' cmds order) :
    ∀ rest done s, order = done ++ rest → Inv A' B done s →
      ∃ s', applyAll s rest = .ok s' ∧ Inv A' B order s' := by
  intro rest
  induction rest with
  | nil =>
    intro done s ho hinv
    rw [List.append_nil] at ho
    exact ⟨s, rfl, ho ▸ hinv⟩
  | cons a rest ih =>
    intro done s ho hinv
    have hsub : ∀ b ∈ done, b ∈ cmds := fun b hb => hsubO b (ho ▸ List.mem_append_left _ hb)
    have ha : a ∈ cmds := hsubO a (ho ▸ List.mem_append_right _ List.mem_cons_self)
    have hna : a ∉ done := fun h =>
      (List.nodup_append.1 (ho ▸ hnd)).2.2 a h a List.mem_cons_self rfl
    have hclosed : ∀ b ∈ done, ∀ b' ∈ cmds, needs A' b b' = true → b' ∈ done := by
      intro b hb b' hb' hn
      obtain ⟨p1, p2, rfl⟩ := List.append_of_mem hb
      exact List.mem_append_left _
        (hdep p1 b (p2 ++ a :: rest) (by rw [ho, List.append_assoc, List.cons_append]) b' hb' hn)
    obtain ⟨s1, hs1, hinv1⟩ := Mid.step ⟨hS, hsub, hclosed, hinv⟩ ha hna (hdep done a rest ho)
    obtain ⟨s', hs', hinv'⟩ := ih (done ++ [a]) s1 (by rw [ho, List.append_assoc, List.singleton_append]) hinv1
    refine ⟨s', ?_, hinv'⟩
    rw [applyAll, hs1]
    exact hs'

theorem sched_apply (hS : Sched A' B cmds) (hnd : cmds.Nodup) {order : List Cmd}
    (hp : order.Perm cmds) (hdep : DepClosed A' cmds order) :
    ∃ s, applyAll A' order = .ok s ∧ Same s B := by
  obtain ⟨s, hs, hinv⟩ := hS.run (hp.nodup_iff.2 hnd) (fun b hb => hp.mem_iff.1 hb) hdep
    order [] A' rfl ⟨hS.vA.nodup, fun k => (expect_nil A' B).symm⟩
  exact ⟨s, hs, hinv.1, fun k => by rw [hinv.2, expect_congr fun _ => hp.mem_iff, expect_all hS]⟩

end step

end EdbVerif.Schema
