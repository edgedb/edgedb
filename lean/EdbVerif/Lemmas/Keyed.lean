/-
Keyed lists: lists of records (or pairs) whose keys `key : α → κ` are pairwise distinct,
`(l.map key).Nodup`.  Lookup is `l.find? (key · == k)`, replacement at a key is
`l.map fun x => if key x == k then f x else x`, removal is `l.filter (key · != k)`, and Python's `d[k] = v`
on an insertion-ordered dict is `upsert`.  The statements are written in these core terms, without
abbreviations, so that they rewrite the model's definitions (`findB`, `modB`, `dictGet`, `cacheGet`, …) once
those are unfolded; recursive spellings of a lookup need a bridge lemma proved by induction.  A lookup after
a write says `if written = asked`.  Also here: what a count or a sum over the list loses and gains when one
entry goes or is replaced.
-/
namespace EdbVerif.Keyed

variable {α κ : Type} {key : α → κ}

theorem exists_split {l : List α} (hnd : (l.map key).Nodup) {a : α} (ha : a ∈ l) :
    ∃ l₁ l₂, l = l₁ ++ a :: l₂ ∧ ∀ x ∈ l₁ ++ l₂, key x ≠ key a := by
  obtain ⟨l₁, l₂, rfl⟩ := List.append_of_mem ha
  refine ⟨l₁, l₂, rfl, fun x hx e => ?_⟩
  rw [List.map_append, List.map_cons, List.nodup_append, List.nodup_cons] at hnd
  rcases List.mem_append.mp hx with h | h
  · exact hnd.2.2 _ (List.mem_map_of_mem h) _ List.mem_cons_self e
  · exact hnd.2.1.1 (e ▸ List.mem_map_of_mem h)

theorem eq_of_key {l : List α} (hnd : (l.map key).Nodup) {a b : α} (ha : a ∈ l) (hb : b ∈ l)
    (e : key a = key b) : a = b := by
  obtain ⟨l₁, l₂, rfl, hne⟩ := exists_split hnd hb
  rcases List.mem_append.mp ha with h | h
  · exact absurd e (hne a (List.mem_append_left _ h))
  · rcases List.mem_cons.mp h with h | h
    · exact h
    · exact absurd e (hne a (List.mem_append_right _ h))

theorem snd_eq_of_key {ν : Type} {m : List (κ × ν)} (hnd : (m.map (·.1)).Nodup) {k : κ} {v v' : ν}
    (h : (k, v) ∈ m) (h' : (k, v') ∈ m) : v = v' :=
  (Prod.mk.inj (eq_of_key hnd h h' rfl)).2

theorem nodup_map_filter {l : List α} {p : α → Bool} (h : (l.map key).Nodup) : ((l.filter p).map key).Nodup :=
  (List.filter_sublist.map key).nodup h

theorem nodup_map_snoc {l : List α} {a : α} (h : (l.map key).Nodup) (ha : ∀ x ∈ l, key x ≠ key a) :
    ((l ++ [a]).map key).Nodup := by
  rw [List.map_append, List.nodup_append]
  refine ⟨h, List.pairwise_singleton _ _, fun x hx y hy e => ?_⟩
  obtain ⟨z, hz, rfl⟩ := List.mem_map.mp hx
  exact ha z hz (e.trans (List.mem_singleton.mp hy))

/-- `c x` is `key x == k` or `key x = k`, as the model spells its replacement -/
theorem map_modify {β : Type} {c : α → Prop} [DecidablePred c] {f : α → α} {g : α → β}
    (h : ∀ x, c x → g (f x) = g x) (l : List α) :
    (l.map fun x => if c x then f x else x).map g = l.map g := by
  rw [List.map_map]
  refine List.map_congr_left fun x _ => ?_
  show g (if c x then f x else x) = g x
  split
  · exact h x ‹_›
  · rfl

theorem mem_modify {c : α → Prop} [DecidablePred c] {l : List α} (hnd : (l.map key).Nodup) {a : α} (ha : a ∈ l)
    (hc : ∀ x, c x ↔ key x = key a) {f : α → α} {x : α} :
    x ∈ l.map (fun y => if c y then f y else y) ↔ x = f a ∨ (x ∈ l ∧ key x ≠ key a) := by
  rw [List.mem_map]
  constructor
  · rintro ⟨y, hy, rfl⟩
    by_cases h : c y
    · rw [if_pos h, eq_of_key hnd hy ha ((hc y).mp h)]; exact .inl rfl
    · rw [if_neg h]; exact .inr ⟨hy, fun e => h ((hc y).mpr e)⟩
  · rintro (rfl | ⟨hx, hk⟩)
    · exact ⟨a, ha, if_pos ((hc a).mpr rfl)⟩
    · exact ⟨x, hx, if_neg fun h => hk ((hc x).mp h)⟩

section
variable [BEq κ]

theorem find_map {g : α → α} (hg : ∀ x, key (g x) = key x) (l : List α) (k : κ) :
    (l.map g).find? (key · == k) = (l.find? (key · == k)).map g := by
  rw [List.find?_map]
  exact congrArg (Option.map g) (congrArg (List.find? · l) (funext fun x => by simp [hg x]))

variable [LawfulBEq κ]

theorem find_some {l : List α} {k : κ} {a : α} (h : l.find? (key · == k) = some a) : a ∈ l ∧ key a = k :=
  ⟨List.mem_of_find?_eq_some h, by simpa using List.find?_some h⟩

theorem find_eq_none {l : List α} {k : κ} : l.find? (key · == k) = none ↔ ∀ x ∈ l, key x ≠ k := by
  simp

theorem find_isSome {l : List α} {k : κ} : (l.find? (key · == k)).isSome ↔ k ∈ l.map key := by
  simp only [List.find?_isSome, List.mem_map, beq_iff_eq]

theorem find_eq_none_iff {l : List α} {k : κ} : l.find? (key · == k) = none ↔ k ∉ l.map key := by
  rw [← Option.not_isSome_iff_eq_none]
  exact not_congr find_isSome

theorem find_of_mem {l : List α} (hnd : (l.map key).Nodup) {a : α} (ha : a ∈ l) :
    l.find? (key · == key a) = some a := by
  cases hf : l.find? (key · == key a) with
  | none => exact absurd rfl (find_eq_none.mp hf a ha)
  | some b => rw [eq_of_key hnd (find_some hf).1 ha (find_some hf).2]

theorem modify_of_notin {l : List α} {k : κ} (h : ∀ x ∈ l, key x ≠ k) (f : α → α) :
    (l.map fun x => if key x == k then f x else x) = l :=
  (List.map_congr_left fun x hx => by simp [h x hx]).trans (List.map_id'' (fun _ => rfl) _)

theorem modify_split {l₁ l₂ : List α} {a : α} {k : κ} (f : α → α) (hk : key a = k)
    (h : ∀ x ∈ l₁ ++ l₂, key x ≠ k) :
    (l₁ ++ a :: l₂).map (fun x => if key x == k then f x else x) = l₁ ++ f a :: l₂ := by
  rw [List.map_append, List.map_cons, modify_of_notin (fun x hx => h x (List.mem_append_left _ hx)),
    modify_of_notin (fun x hx => h x (List.mem_append_right _ hx)), hk, beq_self_eq_true, if_pos rfl]

theorem erase_split {l₁ l₂ : List α} {a : α} {k : κ} (hk : key a = k) (h : ∀ x ∈ l₁ ++ l₂, key x ≠ k) :
    (l₁ ++ a :: l₂).filter (fun x => key x != k) = l₁ ++ l₂ := by
  have hv' : (key a != k) = false := by simp [hk]
  rw [List.filter_append, List.filter_cons, hv', if_neg Bool.false_ne_true,
    List.filter_eq_self.mpr fun x hx => by simpa using h x (List.mem_append_left _ hx),
    List.filter_eq_self.mpr fun x hx => by simpa using h x (List.mem_append_right _ hx)]

theorem length_filter_erase {l : List α} (hnd : (l.map key).Nodup) {a : α} (ha : a ∈ l) (p : α → Bool) :
    ((l.filter (key · != key a)).filter p).length + (if p a then 1 else 0) = (l.filter p).length := by
  obtain ⟨l₁, l₂, rfl, hk⟩ := exists_split hnd ha
  rw [erase_split rfl hk, List.filter_append, List.filter_append, List.filter_cons,
    List.length_append, List.length_append]
  by_cases h : p a = true
  · rw [if_pos h, if_pos h, List.length_cons, Nat.add_assoc]
  · rw [if_neg h, if_neg h]; rfl

theorem sum_map_erase {l : List α} (hnd : (l.map key).Nodup) {a : α} (ha : a ∈ l) (g : α → Int) :
    ((l.filter (key · != key a)).map g).sum = (l.map g).sum - g a := by
  obtain ⟨l₁, l₂, rfl, hne⟩ := exists_split hnd ha
  rw [erase_split rfl hne]
  simp only [List.map_append, List.map_cons, List.sum_append_int, List.sum_cons]
  omega

theorem sum_map_modify {l : List α} (hnd : (l.map key).Nodup) {a : α} (ha : a ∈ l) (f : α → α)
    (g : α → Int) :
    ((l.map fun x => if key x == key a then f x else x).map g).sum = (l.map g).sum - g a + g (f a) := by
  obtain ⟨l₁, l₂, rfl, hne⟩ := exists_split hnd ha
  rw [modify_split f rfl hne]
  simp only [List.map_append, List.map_cons, List.sum_append_int, List.sum_cons]
  omega

def upsert (key : α → κ) (l : List α) (a : α) : List α :=
  if l.any (key · == key a) then l.map (fun x => if key x == key a then a else x) else l ++ [a]

theorem upsert_of_fresh {l : List α} {a : α} (h : ∀ x ∈ l, key x ≠ key a) : upsert key l a = l ++ [a] := by
  have : l.any (key · == key a) = false := by simpa [List.any_eq_false] using h
  simp [upsert, this]

theorem mem_of_find_fst {ν : Type} {m : List (κ × ν)} {k : κ} {v : ν}
    (h : (m.find? (·.1 == k)).map (·.2) = some v) : (k, v) ∈ m := by
  obtain ⟨p, hp, rfl⟩ := Option.map_eq_some_iff.mp h
  obtain ⟨hm, rfl⟩ := find_some (key := Prod.fst) hp
  exact hm

variable [DecidableEq κ]

theorem find_cons (a : α) (l : List α) (k : κ) :
    (a :: l).find? (key · == k) = if key a = k then some a else l.find? (key · == k) := by
  by_cases h : key a = k <;> simp [h]

theorem find_modify {k : κ} {f : α → α} (hf : ∀ x, key x = k → key (f x) = k) (l : List α) (k' : κ) :
    (l.map fun x => if key x == k then f x else x).find? (key · == k') =
      if k = k' then (l.find? (key · == k)).map f else l.find? (key · == k') := by
  induction l with
  | nil => simp
  | cons a l ih =>
    rw [List.map_cons, find_cons, ih, find_cons, find_cons]
    by_cases ha : key a = k <;> by_cases hk : k = k'
    · subst hk; simp [ha, hf a ha]
    · simp [ha, hf a ha, hk]
    · subst hk; simp [ha]
    · simp [ha, hk]

theorem find_filter_key (p : κ → Bool) (l : List α) (k : κ) :
    (l.filter fun x => p (key x)).find? (key · == k) = if p k then l.find? (key · == k) else none := by
  induction l with
  | nil => simp
  | cons a l ih =>
    by_cases ha : key a = k
    · subst ha
      cases hp : p (key a) <;> simp [hp, ih]
    · cases hp : p (key a) <;> simp [hp, ih, ha]

theorem find_erase (l : List α) (k k' : κ) :
    (l.filter fun x => key x != k).find? (key · == k') = if k = k' then none else l.find? (key · == k') := by
  rw [find_filter_key (fun j => j != k)]
  by_cases h : k = k'
  · simp [h]
  · simp [h, show ¬ k' = k from fun e => h e.symm]

theorem find_upsert (l : List α) (a : α) (k : κ) :
    (upsert key l a).find? (key · == k) = if key a = k then some a else l.find? (key · == k) := by
  unfold upsert
  by_cases h : l.any (key · == key a) = true
  · rw [if_pos h, find_modify (fun _ _ => rfl)]
    obtain ⟨x, hx, e⟩ := List.any_eq_true.mp h
    obtain ⟨b, hb⟩ := Option.isSome_iff_exists.mp
      (find_isSome.mpr (List.mem_map.mpr ⟨x, hx, by simpa using e⟩) : (l.find? (key · == key a)).isSome)
    by_cases hk : key a = k
    · subst hk; simp [hb]
    · simp [hk]
  · rw [if_neg h, List.find?_append, List.find?_singleton]
    have h' : l.find? (key · == key a) = none := find_eq_none.mpr (by simpa [List.any_eq_true] using h)
    by_cases hk : key a = k
    · subst hk; simp [h']
    · simp [hk]

theorem find_fst_cons {ν : Type} (kv : κ × ν) (m : List (κ × ν)) (k : κ) :
    ((kv :: m).find? (·.1 == k)).map (·.2) =
      if kv.1 = k then some kv.2 else (m.find? (·.1 == k)).map (·.2) := by
  rw [find_cons (key := Prod.fst)]; split <;> rfl

theorem find_fst_filter_key {ν : Type} (p : κ → Bool) (m : List (κ × ν)) (k : κ) :
    ((m.filter fun e => p e.1).find? (·.1 == k)).map (·.2) =
      if p k then (m.find? (·.1 == k)).map (·.2) else none := by
  rw [find_filter_key (key := Prod.fst)]; split <;> rfl

theorem find_fst_cons_erase {ν : Type} (k : κ) (v : ν) (m : List (κ × ν)) (k' : κ) :
    (((k, v) :: m.filter (·.1 != k)).find? (·.1 == k')).map (·.2) =
      if k = k' then some v else (m.find? (·.1 == k')).map (·.2) := by
  rw [find_fst_cons]
  by_cases h : k = k'
  · rw [if_pos h, if_pos h]
  · rw [if_neg h, if_neg h, find_erase (key := Prod.fst), if_neg h]

end

end EdbVerif.Keyed
