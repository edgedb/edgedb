/-
C09: session state sent by the client (`decode_state`).  A change is harmless whenever the
compiler state the server holds is already synchronised to the server's transaction id (or the
server is outside a block); right after a ROLLBACK TO it is not (counterexample in Props).
-/
import EdbVerif.Lemmas.TxProto

namespace EdbVerif.Tx

/-- the compiler state the server holds is at the server's transaction id: the next
    `compile_in_tx` will not take the `sync_to_savepoint` path -/
def Server.settled (S : Server) : Prop :=
  S.inTx = false ∨ ∃ c t, S.last = some c ∧ curTx c = some t ∧ t.id = S.txid

theorem Rel.clientState {S : Server} {p : PSpec} (hR : Rel S p) (hs : S.settled)
    (cs : Option (Nat × Nat)) : Rel (S.clientState cs) (p.clientState cs) := by
  cases cs with
  | none => exact hR
  | some av =>
    obtain ⟨a, v⟩ := av
    cases hin : S.inTx with
    | true =>
      obtain ⟨c, t, hl, h⟩ := hR.inTx hin
      have hid : t.id = S.txid := by
        rcases hs with ho | ⟨c', t', hl', hc', hid'⟩
        · rw [hin] at ho; cases ho
        · rw [hl] at hl'; cases hl'
          rw [h.inv1.cur] at hc'; cases hc'
          exact hid'
      have hS : S.clientState (some (a, v)) = { S with txAliases := a, txConfig := v } := by
        cases S; cases hin; rfl
      have hp : p.clientState (some (a, v)) = { p with cur := withView p.cur a v } := by
        rw [PSpec.clientState, if_pos h.pin]; rfl
      rw [hS, hp]
      refine Rel.of_inTx (t := t) hl
        (h.withCurrent h.inv1.cur (Nat.le_refl _) rfl rfl h.curKey rfl rfl h.pfail ?_)
      rcases h.sync with ⟨_, hpl⟩ | ⟨hne, _⟩
      · exact .inl ⟨hid, fun hf => by rw [← hpl hf]; rfl⟩
      · exact absurd hid hne
    | false =>
      obtain ⟨her, hsps, hp⟩ := hR.out hin
      have hS : S.clientState (some (a, v)) = { S with aliases := a, config := v } := by
        cases S; cases hin; rfl
      rw [hS, hp]
      exact Rel.of_out { S with aliases := a, config := v } hin her hsps

theorem stepOk_client {S : Server} {p : PSpec} (hR : Rel S p) (hs : S.settled) (e : CEv)
    (hcov : (p.clientState e.cs).covers e.ev = true) :
    StepOk (S.clientState e.cs) (p.clientState e.cs) e.ev :=
  stepOk_all (Rel.clientState hR hs e.cs) e.ev hcov

end EdbVerif.Tx
