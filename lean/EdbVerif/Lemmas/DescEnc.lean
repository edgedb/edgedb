/-
C14: the linearisation of a descriptor tree into a stream of blocks (`enc`, with the `uuid_to_pos` table
and de-duplication) against the decoder loop.  Facts about one run of `enc` go through `enc_run`: what
every `emit` keeps (`Kept`), the run keeps — `Inv` (the stream decodes to the table: round trip, from any
context), `Nodup` and `Closed` (de-duplication), what the annotations are.  `canon d` names the
descriptors of one tree by their ids.
-/
import EdbVerif.Model.DescSpec
import EdbVerif.Lemmas.DescWire
import EdbVerif.Lemmas.ListAux

namespace EdbVerif.Desc
variable {dn : Option (Id → Bytes)}

mutual
/-- its one use is to tell a node from its proper descendants (`kid_id_ne`) -/
def size : Desc → Nat
  | .mk _ pre post => 1 + sizeL pre + sizeL post
def sizeL : List Desc → Nat
  | [] => 0
  | d :: ds => size d + sizeL ds
end

theorem subs_mk (h : Hdr) (pre post : List Desc) :
    subs (.mk h pre post) = .mk h pre post :: (subsL pre ++ subsL post) := by
  rw [subs]

theorem mem_subs_mk {h : Hdr} {pre post : List Desc} {u : Desc} :
    u ∈ subs (.mk h pre post) ↔ u = .mk h pre post ∨ u ∈ subsL pre ∨ u ∈ subsL post := by
  rw [subs_mk, List.mem_cons, List.mem_append]

theorem self_mem_subs (d : Desc) : d ∈ subs d := by
  cases d with | mk h pre post => exact mem_subs_mk.mpr (.inl rfl)

theorem mem_subs_pre {h : Hdr} {pre post : List Desc} {u : Desc} (hu : u ∈ subsL pre) :
    u ∈ subs (.mk h pre post) :=
  mem_subs_mk.mpr (.inr (.inl hu))

theorem mem_subs_post {h : Hdr} {pre post : List Desc} {u : Desc} (hu : u ∈ subsL post) :
    u ∈ subs (.mk h pre post) :=
  mem_subs_mk.mpr (.inr (.inr hu))

mutual
theorem size_le_of_mem_subs : ∀ (d u : Desc), u ∈ subs d → size u ≤ size d
  | .mk h pre post, u, hu => by
    rcases mem_subs_mk.mp hu with rfl | hu | hu
    · exact Nat.le_refl _
    · rw [size]
      exact Nat.le_trans (size_le_of_mem_subsL pre u hu)
        (Nat.le_trans (Nat.le_add_left _ 1) (Nat.le_add_right _ _))
    · rw [size]
      exact Nat.le_trans (size_le_of_mem_subsL post u hu) (Nat.le_add_left _ _)
theorem size_le_of_mem_subsL : ∀ (ds : List Desc) (u : Desc), u ∈ subsL ds → size u ≤ sizeL ds
  | [], u, hu => nomatch hu
  | d :: ds, u, hu => by
    rw [subsL] at hu
    rw [sizeL]
    rcases List.mem_append.mp hu with hu | hu
    · exact Nat.le_trans (size_le_of_mem_subs d u hu) (Nat.le_add_right _ _)
    · exact Nat.le_trans (size_le_of_mem_subsL ds u hu) (Nat.le_add_left _ _)
end

theorem mem_subsL_iff {ds : List Desc} {u : Desc} : u ∈ subsL ds ↔ ∃ d ∈ ds, u ∈ subs d := by
  induction ds with
  | nil => simp [subsL]
  | cons x xs ih => simp only [subsL, List.mem_append, ih, List.mem_cons, exists_eq_or_imp]

theorem mem_subsL_self {ds : List Desc} {d : Desc} (hd : d ∈ ds) : d ∈ subsL ds :=
  mem_subsL_iff.mpr ⟨d, hd, self_mem_subs d⟩

theorem size_lt_of_mem_kids {h : Hdr} {pre post : List Desc} {u : Desc}
    (hu : u ∈ subsL pre ++ subsL post) : size u < size (.mk h pre post) := by
  rw [size]
  rcases List.mem_append.mp hu with hu | hu
  · have := size_le_of_mem_subsL pre u hu; omega
  · have := size_le_of_mem_subsL post u hu; omega

theorem kid_id_ne {c : Id → Desc} {h : Hdr} {pre post : List Desc}
    (hc : ∀ u ∈ subs (.mk h pre post), c u.id = u) :
    ¬ ∃ u ∈ subsL pre ++ subsL post, u.id = h.id := by
  rintro ⟨u, hu, hid⟩
  -- such a `u` would be the node itself, and it is smaller
  have h1 : c u.id = u := hc u (mem_subs_mk.mpr (.inr (List.mem_append.mp hu)))
  have h2 : u = .mk h pre post := by rw [← h1, hid]; exact hc _ (self_mem_subs _)
  have := size_lt_of_mem_kids (h := h) hu
  rw [h2] at this
  exact Nat.lt_irrefl _ this

/-- the block of a node once its children are registered in `tbl`: children replaced by their positions -/
def flatAt (tbl : List Id) (h : Hdr) (pre post : List Desc) : Flat :=
  ⟨h, pre.map fun c => pos tbl c.id, post.map fun c => pos tbl c.id⟩

/-- the last step of `enc`: `_finish_typedesc` + `_register_type_id` -/
def emit (p : Proto) (dn : Option (Id → Bytes)) (s : St) (h : Hdr) (pre post : List Desc) : St :=
  { tbl := if s.tbl.contains h.id then s.tbl else s.tbl ++ [h.id],
    buf := s.buf ++ block p (flatAt s.tbl h pre post),
    ann := annStep p dn h s.ann }

theorem enc_mk (p : Proto) (s : St) (h : Hdr) (pre post : List Desc) :
    enc p dn s (.mk h pre post) =
      if (encL p dn s pre).tbl.contains h.id then encL p dn s pre
      else emit p dn (encL p dn (encL p dn s pre) post) h pre post := by
  rw [enc]; rfl

theorem encL_nil (p : Proto) (s : St) : encL p dn s [] = s := by rw [encL]
theorem encL_cons (p : Proto) (s : St) (d : Desc) (ds : List Desc) :
    encL p dn s (d :: ds) = encL p dn (enc p dn s d) ds := by rw [encL]

section emit
variable (p : Proto) (s : St) (h : Hdr) (pre post : List Desc)

theorem mem_emit_tbl {i : Id} : i ∈ (emit p dn s h pre post).tbl ↔ i ∈ s.tbl ∨ i = h.id :=
  ListAux.mem_snocNew List.contains_iff_mem

theorem emit_tbl_new (hn : h.id ∉ s.tbl) : (emit p dn s h pre post).tbl = s.tbl ++ [h.id] :=
  if_neg fun hc => hn (List.contains_iff_mem.mp hc)

theorem emit_tbl_len : s.tbl.length ≤ (emit p dn s h pre post).tbl.length := by
  unfold emit
  dsimp only
  split
  · exact Nat.le_refl _
  · rw [List.length_append]; exact Nat.le_add_right _ _

theorem emit_nodup (hn : s.tbl.Nodup) : (emit p dn s h pre post).tbl.Nodup :=
  ListAux.nodup_snocNew List.contains_iff_mem hn
end emit

theorem enc_mem (p : Proto) (d : Desc) (s : St) : d.id ∈ (enc p dn s d).tbl := by
  cases d with | mk h pre post =>
  rw [enc_mk]
  split
  · rename_i hc
    exact List.contains_iff_mem.mp hc
  · exact (mem_emit_tbl ..).mpr (Or.inr rfl)

def Grows (s s' : St) (D : List Desc) : Prop :=
  (∀ i ∈ s.tbl, i ∈ s'.tbl) ∧ ∀ i ∈ s'.tbl, i ∈ s.tbl ∨ ∃ u ∈ D, u.id = i

theorem Grows.refl (s : St) (D : List Desc) : Grows s s D := ⟨fun _ h => h, fun _ h => Or.inl h⟩

theorem Grows.trans {s s' s'' : St} {D : List Desc} (h₁ : Grows s s' D) (h₂ : Grows s' s'' D) :
    Grows s s'' D :=
  ⟨fun i hi => h₂.1 i (h₁.1 i hi), fun i hi => (h₂.2 i hi).elim (h₁.2 i) Or.inr⟩

theorem Grows.mono {s s' : St} {D D' : List Desc} (h : Grows s s' D) (hD : ∀ u ∈ D, u ∈ D') :
    Grows s s' D' :=
  ⟨h.1, fun i hi => (h.2 i hi).imp_right fun ⟨u, hu, e⟩ => ⟨u, hD u hu, e⟩⟩

/-- `P` survives every `emit` of the encoder, given what is known there: `N` of the node and
    its descendants, the children registered, the own id registered at most by a proper descendant -/
def Kept (p : Proto) (dn : Option (Id → Bytes)) (P : St → Prop) (N : Desc → Prop) : Prop :=
  ∀ (h : Hdr) (pre post : List Desc) (s : St), (∀ u ∈ subs (.mk h pre post), N u) → P s →
    (∀ k ∈ pre, k.id ∈ s.tbl) → (∀ k ∈ post, k.id ∈ s.tbl) →
    (h.id ∈ s.tbl → ∃ u ∈ subsL pre ++ subsL post, u.id = h.id) → P (emit p dn s h pre post)

section run
variable {p : Proto} {P : St → Prop} {N : Desc → Prop}

mutual
theorem enc_run (step : Kept p dn P N) : ∀ (d : Desc) (s : St), (∀ u ∈ subs d, N u) →
    Grows s (enc p dn s d) (subs d) ∧ (P s → P (enc p dn s d))
  | .mk h pre post, s, hN => by
    obtain ⟨g1, m1, p1⟩ := encL_run step pre s fun u hu => hN u (mem_subs_pre hu)
    rw [enc_mk]
    split
    · exact ⟨g1.mono fun _ => mem_subs_pre, p1⟩
    · rename_i hcont
      obtain ⟨g2, m2, p2⟩ := encL_run step post (encL p dn s pre) fun u hu => hN u (mem_subs_post hu)
      refine ⟨((g1.mono fun _ => mem_subs_pre).trans (g2.mono fun _ => mem_subs_post)).trans
          ⟨fun i hi => (mem_emit_tbl ..).mpr (Or.inl hi), fun i hi => ((mem_emit_tbl ..).mp hi).imp_right
            fun e => ⟨_, self_mem_subs _, e.symm⟩⟩,
        fun hP => step h pre post _ hN (p2 (p1 hP)) (fun k hk => g2.1 _ (m1 k hk)) m2 fun hin => ?_⟩
      obtain ⟨u, hu, e⟩ := (g2.2 _ hin).resolve_left fun h1 => hcont (List.contains_iff_mem.mpr h1)
      exact ⟨u, List.mem_append_right _ hu, e⟩
theorem encL_run (step : Kept p dn P N) : ∀ (ds : List Desc) (s : St), (∀ u ∈ subsL ds, N u) →
    Grows s (encL p dn s ds) (subsL ds) ∧ (∀ k ∈ ds, k.id ∈ (encL p dn s ds).tbl) ∧
      (P s → P (encL p dn s ds))
  | [], s, _ => by rw [encL_nil]; exact ⟨Grows.refl _ _, nofun, id⟩
  | d :: ds, s, hN => by
    have hd : ∀ u ∈ subs d, u ∈ subsL (d :: ds) := fun u hu => by
      rw [subsL]; exact List.mem_append_left _ hu
    have hds : ∀ u ∈ subsL ds, u ∈ subsL (d :: ds) := fun u hu => by
      rw [subsL]; exact List.mem_append_right _ hu
    obtain ⟨g1, p1⟩ := enc_run step d s fun u hu => hN u (hd u hu)
    obtain ⟨g2, m2, p2⟩ := encL_run step ds (enc p dn s d) fun u hu => hN u (hds u hu)
    rw [encL_cons]
    exact ⟨(g1.mono hd).trans (g2.mono hds), fun k hk => (List.mem_cons.mp hk).elim
      (fun e => e ▸ g2.1 _ (enc_mem p d s)) (m2 k), fun hP => p2 (p1 hP)⟩
end

theorem enc_preserves (step : Kept p dn P N) (d : Desc) (s : St) (hN : ∀ u ∈ subs d, N u)
    (hP : P s) : P (enc p dn s d) :=
  (enc_run step d s hN).2 hP

theorem encL_preserves (step : Kept p dn P N) (ds : List Desc) (s : St) (hN : ∀ u ∈ subsL ds, N u)
    (hP : P s) : P (encL p dn s ds) :=
  (encL_run step ds s hN).2.2 hP
end run

theorem kept_true (p : Proto) : Kept p dn (fun _ => True) (fun _ => True) :=
  fun _ _ _ _ _ _ _ _ _ => trivial

theorem enc_grows (p : Proto) (d : Desc) (s : St) : Grows s (enc p dn s d) (subs d) :=
  (enc_run (kept_true p) d s fun _ _ => trivial).1

theorem encL_grows (p : Proto) (ds : List Desc) (s : St) : Grows s (encL p dn s ds) (subsL ds) :=
  (encL_run (kept_true p) ds s fun _ _ => trivial).1

theorem encL_mem (p : Proto) (ds : List Desc) (s : St) : ∀ k ∈ ds, k.id ∈ (encL p dn s ds).tbl :=
  (encL_run (kept_true p) ds s fun _ _ => trivial).2.1

theorem decodeAll_nil (m : Mode) (p : Proto) (st : DSt) : decodeAll m p st [] = some st := by
  rw [decodeAll]; rfl

theorem decodeAll_block {m : Mode} {p : Proto} {st st' : DSt} {B rest : Bytes}
    (h : parseBlock m p st (B ++ rest) = some (st', rest)) (hB : B ≠ []) :
    decodeAll m p st (B ++ rest) = decodeAll m p st' rest := by
  obtain ⟨b, bs, rfl⟩ := List.exists_cons_of_ne_nil hB
  have hlen : rest.length < (b :: bs ++ rest).length := by
    rw [List.length_append, List.length_cons]; omega
  rw [decodeAll, h]
  exact if_pos hlen

theorem getElem?_map_pos (c : Id → Desc) (tbl : List Id) (i : Id) (hi : i ∈ tbl) :
    (tbl.map c)[pos tbl i]? = some (c i) := by
  have hlt : tbl.idxOf i < tbl.length := List.idxOf_lt_length_of_mem hi
  unfold pos
  rw [List.getElem?_map, List.getElem?_eq_getElem hlt, List.getElem_idxOf hlt]
  rfl

theorem resolve_map (c : Id → Desc) (tbl : List Id) (kids : List Desc)
    (hk : ∀ k ∈ kids, k.id ∈ tbl ∧ c k.id = k) :
    resolve (tbl.map c) (kids.map (fun k => pos tbl k.id)) = some kids := by
  induction kids with
  | nil => rfl
  | cons k ks ih =>
    have h1 := hk k List.mem_cons_self
    have ih' := ih (fun x hx => hk x (List.mem_cons_of_mem _ hx))
    rw [List.map_cons, resolve, getElem?_map_pos c tbl k.id h1.1, ih', h1.2]

theorem resolve_replicate {cl : List Desc} {n : Nat} (h : n = 0 ∨ cl ≠ []) :
    ∃ l, resolve cl (List.replicate n 0) = some l := by
  induction n with
  | zero => exact ⟨[], rfl⟩
  | succ n ih =>
    obtain ⟨d, ds, rfl⟩ := List.exists_cons_of_ne_nil (h.resolve_left (Nat.succ_ne_zero n))
    obtain ⟨l, hl⟩ := ih (.inr (List.cons_ne_nil d ds))
    exact ⟨d :: l, by rw [List.replicate_succ, resolve, hl]; rfl⟩

theorem resolve_chkOf (p : Proto) (f : Flat) {cl : List Desc} (h : f.pre = [] ∨ cl ≠ []) :
    ∃ l, resolve cl (chkOf p f) = some l := by
  unfold chkOf
  split
  · exact resolve_replicate (h.imp_left (congrArg List.length))
  · exact ⟨[], rfl⟩

/-- `c` maps an id to THE descriptor with that id.  The stream emitted so far
    decodes (from an empty `codecs_list`) to exactly the descriptors of the
    registered ids, in registration order. -/
def Inv (m : Mode) (c : Id → Desc) (p : Proto) (s : St) : Prop :=
  ∀ rest, decodeAll m p {} (s.buf ++ rest) = decodeAll m p ⟨s.tbl.map c, []⟩ rest

theorem Inv.empty (m : Mode) (c : Id → Desc) (p : Proto) : Inv m c p {} := fun _ => rfl

theorem Inv.decode {m : Mode} {c : Id → Desc} {p : Proto} {s : St} (h : Inv m c p s) :
    decodeAll m p {} s.buf = some ⟨s.tbl.map c, []⟩ := by
  have := h []
  rwa [List.append_nil, decodeAll_nil] at this

/-- what the round trip needs of a node: `c` names it, its header fits the packers of `p`, the decoder `m`
    has an arm for its kind -/
structure NodeOK (m : Mode) (c : Id → Desc) (p : Proto) (u : Desc) : Prop where
  canon : c u.id = u
  hdr : hdrOK p u.hdr u.pre.length u.post.length = true
  sql : m = .doc ∨ ∀ n, u.hdr.kind ≠ .sqlRow n

theorem flatAt_parses {m : Mode} {c : Id → Desc} {p : Proto} {tbl : List Id} {h : Hdr}
    {pre post : List Desc} (hN : NodeOK m c p (.mk h pre post)) (hpre : ∀ k ∈ pre, k.id ∈ tbl)
    (hpost : ∀ k ∈ post, k.id ∈ tbl) (hlen : tbl.length ≤ 65536) :
    Parses (parseFlat m p) (block p (flatAt tbl h pre post))
      (.desc (flatAt tbl h pre post) (chkOf p (flatAt tbl h pre post))) := by
  have hlt : ∀ l : List Desc, (∀ k ∈ l, k.id ∈ tbl) →
      ∀ r ∈ l.map (fun c => pos tbl c.id), r < 65536 := fun l hl r hr => by
    obtain ⟨k, hk, rfl⟩ := List.mem_map.mp hr
    exact Nat.lt_of_lt_of_le (List.idxOf_lt_length_of_mem (hl k hk)) hlen
  refine parseFlat_block m p _ ?_ hN.sql (hlt pre hpre) (hlt post hpost)
  show hdrOK p h (pre.map _).length (post.map _).length = true
  rw [List.length_map, List.length_map]
  exact hN.hdr

theorem inv_kept (m : Mode) (c : Id → Desc) (p : Proto) :
    Kept p dn (fun s => s.tbl.length ≤ 65536 → Inv m c p s) (NodeOK m c p) := by
  intro h pre post s hN hP hpre hpost hfr hlen rest
  -- The children are registered and `c` names them, so their positions resolve to the children themselves
  -- (`resolve_map`) and the block just emitted parses back to the node (`flatAt_parses`, `hblock`).  The
  -- node's id is new (`kid_id_ne`), so the table grows by it and the decoder's list by `c h.id`, the node.
  have hlen' := Nat.le_trans (emit_tbl_len p s h pre post) hlen
  have hc : ∀ u ∈ subs (.mk h pre post), c u.id = u := fun u hu => (hN u hu).canon
  have hpre' : ∀ k ∈ pre, k.id ∈ s.tbl ∧ c k.id = k := fun k hk =>
    ⟨hpre k hk, hc k (mem_subs_pre (mem_subsL_self hk))⟩
  have hpost' : ∀ k ∈ post, k.id ∈ s.tbl ∧ c k.id = k := fun k hk =>
    ⟨hpost k hk, hc k (mem_subs_post (mem_subsL_self hk))⟩
  have hflat := flatAt_parses (hN _ (self_mem_subs _)) hpre hpost hlen' rest
  have hself : c h.id = .mk h pre post := hc _ (self_mem_subs _)
  have hcl : (flatAt s.tbl h pre post).pre = [] ∨ s.tbl.map c ≠ [] := by
    cases pre with
    | nil => exact Or.inl rfl
    | cons k _ =>
      exact Or.inr fun e => List.not_mem_nil (List.map_eq_nil_iff.mp e ▸ hpre k List.mem_cons_self)
  obtain ⟨lchk, hchk⟩ := resolve_chkOf p (flatAt s.tbl h pre post) hcl
  have hblock : parseBlock m p ⟨s.tbl.map c, []⟩ (block p (flatAt s.tbl h pre post) ++ rest) =
      some (⟨(s.tbl ++ [h.id]).map c, []⟩, rest) := by
    unfold parseBlock
    rw [hflat]
    show (match resolve _ (pre.map _), resolve _ (post.map _), resolve _ _ with
      | some a, some b, some _ => _ | _, _, _ => _) = _
    rw [resolve_map c s.tbl pre hpre', resolve_map c s.tbl post hpost', hchk, List.map_append,
      List.map_cons, List.map_nil, hself]
    rfl
  rw [emit_tbl_new p s h pre post fun hin => kid_id_ne hc (hfr hin)]
  show decodeAll m p {} (s.buf ++ block p _ ++ rest) = _
  rw [List.append_assoc, hP hlen']
  exact decodeAll_block hblock (block_ne_nil p _)

theorem nodesOK_mk {p : Proto} {h : Hdr} {pre post : List Desc} (hn : nodesOK p (.mk h pre post) = true) :
    hdrOK p h pre.length post.length = true ∧ nodesOKL p pre = true ∧ nodesOKL p post = true := by
  rw [nodesOK] at hn
  simpa [Bool.and_eq_true, and_assoc] using hn

theorem nodesOKL_cons {p : Proto} {d : Desc} {ds : List Desc} (hn : nodesOKL p (d :: ds) = true) :
    nodesOK p d = true ∧ nodesOKL p ds = true := by
  rw [nodesOKL] at hn
  simpa [Bool.and_eq_true] using hn

mutual
theorem nodesOK_of_mem_subs {p : Proto} : ∀ {d u : Desc}, nodesOK p d = true → u ∈ subs d → nodesOK p u = true
  | .mk h pre post, u, hn, hu => by
    obtain ⟨_, h1, h2⟩ := nodesOK_mk hn
    rcases mem_subs_mk.mp hu with rfl | hu | hu
    · exact hn
    · exact nodesOKL_of_mem_subsL h1 hu
    · exact nodesOKL_of_mem_subsL h2 hu
theorem nodesOKL_of_mem_subsL {p : Proto} : ∀ {ds : List Desc} {u : Desc}, nodesOKL p ds = true → u ∈ subsL ds →
    nodesOK p u = true
  | [], u, _, hu => nomatch hu
  | d :: ds, u, hn, hu => by
    rw [subsL] at hu
    obtain ⟨h1, h2⟩ := nodesOKL_cons hn
    rcases List.mem_append.mp hu with hu | hu
    · exact nodesOK_of_mem_subs h1 hu
    · exact nodesOKL_of_mem_subsL h2 hu
end

theorem hdrOK_of_nodesOK {p : Proto} {u : Desc} (hn : nodesOK p u = true) :
    hdrOK p u.hdr u.pre.length u.post.length = true := by
  cases u with | mk h pre post => exact (nodesOK_mk hn).1

theorem enc_inv (m : Mode) (c : Id → Desc) (p : Proto) : ∀ (d : Desc) (s : St), Inv m c p s →
    (∀ u ∈ subs d, c u.id = u) → nodesOK p d = true →
    (∀ u ∈ subs d, m = .doc ∨ ∀ n, u.hdr.kind ≠ .sqlRow n) →
    (enc p dn s d).tbl.length ≤ 65536 → Inv m c p (enc p dn s d) :=
  fun d s hinv hc hn hsql => enc_preserves (inv_kept m c p) d s
    (fun u hu => ⟨hc u hu, hdrOK_of_nodesOK (nodesOK_of_mem_subs hn hu), hsql u hu⟩) fun _ => hinv

theorem encL_inv (m : Mode) (c : Id → Desc) (p : Proto) : ∀ (ds : List Desc) (s : St), Inv m c p s →
    (∀ u ∈ subsL ds, c u.id = u) → nodesOKL p ds = true →
    (∀ u ∈ subsL ds, m = .doc ∨ ∀ n, u.hdr.kind ≠ .sqlRow n) →
    (encL p dn s ds).tbl.length ≤ 65536 → Inv m c p (encL p dn s ds) :=
  fun ds s hinv hc hn hsql => encL_preserves (inv_kept m c p) ds s
    (fun u hu => ⟨hc u hu, hdrOK_of_nodesOK (nodesOKL_of_mem_subsL hn hu), hsql u hu⟩) fun _ => hinv

/-- THE descriptor with id `i` inside `d` (the first in `subs d`; the only one when `IdFaithful d`): the `c` of
    `Inv`, `NodeOK`, `Closed` for a single tree -/
def canon (d : Desc) (i : Id) : Desc := ((subs d).find? (fun u => u.id == i)).getD default

theorem canon_spec {d : Desc} (hf : IdFaithful d) : ∀ u ∈ subs d, canon d u.id = u := by
  intro u hu
  unfold canon
  cases hfind : (subs d).find? (fun v => v.id == u.id) with
  | none => exact absurd (beq_self_eq_true _) (List.find?_eq_none.mp hfind u hu)
  | some v =>
    have hid := List.find?_some (p := fun v : Desc => v.id == u.id) hfind
    exact hf v (List.mem_of_find?_eq_some hfind) u hu (eq_of_beq hid)

theorem map_id_canon {d : Desc} {tbl : List Id} (hf : IdFaithful d)
    (hm : ∀ i ∈ tbl, ∃ u ∈ subs d, u.id = i) : (tbl.map (canon d)).map Desc.id = tbl := by
  rw [List.map_map]
  refine (List.map_congr_left fun i hi => ?_).trans (List.map_id _)
  obtain ⟨u, hu, rfl⟩ := hm i hi
  exact congrArg Desc.id (canon_spec hf u hu)

/-- `c` serves only to say that no proper descendant has the id of the node (`kid_id_ne`) -/
theorem enc_tbl_fresh (c : Id → Desc) (p : Proto) (h : Hdr) (pre post : List Desc) (s : St)
    (hc : ∀ u ∈ subs (.mk h pre post), c u.id = u) (hnew : h.id ∉ s.tbl) :
    (enc p dn s (.mk h pre post)).tbl = (encL p dn (encL p dn s pre) post).tbl ++ [h.id] := by
  have g1 := (encL_grows (dn := dn) p pre s).mono fun u => List.mem_append_left (subsL post)
  have g2 := g1.trans ((encL_grows (dn := dn) p post (encL p dn s pre)).mono
    fun u => List.mem_append_right (subsL pre))
  have fresh : ∀ {s' : St}, Grows s s' (subsL pre ++ subsL post) → h.id ∉ s'.tbl := fun g hin =>
    kid_id_ne hc ((g.2 _ hin).resolve_left hnew)
  rw [enc_mk, if_neg fun hcont => fresh g1 (List.contains_iff_mem.mp hcont)]
  exact emit_tbl_new p _ h pre post (fresh g2)

/-- the table and the buffer do not depend on `inline_typenames` -/
theorem emit_core (p : Proto) (dn dn' : Option (Id → Bytes)) (s s' : St) (h : Hdr) (pre post : List Desc)
    (h1 : s.tbl = s'.tbl) (h2 : s.buf = s'.buf) :
    (emit p dn s h pre post).tbl = (emit p dn' s' h pre post).tbl ∧
    (emit p dn s h pre post).buf = (emit p dn' s' h pre post).buf := by
  unfold emit; simp only [h1, h2, and_self]

mutual
theorem enc_core (p : Proto) (dn dn' : Option (Id → Bytes)) : ∀ (d : Desc) (s s' : St),
    s.tbl = s'.tbl → s.buf = s'.buf →
    (enc p dn s d).tbl = (enc p dn' s' d).tbl ∧ (enc p dn s d).buf = (enc p dn' s' d).buf
  | .mk h pre post, s, s', h1, h2 => by
    obtain ⟨a1, a2⟩ := encL_core p dn dn' pre s s' h1 h2
    rw [enc_mk, enc_mk, a1]
    split
    · exact ⟨a1, a2⟩
    · obtain ⟨b1, b2⟩ := encL_core p dn dn' post _ _ a1 a2
      exact emit_core p dn dn' _ _ h pre post b1 b2
theorem encL_core (p : Proto) (dn dn' : Option (Id → Bytes)) : ∀ (ds : List Desc) (s s' : St),
    s.tbl = s'.tbl → s.buf = s'.buf →
    (encL p dn s ds).tbl = (encL p dn' s' ds).tbl ∧ (encL p dn s ds).buf = (encL p dn' s' ds).buf
  | [], s, s', h1, h2 => by rw [encL_nil, encL_nil]; exact ⟨h1, h2⟩
  | d :: ds, s, s', h1, h2 => by
    rw [encL_cons, encL_cons]
    obtain ⟨a1, a2⟩ := enc_core p dn dn' d s s' h1 h2
    exact encL_core p dn dn' ds _ _ a1 a2
end

theorem enc_tbl_none (p : Proto) (dn : Option (Id → Bytes)) (d : Desc) :
    (enc p dn {} d).tbl = (enc p none {} d).tbl := (enc_core p dn none d {} {} rfl rfl).1

theorem enc_buf_none (p : Proto) (dn : Option (Id → Bytes)) (d : Desc) :
    (enc p dn {} d).buf = encode p d := (enc_core p dn none d {} {} rfl rfl).2

/-- the hypothesis about `SQL_ROW` nodes a decoder needs -/
def SqlOK (m : Mode) (d : Desc) : Prop := m = .doc ∨ Decodable d

theorem WFDesc.nodeOK {m : Mode} {p : Proto} {d : Desc} (h : WFDesc p d) (hs : SqlOK m d) :
    ∀ u ∈ subs d, NodeOK m (canon d) p u := fun u hu =>
  ⟨canon_spec h.faithful u hu, hdrOK_of_nodesOK (nodesOK_of_mem_subs h.nodes hu),
    hs.imp_right fun hd => hd u hu⟩

theorem WFDesc.fits_dn {p : Proto} {d : Desc} (h : WFDesc p d) (dn : Option (Id → Bytes)) :
    (enc p dn {} d).tbl.length ≤ 65536 := by
  rw [enc_tbl_none]; exact h.fits

/-- round trip of the descriptor blocks, from a fresh context -/
theorem decode_blocks (m : Mode) (p : Proto) (dn : Option (Id → Bytes)) (d : Desc) (h : WFDesc p d)
    (hs : SqlOK m d) :
    ((enc p dn {} d).tbl.map (canon d)).getLast? = some d ∧
    Inv m (canon d) p (enc p dn {} d) := by
  have hc := canon_spec h.faithful
  refine ⟨?_, enc_preserves (inv_kept m (canon d) p) d {} (h.nodeOK hs) (fun _ => Inv.empty _ _ _) (h.fits_dn dn)⟩
  cases d with | mk hd pre post =>
  rw [enc_tbl_fresh (canon (.mk hd pre post)) p hd pre post {} hc List.not_mem_nil, List.map_append,
    List.map_cons, List.map_nil, List.getLast?_concat]
  exact congrArg some (hc _ (self_mem_subs _))

theorem decodeAll_annos (p : Proto) (cl : List Desc) : ∀ (ann an : List (Id × Bytes)) (rest : Bytes),
    (∀ e ∈ ann, e.1.length = 16 ∧ e.2.length < 4294967296) →
    decodeAll .doc p ⟨cl, an⟩ (annoBytes p ann ++ rest) = decodeAll .doc p ⟨cl, an ++ ann⟩ rest
  | [], an, rest, _ => by rw [List.append_nil]; rfl
  | e :: ann, an, rest, h => by
    have he := h e List.mem_cons_self
    have hb : parseBlock .doc p ⟨cl, an⟩ (annoBlock p e.1 e.2 ++ (annoBytes p ann ++ rest)) =
        some (⟨cl, an ++ [(e.1, e.2)]⟩, annoBytes p ann ++ rest) := by
      unfold parseBlock
      rw [parseFlat_annoBlock p e.1 e.2 he.1 he.2]
    show decodeAll .doc p ⟨cl, an⟩ (annoBlock p e.1 e.2 ++ annoBytes p ann ++ rest) = _
    rw [List.append_assoc, decodeAll_block hb (annoBlock_ne_nil p e.1 e.2),
      decodeAll_annos p cl ann _ rest fun x hx => h x (List.mem_cons_of_mem _ hx), List.append_assoc]
    rfl

theorem Inv.decode_annos {c : Id → Desc} {p : Proto} {s : St} (h : Inv .doc c p s)
    (hann : ∀ e ∈ s.ann, e.1.length = 16 ∧ e.2.length < 4294967296) :
    decodeAll .doc p {} (s.buf ++ annoBytes p s.ann) = some ⟨s.tbl.map c, s.ann⟩ := by
  have h3 := decodeAll_annos p (s.tbl.map c) s.ann [] [] hann
  rw [List.append_nil, List.nil_append, decodeAll_nil] at h3
  rw [h _, h3]

theorem decodeAll_anno_real (st : DSt) (e : Id × Bytes) (es : List (Id × Bytes)) :
    decodeAll .real .v1 st (annoBytes .v1 (e :: es)) = none := by
  show decodeAll .real .v1 st (annoBlock .v1 e.1 e.2 ++ annoBytes .v1 es) = none
  rw [decodeAll, parseBlock, parseFlat_anno_real]
  rfl

theorem ann_kept (p : Proto) (f : Id → Bytes) (A : List (Id × Bytes)) (D : List Desc) :
    Kept p (some f) (fun s => ∀ e ∈ s.ann, e ∈ A ∨
      ∃ u ∈ D, e = (u.id, f u.id) ∧ annotated p u.hdr.kind = true) (· ∈ D) := by
  intro h pre post s hN hP _ _ _ e he
  unfold emit annStep at he
  dsimp only at he
  split at he
  · rcases List.mem_append.mp he with he | he
    · exact hP e he
    · exact Or.inr ⟨_, hN _ (self_mem_subs _), List.mem_singleton.mp he, ‹_›⟩
  · exact hP e he

theorem enc_ann (p : Proto) (f : Id → Bytes) (d : Desc) (s : St) (e : Id × Bytes) :
    e ∈ (enc p (some f) s d).ann →
      e ∈ s.ann ∨ ∃ u ∈ subs d, e = (u.id, f u.id) ∧ annotated p u.hdr.kind = true :=
  enc_preserves (ann_kept p f s.ann (subs d)) d s (fun _ hu => hu) (fun _ he => Or.inl he) e

theorem encL_ann (p : Proto) (f : Id → Bytes) : ∀ (ds : List Desc) (s : St) (e : Id × Bytes),
    e ∈ (encL p (some f) s ds).ann → e ∈ s.ann ∨ ∃ u ∈ subsL ds, e = (u.id, f u.id) ∧ annotated p u.hdr.kind = true :=
  fun ds s => encL_preserves (ann_kept p f s.ann (subsL ds)) ds s (fun _ hu => hu) fun _ he => Or.inl he

theorem ann_none_kept (p : Proto) : Kept p none (fun s => s.ann = []) (fun _ => True) :=
  fun _ _ _ _ _ hP _ _ _ => hP

theorem encL_ann_none' (p : Proto) : ∀ (ds : List Desc) (s : St), s.ann = [] → (encL p none s ds).ann = [] :=
  fun ds s => encL_preserves (ann_none_kept p) ds s fun _ _ => trivial

theorem enc_ann_none (p : Proto) (d : Desc) : (enc p none {} d).ann = [] :=
  enc_preserves (ann_none_kept p) d {} (fun _ _ => trivial) rfl

theorem enc_ann_fits {p : Proto} {d : Desc} (hn : nodesOK p d = true)
    (hdn : ∀ f, dn = some f → ∀ i, (f i).length < 4294967296) :
    ∀ e ∈ (enc p dn {} d).ann, e.1.length = 16 ∧ e.2.length < 4294967296 := by
  intro e he
  cases dn with
  | none => rw [enc_ann_none] at he; cases he
  | some f =>
    obtain ⟨u, hu, rfl, _⟩ := (enc_ann p f d {} e he).resolve_left List.not_mem_nil
    exact ⟨hdrOK_id (hdrOK_of_nodesOK (nodesOK_of_mem_subs hn hu)), hdn f rfl _⟩

theorem nodup_kept (p : Proto) : Kept p dn (fun s => s.tbl.Nodup) (fun _ => True) :=
  fun h pre post s _ hP _ _ _ => emit_nodup p s h pre post hP

theorem encL_nodup (p : Proto) : ∀ (ds : List Desc) (s : St), s.tbl.Nodup → (encL p dn s ds).tbl.Nodup :=
  fun ds s => encL_preserves (nodup_kept p) ds s fun _ _ => trivial

def Closed (c : Id → Desc) (tbl : List Id) : Prop := ∀ i ∈ tbl, ∀ u ∈ subs (c i), u.id ∈ tbl

theorem closed_kept (c : Id → Desc) (p : Proto) :
    Kept p dn (fun s => Closed c s.tbl) (fun u => c u.id = u) := by
  intro h pre post s hc hP hpre hpost _ i hi u hu
  refine (mem_emit_tbl ..).mpr ?_
  rcases (mem_emit_tbl ..).mp hi with hi | rfl
  · exact Or.inl (hP i hi u hu)
  · have hself : c h.id = .mk h pre post := hc _ (self_mem_subs _)
    rw [hself] at hu
    rcases mem_subs_mk.mp hu with rfl | hu | hu
    · exact Or.inr rfl
    · obtain ⟨k, hk, hu⟩ := mem_subsL_iff.mp hu
      exact Or.inl (hP _ (hpre k hk) u (by rw [hc k (mem_subs_pre (mem_subsL_self hk))]; exact hu))
    · obtain ⟨k, hk, hu⟩ := mem_subsL_iff.mp hu
      exact Or.inl (hP _ (hpost k hk) u (by rw [hc k (mem_subs_post (mem_subsL_self hk))]; exact hu))

theorem enc_covers (c : Id → Desc) (p : Proto) (d : Desc) (s : St) (hcl : Closed c s.tbl)
    (hc : ∀ u ∈ subs d, c u.id = u) :
    Closed c (enc p dn s d).tbl ∧ ∀ u ∈ subs d, u.id ∈ (enc p dn s d).tbl := by
  have h := enc_preserves (dn := dn) (closed_kept c p) d s hc hcl
  exact ⟨h, fun u hu => h _ (enc_mem p d s) u (by rw [hc d (self_mem_subs d)]; exact hu)⟩

theorem encL_covers (c : Id → Desc) (p : Proto) : ∀ (ds : List Desc) (s : St), Closed c s.tbl →
    (∀ u ∈ subsL ds, c u.id = u) →
    Closed c (encL p dn s ds).tbl ∧ ∀ u ∈ subsL ds, u.id ∈ (encL p dn s ds).tbl := by
  intro ds s hcl hc
  have h := encL_preserves (dn := dn) (closed_kept c p) ds s hc hcl
  refine ⟨h, fun u hu => ?_⟩
  obtain ⟨k, hk, hu⟩ := mem_subsL_iff.mp hu
  exact h _ (encL_mem p ds s k hk) u (by rw [hc k (mem_subsL_self hk)]; exact hu)

/-- **de-duplication**: the table lists every distinct sub-descriptor id exactly once -/
theorem dedupe (p : Proto) (d : Desc) (hf : IdFaithful d) :
    (enc p dn {} d).tbl.Nodup ∧ ∀ i, i ∈ (enc p dn {} d).tbl ↔ ∃ u ∈ subs d, u.id = i :=
  ⟨enc_preserves (nodup_kept p) d {} (fun _ _ => trivial) List.nodup_nil, fun i =>
    ⟨fun hi => ((enc_grows p d {}).2 i hi).resolve_left List.not_mem_nil, fun ⟨u, hu, e⟩ =>
      e ▸ (enc_covers (canon d) p d {} nofun (canon_spec hf)).2 u hu⟩⟩

theorem Desc.eq_of_beq (a : Desc) : ∀ b, Desc.beq a b = true → a = b := by
  induction a using Desc.rec (motive_2 := fun as => ∀ bs, Desc.beqL as bs = true → as = bs) with
  | mk h pre post ih1 ih2 =>
    intro ⟨h', pre', post'⟩ e
    rw [Desc.beq, Bool.and_eq_true, Bool.and_eq_true, beq_iff_eq] at e
    rw [e.1.1, ih1 _ e.1.2, ih2 _ e.2]
  | nil =>
    rename_i bs e
    cases bs with
    | nil => rfl
    | cons => cases e
  | cons a as iha ihas =>
    rename_i bs e
    cases bs with
    | nil => cases e
    | cons b bs =>
      rw [Desc.beqL, Bool.and_eq_true] at e
      rw [iha _ e.1, ihas _ e.2]

/-- what the `idFaithful` bit of the `wf` answer of `Driver/C14` means -/
theorem idFaithful_of_check {d : Desc} (h : idFaithfulB d = true) : IdFaithful d := fun u hu v hv e =>
  Desc.eq_of_beq u v <| (Bool.or_eq_true_iff.1
    (List.all_eq_true.1 (List.all_eq_true.1 h u hu) v hv)).resolve_left (by simp [e])

def exI64 : Desc := .mk ⟨.scalar, [0,0,0,0,0,0,0,0,0,0,0,0,0,0,1,5], some ⟨[105], true⟩⟩ [] []
def exStr : Desc := .mk ⟨.scalar, [0,0,0,0,0,0,0,0,0,0,0,0,0,0,1,1], some ⟨[115], true⟩⟩ [] []
/-- `tuple<a: int64, b: str, c: int64>` under protocol ≥ 2.0: `int64` occurs twice -/
def exTuple : Desc :=
  .mk ⟨.namedTuple [[97], [98], [99]], [7,7,7,7,7,7,7,7,7,7,7,7,7,7,7,7], some ⟨[116], false⟩⟩
    [exI64, exStr, exI64] []

theorem subs_exTuple : subs exTuple = [exTuple, exI64, exStr, exI64] := rfl

theorem exTuple_wf : WFDesc .v2 exTuple where
  nodes := by decide +kernel
  fits := by decide +kernel
  faithful := idFaithful_of_check (by decide +kernel)

theorem exTuple_decodable : Decodable exTuple := by
  intro u hu n
  rw [subs_exTuple] at hu
  simp only [List.mem_cons, List.not_mem_nil, or_false] at hu
  rcases hu with rfl | rfl | rfl | rfl <;> nofun

/-- `scalar myint extending int64` below protocol 2.0 -/
def exDerived : Desc :=
  .mk ⟨.scalar, [9,9,9,9,9,9,9,9,9,9,9,9,9,9,9,9], none⟩ []
    [.mk ⟨.baseScalar, [0,0,0,0,0,0,0,0,0,0,0,0,0,0,1,5], none⟩ [] []]

theorem subs_exDerived : subs exDerived = [exDerived, .mk ⟨.baseScalar, exI64.id, none⟩ [] []] := rfl

theorem exDerived_wf : WFDesc .v1 exDerived where
  nodes := by decide +kernel
  fits := by decide +kernel
  faithful := idFaithful_of_check (by decide +kernel)

theorem exDerived_decodable : Decodable exDerived := by
  intro u hu n
  rw [subs_exDerived] at hu
  simp only [List.mem_cons, List.not_mem_nil, or_false] at hu
  rcases hu with rfl | rfl <;> nofun

end EdbVerif.Desc
