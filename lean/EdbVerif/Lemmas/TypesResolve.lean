/-
C12 — overload resolution (`polyres.find_callable`): what it selects, and that the selection
does not depend on the order in which the schema hands out the overloads.
-/
import EdbVerif.Model.TypesSpec

namespace EdbVerif.Types
open EdbVerif.Gen.Types

theorem keepMin_ne_nil {α} (key : α → Int) (x : α) (xs : List α) : keepMin key (x :: xs) ≠ [] := by
  simp only [keepMin]
  split
  · simp
  · rename_i h
    split
    · simp
    · split
      · simp
      · simp [h]

theorem keepMin_eq_filter {α} (key : α → Int) (l : List α) :
    keepMin key l = l.filter fun x => l.all fun y => decide (key x ≤ key y) := by
  induction l with
  | nil => rfl
  | cons x xs ih =>
    have hmem : ∀ z, z ∈ keepMin key xs ↔ z ∈ xs ∧ ∀ y ∈ xs, key z ≤ key y := by
      intro z; rw [ih]; simp [List.mem_filter, List.all_eq_true]
    -- the minima of `x :: xs` are `x`, if it is below `xs`, and the minima of `xs` that are below `x`
    have hr : (x :: xs).filter (fun z => (x :: xs).all fun y => decide (key z ≤ key y)) =
        (if (xs.all fun y => decide (key x ≤ key y)) then [x] else []) ++
          (keepMin key xs).filter fun z => decide (key z ≤ key x) := by
      rw [ih, List.filter_filter]
      simp only [List.filter_cons, List.all_cons, Int.le_refl, decide_true, Bool.true_and]
      split <;> rfl
    rw [hr]
    simp only [keepMin]
    split
    · rename_i h
      cases xs with
      | nil => rfl
      | cons a as => exact absurd h (keepMin_ne_nil key a as)
    · rename_i y r h
      have hy : y ∈ xs ∧ ∀ w ∈ xs, key y ≤ key w := (hmem y).1 (by simp [h])
      -- the minima of `xs` all have the key of `y`
      have hk : ∀ z ∈ y :: r, key z = key y := fun z hz =>
        Int.le_antisymm (((hmem z).1 (h ▸ hz)).2 y hy.1) (hy.2 z ((hmem z).1 (h ▸ hz)).1)
      have hx : (xs.all fun w => decide (key x ≤ key w)) = decide (key x ≤ key y) := by
        rw [Bool.eq_iff_iff]
        simp only [List.all_eq_true, decide_eq_true_eq]
        exact ⟨fun hx => hx y hy.1, fun hx w hw => Int.le_trans hx (hy.2 w hw)⟩
      rw [hx, h]
      split
      · rename_i h1
        rw [decide_eq_true (Int.le_of_lt h1), List.filter_eq_nil_iff.2]
        · rfl
        · intro z hz; rw [hk z hz]; simpa using h1
      · rw [List.filter_eq_self.2 fun z hz => by rw [hk z hz]; simp; omega]
        split
        · rename_i h2; simp [h2]
        · have : ¬ key x ≤ key y := by omega
          simp [this]

theorem mem_keepMin {α} (key : α → Int) (l : List α) (x : α) :
    x ∈ keepMin key l ↔ x ∈ l ∧ ∀ y ∈ l, key x ≤ key y := by
  rw [keepMin_eq_filter]; simp [List.mem_filter, List.all_eq_true]

theorem keepMin_perm {α} (key : α → Int) {l l' : List α} (h : l.Perm l') :
    (keepMin key l).Perm (keepMin key l') := by
  rw [keepMin_eq_filter, keepMin_eq_filter]
  have e : (fun x => l.all fun y => decide (key x ≤ key y)) =
      (fun x => l'.all fun y => decide (key x ≤ key y)) := by
    funext x
    rw [Bool.eq_iff_iff]
    simp only [List.all_eq_true, decide_eq_true_eq]
    exact ⟨fun hx y hy => hx y (h.mem_iff.2 hy), fun hx y hy => hx y (h.mem_iff.1 hy)⟩
  rw [e]
  exact h.filter _

theorem Better.trans {a b c : Bound} (h1 : Better a b) (h2 : Better b c) : Better a c := by
  unfold Better at *; omega

theorem Better.total (a b : Bound) : Better a b ∨ Better b a := by
  unfold Better; omega

/-- the two selections of `find_callable`; with at most one candidate of minimal distance the
    second changes nothing, so the test on the length need not be looked at -/
theorem findCallable_eq (cands : List Callable) (args : List Ty) :
    findCallable cands args =
      keepMin (·.tdist) (keepMin (fun b : Bound => (b.dist : Int)) (boundCands cands args)) := by
  unfold findCallable boundCands
  simp only
  generalize keepMin (fun b : Bound => (b.dist : Int)) _ = m
  split
  · rename_i hl
    match m, hl with
    | [], _ => rfl
    | [x], _ => rfl
    | _ :: _ :: _, hl => simp at hl
  · rfl

/-- **find_callable** returns exactly the bound overloads that are minimal for
    (total implicit-cast distance, then total common-parent distance) -/
theorem mem_findCallable (cands : List Callable) (args : List Ty) (b : Bound) :
    b ∈ findCallable cands args ↔
      b ∈ boundCands cands args ∧ ∀ b' ∈ boundCands cands args, Better b b' := by
  generalize hbd : boundCands cands args = bound
  have hK : ∀ x, x ∈ keepMin (fun b : Bound => (b.dist : Int)) bound ↔
      x ∈ bound ∧ ∀ y ∈ bound, x.dist ≤ y.dist := by
    intro x; simp only [mem_keepMin, Int.ofNat_le]
  rw [findCallable_eq, hbd, mem_keepMin, hK]
  constructor
  · rintro ⟨⟨hb, hmin⟩, htd⟩
    refine ⟨hb, fun b' hb' => ?_⟩
    have h1 := hmin b' hb'
    by_cases hlt : b.dist < b'.dist
    · exact Or.inl hlt
    · have heq : b.dist = b'.dist := by omega
      exact Or.inr ⟨heq, htd b' ((hK b').2 ⟨hb', fun y hy => heq ▸ hmin y hy⟩)⟩
  · rintro ⟨hb, hmin⟩
    refine ⟨⟨hb, fun y hy => ?_⟩, fun y hy => ?_⟩
    · have := hmin y hy
      unfold Better at this
      omega
    · have hy' := (hK y).1 hy
      have h1 := hmin y hy'.1
      have h2 := hy'.2 b hb
      unfold Better at h1
      omega

theorem findCallable_singleton {cands : List Callable} {args : List Ty} (b : Bound)
    (h : findCallable cands args = [b]) :
    b ∈ boundCands cands args ∧
    ∀ b' ∈ boundCands cands args, Better b b' ∧ (Better b' b → b' = b) := by
  have hb : b ∈ findCallable cands args := by rw [h]; simp
  have hb' := (mem_findCallable cands args b).1 hb
  refine ⟨hb'.1, fun b' hb'' => ⟨hb'.2 b' hb'', fun hbet => ?_⟩⟩
  have : b' ∈ findCallable cands args := by
    rw [mem_findCallable]
    exact ⟨hb'', fun y hy => Better.trans hbet (hb'.2 y hy)⟩
  rw [h] at this
  simpa using this

theorem findCallable_tie {cands : List Callable} {args : List Ty} {x y : Bound}
    (hx : x ∈ findCallable cands args) (hy : y ∈ findCallable cands args) :
    x.dist = y.dist ∧ x.tdist = y.tdist := by
  rw [mem_findCallable] at hx hy
  have h1 := hx.2 y hy.1
  have h2 := hy.2 x hx.1
  unfold Better at h1 h2
  omega

theorem findCallable_perm {cands cands' : List Callable} (args : List Ty) (h : cands.Perm cands') :
    (findCallable cands args).Perm (findCallable cands' args) := by
  rw [findCallable_eq, findCallable_eq]
  exact keepMin_perm _ (keepMin_perm _ (h.filterMap _))

theorem pick_perm {l l' : List Bound} (h : l.Perm l') : pick l = pick l' := by
  match l, l', h with
  | [], l', h => rw [List.nil_perm.1 h]
  | [b], l', h =>
    have := List.perm_singleton.1 h.symm
    rw [this]
  | a :: b :: r, l', h =>
    have hl := h.length_eq
    match l', hl with
    | [], hl => simp at hl
    | [_], hl => simp at hl
    | a' :: b' :: r', hl =>
      simp only [pick]
      rw [hl]

/-- the second half of `C12.resolve_det` -/
theorem resolve_order_independent {cands cands' : List Callable} (args : List Ty) (h : cands.Perm cands') :
    pick (findCallable cands args) = pick (findCallable cands' args) :=
  pick_perm (findCallable_perm args h)

theorem pick_eq_ok {l : List Bound} {b : Bound} (h : pick l = .ok b) : l = [b] := by
  match l, h with
  | [x], h => simp only [pick, Res.ok.injEq] at h; rw [h]
  | [], h => simp [pick] at h
  | _ :: _ :: _, h => simp [pick] at h

end EdbVerif.Types
