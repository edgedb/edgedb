/- List facts that core, `Mathlib.Data.List.Nodup` and the shared `ListAux` / `Keyed` lack. -/
import Mathlib.Data.List.Nodup
import EdbVerif.Lemmas.Keyed

namespace EdbVerif.Schema

theorem not_contains {α} [BEq α] [LawfulBEq α] {l : List α} {a : α} : l.contains a = false ↔ a ∉ l := by
  rw [← Bool.not_eq_true, List.contains_iff_mem]

theorem map_fst_pair {α β} (g : α → β) (L : List α) : (L.map (fun x => (x, g x))).map (·.1) = L := by
  rw [List.map_map]
  exact List.map_id _

theorem filterMap_sublist_map {α β γ} {f : α → Option β} (g : α → γ) (k : β → γ)
    (h : ∀ a b, f a = some b → k b = g a) (l : List α) :
    ((l.filterMap f).map k).Sublist (l.map g) := by
  induction l with
  | nil => exact .slnil
  | cons a as ih =>
    rw [List.filterMap_cons, List.map_cons]
    cases hf : f a with
    | none => exact ih.cons _
    | some b =>
      rw [List.map_cons, h a b hf]
      exact ih.cons_cons _

theorem filterMap_find?_map {α β : Type} [DecidableEq β] (k : α → β) (l : List α) (h : (l.map k).Nodup) :
    (l.map k).filterMap (fun x => l.find? (fun c => k c == x)) = l := by
  rw [List.filterMap_map]
  exact (List.filterMap_congr fun c hc => Keyed.find_of_mem h hc).trans List.filterMap_some

theorem nodup_flatMap_of_tag {α β γ} {l : List α} {f : α → List β} (ta : α → γ) (tb : β → γ)
    (hl : (l.map ta).Nodup) (htag : ∀ a ∈ l, ∀ b ∈ f a, tb b = ta a)
    (hnd : ∀ a ∈ l, (f a).Nodup) : (l.flatMap f).Nodup := by
  rw [List.nodup_flatMap]
  refine ⟨hnd, (List.pairwise_map.1 hl).imp_of_mem ?_⟩
  intro a a' ha ha' hne x hxa hxa'
  exact hne ((htag a ha x hxa).symm.trans (htag a' ha' x hxa'))

end EdbVerif.Schema
