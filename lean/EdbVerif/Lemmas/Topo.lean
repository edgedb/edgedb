/-
C20 topological sort, the theorems about `visit`, `topLoop` and `sortEx`: the recursion bound
`g.length + 1` is never exhausted; the state invariant of the DFS; an error names an item on a
cycle of hard ∪ control edges; with all edges acyclic no call fails and soft edges are honoured; what a caller
that sorts a list by position reads off the result (`posGraph`, `sortEx_posGraph`).
-/
import Mathlib.Logic.Relation
import Mathlib.Data.List.Nodup
import EdbVerif.Lemmas.TopoAux

namespace EdbVerif.Topo

/-- The fuel left covers the keys not yet on the DFS stack `vis`. -/
def Enough (g : Graph) (fuel : Nat) (vis : List Nat) : Prop :=
  vis.Nodup ∧ vis ⊆ g.keys ∧ g.length + 1 ≤ fuel + vis.length

theorem Enough.pos {g : Graph} {fuel : Nat} {vis : List Nat} (h : Enough g fuel vis) :
    ∃ f, fuel = f + 1 := by
  obtain ⟨hn, hs, hl⟩ := h
  have := List.Nodup.length_le_of_subset hn hs
  rw [keys_length] at this
  cases fuel with
  | zero => omega
  | succ f => exact ⟨f, rfl⟩

theorem Enough.child {g : Graph} {f : Nat} {vis : List Nat} {item : Nat}
    (h : Enough g (f + 1) vis) (hni : item ∉ vis) (hk : item ∈ g.keys) :
    Enough g f (vis ++ [item]) := by
  obtain ⟨hn, hs, hl⟩ := h
  refine ⟨ListAux.nodup_snoc.2 ⟨hni, hn⟩,
    List.append_subset.2 ⟨hs, List.cons_subset.2 ⟨hk, List.nil_subset _⟩⟩, ?_⟩
  rw [List.length_append, List.length_singleton]
  omega

theorem Enough.nil {g : Graph} {fuel : Nat} (h : g.length + 1 ≤ fuel) : Enough g fuel [] :=
  ⟨List.nodup_nil, List.nil_subset _, h⟩

theorem visit_fuel_ge {g : Graph} {f f' : Nat} {vis : List Nat} (h : Enough g f vis) (hle : f ≤ f')
    (w item : Nat) (fc wl : Bool) (st : St) :
    visit g f' vis w item fc wl st = visit g f vis w item fc wl st := by
  induction f generalizing f' vis w item fc wl st with
  | zero => exact nomatch h.pos
  | succ f ih =>
    obtain ⟨f', rfl⟩ := Nat.exists_eq_add_one_of_ne_zero (Nat.ne_zero_of_lt hle)
    rw [visit_succ_run g f', visit_succ_run g f]
    by_cases hc : item ∈ vis
    · rw [if_pos hc, if_pos hc]
    · rw [if_neg hc, if_neg hc, run_congr fun k hk s =>
        ih (h.child hc (calls_T hk).src) (Nat.le_of_succ_le_succ hle) _ _ _ _ s]

theorem topLoop_eq_run (g : Graph) (fuel : Nat) (ks : List Nat) :
    topLoop g fuel ks = run (fun _ => false) (fun k s => visit g fuel [] 0 k false false s) ks := by
  induction ks with
  | nil => rfl
  | cons k ks ih => funext st; rw [topLoop, run, ih]; rfl

theorem topLoop_fuel_ge (g : Graph) (fuel : Nat) (hf : g.length + 1 ≤ fuel) (ks : List Nat)
    (st : St) : topLoop g fuel ks st = topLoop g (g.length + 1) ks st := by
  rw [topLoop_eq_run, topLoop_eq_run]
  exact congrFun (run_congr fun k _ s =>
    visit_fuel_ge (Enough.nil (Nat.le_refl _)) hf 0 k false false s) st

theorem visit_visited (g : Graph) (fuel : Nat) (vis : List Nat) (w item : Nat) (fc wl : Bool)
    (st : St) :
    st.visited ⊆ (visit g fuel vis w item fc wl st).1.visited ∧
      ∀ x ∈ (visit g fuel vis w item fc wl st).1.visited, x ∈ st.visited ∨ x ∉ vis := by
  induction fuel generalizing vis w item fc wl st with
  | zero => exact ⟨fun _ h => h, fun _ => Or.inl⟩
  | succ f ih =>
    rcases visit_cases g f vis w item fc wl st with ⟨_, e⟩ | ⟨_, _, e⟩ | ⟨hni, _, e⟩ <;> rw [e]
    · exact ⟨fun _ h => h, fun _ => Or.inl⟩
    · exact ⟨fun _ h => h, fun _ => Or.inl⟩
    · have hs := run_inv (sw := Call.sw)
        (fun s => st.visited ⊆ s.visited ∧ ∀ x ∈ s.visited, x ∈ st.visited ∨ x ∉ vis ++ [item])
        (fun k _ s hs =>
          have h := ih (vis ++ [item]) (wcurOf w wl) k.item k.fc k.wl s
          ⟨hs.1.trans h.1, fun x hx => (h.2 x hx).elim (hs.2 x) Or.inr⟩)
        (l := calls g (wcurOf w wl) item wl) ⟨fun _ h => h, fun _ => Or.inl⟩
      generalize run _ _ _ st = r at hs ⊢
      have hs' := fun x hx => (hs.2 x hx).imp_right fun h hv => h (List.mem_append_left _ hv)
      rcases finish_fst (wcurOf w wl) item fc r with h | h <;> rw [h]
      · exact ⟨hs.1, hs'⟩
      · exact ⟨fun x hx => List.mem_cons_of_mem _ (hs.1 hx), fun x hx =>
          (List.mem_cons.1 hx).elim (fun e => Or.inr (e ▸ hni)) (hs' x)⟩

theorem visit_mono (g : Graph) (fuel : Nat) (vis : List Nat) (w item : Nat) (fc wl : Bool)
    (st : St) : st.visited ⊆ (visit g fuel vis w item fc wl st).1.visited :=
  (visit_visited g fuel vis w item fc wl st).1

theorem visit_notin (g : Graph) (fuel : Nat) (vis : List Nat) (w item : Nat) (fc wl : Bool)
    (st : St) (h0 : ∀ x ∈ vis, x ∉ st.visited) :
    ∀ x ∈ vis, x ∉ (visit g fuel vis w item fc wl st).1.visited :=
  fun x hx hm => ((visit_visited g fuel vis w item fc wl st).2 x hm).elim (h0 x hx) fun h => h hx

/-- `visiting_weak` is empty (`w = 0`) in a call that no weak link leads to -/
def Ctx (w : Nat) (wl : Bool) : Prop := wl = false → w = 0

theorem Ctx.hardChild {w : Nat} {wl : Bool} (h : Ctx w wl) : Ctx (wcurOf w wl) wl := by
  intro hwl; simp [wcurOf, hwl, h hwl]

theorem Ctx.noSwallow {w : Nat} {wl : Bool} (h : Ctx w wl) : wcurOf (wcurOf w wl) wl ≠ 1 := by
  cases wl
  · simp [wcurOf, h rfl]
  · simp [wcurOf]

/-- A call that is not an outermost weak frame, returns without error and is not
    `for_control` leaves its item visited. -/
theorem visit_none_visited {g : Graph} {f : Nat} {vis : List Nat} {w item : Nat} {wl : Bool}
    {st : St} (hw : wcurOf w wl ≠ 1)
    (h : (visit g (f + 1) vis w item false wl st).2 = none) :
    item ∈ (visit g (f + 1) vis w item false wl st).1.visited := by
  rcases visit_cases g f vis w item false wl st with ⟨_, e⟩ | ⟨_, hv, e⟩ | ⟨_, _, e⟩ <;>
    rw [e] at h ⊢
  · cases h
  · exact hv
  · revert h
    rcases run _ _ _ st with ⟨s, _ | c⟩
    · exact fun _ => List.mem_cons_self
    · simp [finish, hw]

/-- Nothing reachable from `x` over hard ∪ control edges lies on a cycle of them: what a call that
    completes certifies of its item, and what `sortEx_cycle_iff` (⇐) turns on. -/
def Acyc (g : Graph) (x : Nat) : Prop :=
  ∀ z, Relation.ReflTransGen (R g) x z → ¬ Relation.TransGen (R g) z z

theorem acyc_of_children {g : Graph} (hwf : WF g) {item : Nat}
    (hh : ∀ n ∈ adj g item, Acyc g n) (hc : ∀ n ∈ ctrl g item, Acyc g n) : Acyc g item := by
  have hchild : ∀ y, R g item y → Acyc g y := by
    intro y hy
    rcases hy with hy | hy
    · exact hh y (hard_mem_adj hwf hy)
    · exact hc y (ctrl_mem_ctrl hwf hy)
  intro z hz hcyc
  rcases Relation.ReflTransGen.cases_head hz with rfl | ⟨y, hy, hyz⟩
  · obtain ⟨y, hy, hyz⟩ := Relation.TransGen.head'_iff.1 hcyc
    exact hchild y hy _ hyz hcyc
  · exact hchild y hy z hyz hcyc

def Ordered (ch : Nat → List Nat) (o : List Nat) : Prop :=
  ∀ a ∈ o, ∀ b ∈ ch a, o.idxOf b < o.idxOf a

theorem Ordered.push {ch : Nat → List Nat} {o : List Nat} {item : Nat} (h : Ordered ch o)
    (hni : item ∉ o) (hch : ∀ b ∈ ch item, b ∈ o) : Ordered ch (o ++ [item]) := by
  intro a ha b hb
  rcases List.mem_append.1 ha with ha | ha
  · have hlt := h a ha b hb
    have hbo : b ∈ o := List.idxOf_lt_length_iff.1 (Nat.lt_of_lt_of_le hlt List.idxOf_le_length)
    rwa [List.idxOf_append_of_mem ha, List.idxOf_append_of_mem hbo]
  · obtain rfl := List.mem_singleton.1 ha
    rw [List.idxOf_append_of_mem (hch b hb), List.idxOf_append_of_notMem hni]
    exact Nat.lt_of_lt_of_le (List.idxOf_lt_length_of_mem (hch b hb)) (Nat.le_add_right _ _)

/-- The state between calls: `order` is `visited` in order of completion, each key once (`ord`,
    `nodup`, `sub`); hard children come first (`hard`); every visited item is certified (`acyc`). -/
structure Inv (g : Graph) (st : St) : Prop where
  ord : st.order = st.visited.reverse
  nodup : st.visited.Nodup
  sub : st.visited ⊆ g.keys
  hard : Ordered (adj g) st.order
  acyc : ∀ x ∈ st.visited, Acyc g x

theorem Inv.mem_order {g : Graph} {st : St} (h : Inv g st) {x : Nat} :
    x ∈ st.order ↔ x ∈ st.visited := by rw [h.ord, List.mem_reverse]

theorem Inv.init (g : Graph) : Inv g {} :=
  ⟨rfl, List.nodup_nil, List.nil_subset _, (fun _ h => nomatch h), fun _ h => nomatch h⟩

theorem Inv.push {g : Graph} {s : St} {item : Nat} (h : Inv g s) (hni : item ∉ s.visited)
    (hk : item ∈ g.keys) (hch : ∀ b ∈ adj g item, b ∈ s.visited) (hac : Acyc g item) :
    Inv g (push item s) where
  ord := by rw [Topo.push, h.ord, List.reverse_cons]
  nodup := List.nodup_cons.2 ⟨hni, h.nodup⟩
  sub := List.cons_subset.2 ⟨hk, h.sub⟩
  hard := h.hard.push (fun hm => hni (h.mem_order.1 hm)) fun b hb => h.mem_order.2 (hch b hb)
  acyc := List.forall_mem_cons.2 ⟨hac, h.acyc⟩

theorem calls_ctx {g : Graph} {w item : Nat} {wl : Bool} {k : Call} (h : Ctx w wl)
    (hk : k ∈ calls g (wcurOf w wl) item wl) : Ctx (wcurOf w wl) k.wl := by
  rcases mem_calls.1 hk with ⟨n, _, rfl⟩ | ⟨n, _, rfl⟩ | ⟨n, _, rfl⟩
  · exact nofun
  · exact h.hardChild
  · exact h.hardChild

theorem calls_sw {g : Graph} {wcur item : Nat} {wl : Bool} {k : Call}
    (hk : k ∈ calls g wcur item wl) (hsw : k.sw = true) : wcurOf wcur k.wl = 1 := by
  rcases mem_calls.1 hk with ⟨n, _, rfl⟩ | ⟨n, _, rfl⟩ | ⟨n, _, rfl⟩
  · simp only [beq_iff_eq] at hsw
    simp [wcurOf, hsw]
  · cases hsw
  · cases hsw

theorem visit_inv {g : Graph} (hwf : WF g) (fuel : Nat) (vis : List Nat) (w item : Nat)
    (fc wl : Bool) (st : St) (he : Enough g fuel vis) (hk : item ∈ g.keys) (hctx : Ctx w wl)
    (hinv : Inv g st) (hvis : ∀ x ∈ vis, x ∉ st.visited) :
    Inv g (visit g fuel vis w item fc wl st).1 ∧
      ((visit g fuel vis w item fc wl st).2 = none → wcurOf w wl ≠ 1 → Acyc g item) := by
  induction fuel generalizing vis w item fc wl st with
  | zero => exact nomatch he.pos
  | succ f ih =>
    rcases visit_cases g f vis w item fc wl st with ⟨_, e⟩ | ⟨_, hv, e⟩ | ⟨hni, hnv, e⟩ <;> rw [e]
    · exact ⟨hinv, fun h => nomatch h⟩
    · exact ⟨hinv, fun _ _ => hinv.acyc item hv⟩
    · have he' := he.child hni hk
      -- a hard or control child that returned is acyclic, a hard one also visited
      obtain ⟨s, ⟨hs, hsv⟩, ⟨e', hC⟩ | ⟨c, e', _⟩⟩ := run_rule (sw := Call.sw)
        (f := fun k s => visit g f (vis ++ [item]) (wcurOf w wl) k.item k.fc k.wl s)
        (fun s => Inv g s ∧ ∀ x ∈ vis ++ [item], x ∉ s.visited)
        (fun k s => wcurOf (wcurOf w wl) k.wl ≠ 1 →
          Acyc g k.item ∧ (k.fc = false → k.item ∈ s.visited))
        (fun a b s hC hne => ⟨(hC hne).1, fun h => visit_mono g _ _ _ _ _ _ _ ((hC hne).2 h)⟩)
        (l := calls g (wcurOf w wl) item wl)
        (by
          rintro ⟨n, fc', wl', sw'⟩ hk s hs
          have := ih _ _ n fc' wl' s he' (calls_T hk).tgt (calls_ctx hctx hk) hs.1 hs.2
          refine ⟨⟨this.1, visit_notin g _ _ _ _ _ _ _ hs.2⟩, fun hor hne => ?_⟩
          have hnone := hor.resolve_right (fun hsw => hne (calls_sw hk hsw))
          refine ⟨this.2 hnone hne, ?_⟩
          rintro rfl
          obtain ⟨f', rfl⟩ := he'.pos
          exact visit_none_visited hne hnone)
        (st := st) ⟨hinv, ListAux.forall_mem_snoc hvis hnv⟩
      · rw [e']
        -- a hard or control child is never an outermost weak frame (`noSwallow`): the guard `wcurOf … ≠ 1` holds
        have hh := fun n hn => hC ⟨n, false, wl, false⟩
          (mem_calls.2 (Or.inr (Or.inl ⟨n, hn, rfl⟩))) hctx.noSwallow
        have hac : Acyc g item := acyc_of_children hwf (fun n hn => (hh n hn).1)
          (fun n hn => (hC ⟨n, true, wl, false⟩
            (mem_calls.2 (Or.inr (Or.inr ⟨n, hn, rfl⟩))) hctx.noSwallow).1)
        cases fc
        · exact ⟨hs.push (hsv item (by simp)) hk (fun b hb => (hh b hb).2 rfl) hac,
            fun _ _ => hac⟩
        · exact ⟨hs, fun _ _ => hac⟩
      · rw [e']
        simp only [finish]
        split
        · rename_i h1
          exact ⟨hs, fun _ hne => absurd (by simpa using h1) hne⟩
        · exact ⟨hs, fun h => nomatch h⟩

theorem link_snoc {r : Nat → Nat → Prop} {vis : List Nat} {item n : Nat}
    (h : ∀ x ∈ vis, Relation.TransGen r x item) (hn : r item n) :
    ∀ x ∈ vis ++ [item], Relation.TransGen r x n :=
  ListAux.forall_mem_snoc (fun x hx => (h x hx).tail hn) (Relation.TransGen.single hn)

/-- The error was raised when its item was met on the DFS stack, and every frame in between
    passed it on from its `adj` or `loop_control` loop. -/
theorem visit_err_item (g : Graph) (fuel : Nat) (vis : List Nat) (item : Nat) (fc : Bool)
    (st : St) (c : Cyc) (hlink : ∀ x ∈ vis, Relation.TransGen (R g) x item)
    (h : (visit g fuel vis 0 item fc false st).2 = some c) :
    Relation.TransGen (R g) c.item c.item := by
  induction fuel generalizing vis item fc st with
  | zero => cases h
  | succ f ih =>
    rcases visit_cases g f vis 0 item fc false st with ⟨hc, e⟩ | ⟨_, _, e⟩ | ⟨_, _, e⟩ <;>
      rw [e] at h
    · cases h
      exact hlink item hc
    · cases h
    · obtain ⟨k, hk, hsw, s', hc'⟩ := run_err (finish_err h)
      rcases mem_calls.1 hk with ⟨n, _, rfl⟩ | ⟨n, hn, rfl⟩ | ⟨n, hn, rfl⟩
      · cases hsw
      · exact ih _ n false s' (link_snoc hlink (Or.inl (mem_adj hn))) hc'
      · exact ih _ n true s' (link_snoc hlink (Or.inr (mem_ctrl hn))) hc'

theorem visit_err_cyclic (g : Graph) (fuel : Nat) (vis : List Nat) (item : Nat) (fc : Bool)
    (st : St) (c : Cyc) (hlink : ∀ x ∈ vis, Relation.TransGen (R g) x item)
    (h : (visit g fuel vis 0 item fc false st).2 = some c) : Cyclic (R g) :=
  ⟨c.item, visit_err_item g fuel vis item fc st c hlink h⟩

def SoftInv (g : Graph) (vis : List Nat) (s : St) : Prop :=
  Ordered (weakAdj g) s.visited.reverse ∧ ∀ x ∈ vis, x ∉ s.visited

/-- No call fails (an error needs the item on the DFS stack, a chain of edges into it), so
    every frame sees its weak children visited before it appends its item. -/
theorem visit_soft {g : Graph} (hac : ¬ Cyclic (T g)) (fuel : Nat)
    (vis : List Nat) (w item : Nat) (fc wl : Bool) (st : St) (he : Enough g fuel vis)
    (hk : item ∈ g.keys) (hst : SoftInv g vis st)
    (hlink : ∀ x ∈ vis, Relation.TransGen (T g) x item) :
    SoftInv g vis (visit g fuel vis w item fc wl st).1 ∧
      (visit g fuel vis w item fc wl st).2 = none ∧
      (fc = false → item ∈ (visit g fuel vis w item fc wl st).1.visited) := by
  induction fuel generalizing vis w item fc wl st with
  | zero => exact nomatch he.pos
  | succ f ih =>
    suffices h : Ordered (weakAdj g) (visit g (f + 1) vis w item fc wl st).1.visited.reverse ∧
        (visit g (f + 1) vis w item fc wl st).2 = none ∧
        (fc = false → item ∈ (visit g (f + 1) vis w item fc wl st).1.visited) from
      ⟨⟨h.1, visit_notin g (f + 1) vis w item fc wl st hst.2⟩, h.2⟩
    rcases visit_cases g f vis w item fc wl st with ⟨hc, _⟩ | ⟨_, hv, e⟩ | ⟨hni, hnv, e⟩
    · exact absurd ⟨item, hlink item hc⟩ hac
    · rw [e]
      exact ⟨hst.1, rfl, fun _ => hv⟩
    · rw [e]
      obtain ⟨s, hs, e', hC⟩ := run_ok (sw := Call.sw) (SoftInv g (vis ++ [item]))
        (fun k s => k.fc = false → k.item ∈ s.visited)
        (fun a b s hC h => visit_mono g _ _ _ _ _ _ _ (hC h))
        (fun (k : Call) hk' s hs => ih (vis ++ [item]) (wcurOf w wl) k.item k.fc k.wl s
          (he.child hni hk) (calls_T hk').tgt hs (link_snoc hlink (calls_T hk')))
        (st := st) ⟨hst.1, ListAux.forall_mem_snoc hst.2 hnv⟩
      rw [e']
      cases fc
      · refine ⟨?_, rfl, fun _ => List.mem_cons_self⟩
        show Ordered (weakAdj g) (item :: s.visited).reverse
        rw [List.reverse_cons]
        exact hs.1.push (fun hm => hs.2 item (by simp) (List.mem_reverse.1 hm)) fun b hb =>
          List.mem_reverse.2 (hC ⟨b, false, true, wcurOf w wl == 0⟩
            (mem_calls.2 (Or.inl ⟨b, hb, rfl⟩)) rfl)
      · exact ⟨hs.1, rfl, fun h => Bool.noConfusion h⟩

theorem topLoop_spec {g : Graph} (hwf : WF g) {fuel : Nat} (hf : g.length + 1 ≤ fuel)
    {ks : List Nat} (hks : ks ⊆ g.keys) {st : St} (hinv : Inv g st) :
    Inv g (topLoop g fuel ks st).1 ∧
      ((topLoop g fuel ks st).2 = none → ∀ k ∈ ks, k ∈ (topLoop g fuel ks st).1.visited) := by
  obtain ⟨f, rfl⟩ := (Enough.nil (g := g) hf).pos
  rw [topLoop_eq_run]
  obtain ⟨s, hs, ⟨e, h⟩ | ⟨c, e, _⟩⟩ := run_rule (sw := fun _ => false)
    (f := fun k s => visit g (f + 1) [] 0 k false false s) (Inv g) (fun k s => k ∈ s.visited)
    (fun a b s h => visit_mono g _ _ _ _ _ _ _ h) (l := ks)
    (fun k hk s hs => ⟨(visit_inv hwf _ [] 0 k false false s (Enough.nil hf) (hks hk)
        (fun _ => rfl) hs (fun _ h => nomatch h)).1,
      fun h => visit_none_visited (by decide) (h.resolve_right (fun h => nomatch h))⟩)
    hinv <;> rw [e]
  · exact ⟨hs, fun _ => h⟩
  · exact ⟨hs, fun h => nomatch h⟩

theorem topLoop_err {g : Graph} {fuel : Nat} {ks : List Nat} {st : St} {c : Cyc}
    (h : (topLoop g fuel ks st).2 = some c) : Relation.TransGen (R g) c.item c.item := by
  rw [topLoop_eq_run] at h
  obtain ⟨k, _, _, s, hc⟩ := run_err h
  exact visit_err_item g fuel [] k false s c (fun _ h => nomatch h) hc

theorem topLoop_soft {g : Graph} (hac : ¬ Cyclic (T g)) {fuel : Nat}
    (hf : g.length + 1 ≤ fuel) {ks : List Nat} (hks : ks ⊆ g.keys) {st : St}
    (hst : SoftInv g [] st) :
    ∃ s, SoftInv g [] s ∧ topLoop g fuel ks st = (s, none) ∧ ∀ k ∈ ks, k ∈ s.visited := by
  rw [topLoop_eq_run]
  exact run_ok (SoftInv g []) (fun k s => k ∈ s.visited)
    (fun a b s h => visit_mono g _ _ _ _ _ _ _ h)
    (fun k hk s hs => (visit_soft hac fuel [] 0 k false false s (Enough.nil hf) (hks hk)
      hs (fun _ h => nomatch h)).imp_right (And.imp_right fun h => h rfl))
    hst

theorem sortEx_resolved {g : Graph} {allow : Bool} (hr : Resolved g allow) :
    sortEx g allow =
      match topLoop g (g.length + 1) g.keys {} with
      | (st, none) => .ok st.order
      | (_, some c) => .cycle c.item c.path := by
  unfold sortEx
  rcases hr with rfl | h
  · rfl
  · rw [h]
    cases allow <;> rfl

theorem sortEx_ok {g : Graph} {allow : Bool} {o : List Nat} (h : sortEx g allow = .ok o) :
    ∃ st, topLoop g (g.length + 1) g.keys {} = (st, none) ∧ o = st.order := by
  unfold sortEx at h
  split at h
  · cases h
  · split at h <;> cases h
    exact ⟨_, ‹_›, rfl⟩

theorem sortEx_cycle {g : Graph} {allow : Bool} {i : Nat} {p : List Nat}
    (h : sortEx g allow = .cycle i p) : Relation.TransGen (R g) i i := by
  unfold sortEx at h
  split at h
  · cases h
  · split at h <;> cases h
    exact topLoop_err (congrArg Prod.snd ‹_›)

theorem sortEx_ok_inv {g : Graph} (hwf : WF g) {allow : Bool} {o : List Nat}
    (h : sortEx g allow = .ok o) :
    ∃ st, Inv g st ∧ o = st.order ∧ ∀ k, k ∈ st.visited ↔ k ∈ g.keys := by
  obtain ⟨st, ht, ho⟩ := sortEx_ok h
  have := topLoop_spec hwf (Nat.le_refl _) (List.Subset.refl g.keys) (Inv.init g)
  rw [ht] at this
  exact ⟨st, this.1, ho, fun k => ⟨fun hk => this.1.sub hk, this.2 rfl k⟩⟩

theorem sortEx_perm (g : Graph) (allow : Bool) (o : List Nat) (hwf : WF g)
    (h : sortEx g allow = .ok o) : o.Perm g.keys := by
  obtain ⟨st, hinv, rfl, hall⟩ := sortEx_ok_inv hwf h
  have hnd : st.order.Nodup := by rw [hinv.ord]; exact List.nodup_reverse.2 hinv.nodup
  exact (List.perm_ext_iff_of_nodup hnd hwf).2 (fun a => hinv.mem_order.trans (hall a))

theorem sortEx_hard (g : Graph) (allow : Bool) (o : List Nat) (hwf : WF g)
    (h : sortEx g allow = .ok o) (a b : Nat) (hab : Hard g a b) :
    pos o b < pos o a := by
  obtain ⟨st, hinv, rfl, hall⟩ := sortEx_ok_inv hwf h
  exact hinv.hard a (hinv.mem_order.2 ((hall a).2 hab.src)) b (hard_mem_adj hwf hab)

/-- The graph of a list by position: key `i` stands for `l[i]`, whose hard dependencies are the positions `d l[i]`. -/
def posGraph {α : Type} (d : α → List Nat) (l : List α) : Graph :=
  l.zipIdx.map fun (a, i) => { key := i, deps := d a }

section posGraph
variable {α : Type} {d : α → List Nat} {l : List α}

theorem posGraph_of_aux {aux : Nat → List α → Graph} (h0 : ∀ i, aux i [] = [])
    (h1 : ∀ i a as, aux i (a :: as) = { key := i, deps := d a } :: aux (i + 1) as) (l : List α) :
    aux 0 l = posGraph d l := by
  have : ∀ i l, aux i l = (l.zipIdx i).map fun (a, i) => { key := i, deps := d a } := by
    intro i l
    induction l generalizing i with
    | nil => rw [h0]; rfl
    | cons a as ih => rw [h1, ih, List.zipIdx_cons, List.map_cons]
  exact this 0 l

theorem posGraph_keys (d : α → List Nat) (l : List α) :
    (posGraph d l).keys = List.range' 0 l.length := by
  rw [← List.zipIdx_map_snd 0 l]
  exact List.map_map

theorem posGraph_wf (d : α → List Nat) (l : List α) : WF (posGraph d l) :=
  (congrArg List.Nodup (posGraph_keys d l)).mpr List.nodup_range'

theorem mem_posGraph {e : Entry} :
    e ∈ posGraph d l ↔ ∃ i a, l[i]? = some a ∧ e = { key := i, deps := d a } := by
  simp only [posGraph, List.mem_map, Prod.exists, List.mem_zipIdx_iff_getElem?]
  exact ⟨fun ⟨a, i, h, e⟩ => ⟨i, a, h, e.symm⟩, fun ⟨i, a, h, e⟩ => ⟨a, i, h, e.symm⟩⟩

theorem hard_posGraph_iff {i j : Nat} :
    Hard (posGraph d l) i j ↔ ∃ a, l[i]? = some a ∧ j ∈ d a ∧ j < l.length := by
  have hk : j ∈ (posGraph d l).keys ↔ j < l.length := by
    rw [posGraph_keys, List.mem_range'_1, Nat.zero_add]
    exact and_iff_right (Nat.zero_le j)
  constructor
  · rintro ⟨e, he, rfl, h, hj⟩
    obtain ⟨i, a, ha, rfl⟩ := mem_posGraph.1 he
    exact ⟨a, ha, h.resolve_left nofun, hk.1 hj⟩
  · rintro ⟨a, ha, h, hj⟩
    exact ⟨_, mem_posGraph.2 ⟨i, a, ha, rfl⟩, rfl, Or.inr h, hk.2 hj⟩

theorem not_ctrl_posGraph (i j : Nat) : ¬ Ctrl (posGraph d l) i j := by
  rintro ⟨e, he, _, hc, _⟩
  obtain ⟨_, _, _, rfl⟩ := mem_posGraph.1 he
  cases hc

theorem sortEx_posGraph {allow : Bool} {o : List Nat} (h : sortEx (posGraph d l) allow = .ok o) :
    (o.filterMap (l[·]?)).Perm l ∧
      ∀ pre a suf, o.filterMap (l[·]?) = pre ++ a :: suf →
        ∀ j b, j ∈ d a → l[j]? = some b → b ∈ pre := by
  have hwf := posGraph_wf d l
  have hp := posGraph_keys d l ▸ sortEx_perm _ allow o hwf h
  refine ⟨(hp.filterMap (l[·]?)).trans (.of_eq (ListAux.filterMap_range'_getElem? [] l)), ?_⟩
  intro pre a suf hs j b hj hb
  obtain ⟨l1, l2, rfl, rfl, h2⟩ := List.filterMap_eq_append_iff.1 hs
  obtain ⟨l3, i, l4, rfl, hnone, hi, _⟩ := List.filterMap_eq_cons_iff.1 h2
  have hpos := sortEx_hard _ _ _ hwf h i j
    (hard_posGraph_iff.2 ⟨a, hi, hj, (List.getElem?_eq_some_iff.1 hb).1⟩)
  rw [← List.append_assoc] at hpos
  -- `j` stands before `i` in `o`; between `l1` and `i` only positions outside `l` occur
  rcases List.mem_append.1 (ListAux.mem_of_idxOf_lt hpos) with hj1 | hj1
  · exact List.mem_filterMap.2 ⟨j, hj1, hb⟩
  · exact absurd hb (hnone j hj1 ▸ nofun)

end posGraph

theorem sortEx_cycle_iff (g : Graph) (allow : Bool) (hwf : WF g) (hr : Resolved g allow) :
    (∃ i p, sortEx g allow = .cycle i p) ↔ Cyclic (fun a b => Hard g a b ∨ Ctrl g a b) := by
  constructor
  · rintro ⟨i, p, h⟩
    exact ⟨i, sortEx_cycle h⟩
  · rintro ⟨a, ha⟩
    rw [sortEx_resolved hr]
    rcases ht : topLoop g (g.length + 1) g.keys {} with ⟨st, _ | c⟩
    · -- a successful run has visited `a`, so `a` is on no cycle
      have := topLoop_spec hwf (Nat.le_refl _) (List.Subset.refl g.keys) (Inv.init g)
      rw [ht] at this
      obtain ⟨b, hb, _⟩ := Relation.TransGen.head'_iff.1 ha
      have hak : a ∈ g.keys := hb.elim Hard.src Ctrl.src
      exact absurd ha (this.1.acyc a (this.2 rfl a hak) a Relation.ReflTransGen.refl)
    · exact ⟨c.item, c.path, rfl⟩

theorem sortEx_soft (g : Graph) (allow : Bool) (hwf : WF g) (hr : Resolved g allow)
    (hac : ¬ Cyclic (fun a b => Hard g a b ∨ Ctrl g a b ∨ Weak g a b)) :
    ∃ o, sortEx g allow = .ok o ∧ ∀ a b, Weak g a b → pos o b < pos o a := by
  obtain ⟨st, hst, ht, hall⟩ := topLoop_soft (hac : ¬ Cyclic (T g)) (Nat.le_refl _)
    (List.Subset.refl g.keys) (st := {}) ⟨(fun _ (h : _ ∈ []) => nomatch h), fun _ h => nomatch h⟩
  have hinv := (topLoop_spec hwf (Nat.le_refl _) (List.Subset.refl g.keys) (Inv.init g)).1
  rw [ht] at hinv
  rw [sortEx_resolved hr, ht]
  exact ⟨st.order, rfl, fun a b hab => hinv.ord ▸
    hst.1 a (List.mem_reverse.2 (hall a hab.src)) b (weak_mem_weakAdj hwf hab)⟩

theorem firstUnresolved_isSome_iff (g : Graph) :
    (firstUnresolved g).isSome ↔
      ∃ e ∈ g, ∃ d ∈ e.weak ++ e.merge ++ e.deps ++ e.ctrl, d ∉ g.keys := by
  simp only [firstUnresolved, List.findSome?_isSome_iff, Option.isSome_map, List.find?_isSome,
    Bool.not_eq_true', ← Bool.not_eq_true, has_iff]

theorem sortEx_unres_iff (g : Graph) (allow : Bool) :
    (∃ d i, sortEx g allow = .unresolved d i) ↔
      allow = false ∧ ∃ e ∈ g, ∃ d ∈ e.weak ++ e.merge ++ e.deps ++ e.ctrl, d ∉ g.keys := by
  rw [← firstUnresolved_isSome_iff]
  unfold sortEx
  cases allow
  · rcases firstUnresolved g with _ | ⟨d, i⟩
    · rcases topLoop g (g.length + 1) g.keys {} with ⟨st, _ | c⟩ <;> simp
    · simp
  · rcases topLoop g (g.length + 1) g.keys {} with ⟨st, _ | c⟩ <;> simp

end EdbVerif.Topo
