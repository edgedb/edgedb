/-
Auxiliary lemmas for the MiniQL theorems: sizes of the bags `eval` builds (`dedup`, `tupProd`, `flatMap`,
`callArgs`, parameters and constant sets) and the cardinality rule of calls (`stdCall_sound`).
-/
import EdbVerif.Model.MiniQLSpec
import EdbVerif.Lemmas.Card
import EdbVerif.Lemmas.ListAux

namespace EdbVerif.MiniQL
open EdbVerif.Gen.Card EdbVerif.Card

theorem dedup_length_le (l : List Val) : (dedup l).length ≤ l.length :=
  (ListAux.dedup_sublist rfl (fun _ _ => rfl) l).length_le

theorem dedup_nodup (l : List Val) : (dedup l).Nodup :=
  ListAux.dedup_nodup rfl (fun _ _ => rfl) l

theorem mem_dedup (l : List Val) (v : Val) : v ∈ dedup l ↔ v ∈ l :=
  ListAux.mem_dedup rfl (fun _ _ => rfl)

theorem dedup_length_pos (l : List Val) (h : 1 ≤ l.length) : 1 ≤ (dedup l).length := by
  cases l with
  | nil => simp at h
  | cons x xs => simp [dedup]

theorem tupProd_length (ls : List (List Val)) :
    (tupProd ls).length = natProd (ls.map List.length) := by
  induction ls with
  | nil => rfl
  | cons vs rest ih =>
    simp only [tupProd, List.map_cons, natProd, List.length_flatMap, List.length_map, ih,
      List.map_const', List.sum_replicate_nat]

theorem flatMap_sound {α β : Type} {ci cb : Card} {xs : List α} {f : α → List β}
    (hi : γ ci xs.length) (hb : ∀ x ∈ xs, γ cb (f x).length) :
    γ (cartesianCardinality [cb, ci]) (xs.flatMap f).length := by
  rw [List.length_flatMap]
  exact for_sound (by rwa [List.length_map]) (List.forall_mem_map.2 hb)

theorem maxCard2_eq (a b : Card) : maxCardinality [a, b] = .ok (maxCard2 a b) :=
  rfl

theorem param_len_le (db : DB) (i : Nat) : (db.param i).length ≤ 1 := by
  unfold DB.param
  split <;> simp

theorem param_len_req {sch : Schema} {db : DB} (hc : Conforms sch db) {i : Nat}
    (h : (sch.params[i]?).getD false = true) : (db.param i).length = 1 := by
  have hs : sch.params[i]? = some true := by
    cases hp : sch.params[i]? with
    | none => simp [hp] at h
    | some b => simp [hp] at h; rw [h]
  obtain ⟨n, hn⟩ := hc.params i hs
  simp [DB.param, hn]

theorem evalElem_len_le (db : DB) (e : CElem) : (evalElem db e).length ≤ 1 := by
  cases e with
  | c n => simp [evalElem]
  | p i => exact param_len_le db i

theorem evalElem_len_def {sch : Schema} {db : DB} (hc : Conforms sch db) {e : CElem}
    (h : e.definite sch = true) : (evalElem db e).length = 1 := by
  cases e with
  | c n => simp [evalElem]
  | p i => exact param_len_req hc h

theorem flatMap_len_ge {α β : Type} (l : List α) (f : α → List β) {x : α} (hx : x ∈ l) :
    (f x).length ≤ (l.flatMap f).length :=
  List.flatMap_def .. ▸ (List.sublist_flatten_of_mem (List.mem_map_of_mem hx)).length_le

theorem constVals_eval (db : DB) : ∀ (es : List CElem) (ns : List Int), constVals es = some ns →
    es.flatMap (evalElem db) = ns.map Val.int
  | [], ns, h => by simp [constVals] at h; subst h; rfl
  | .c n :: es, ns, h => by
    simp only [constVals, Option.map_eq_some_iff] at h
    obtain ⟨ms, hms, rfl⟩ := h
    simp [evalElem, constVals_eval db es ms hms]
  | .p _ :: _, ns, h => by simp [constVals] at h

/-- how many alternatives an argument contributes to the iteration of a call -/
def altCount (tm : TypeModifier) (n : Nat) : Nat :=
  match tm with
  | .SetOfType => 1
  | .OptionalType => if n = 0 then 1 else n
  | .SingletonType => n

theorem callArgs_length (l : List (TypeModifier × List Val)) :
    (callArgs l).length = natProd (l.map fun p => altCount p.1 p.2.length) := by
  induction l with
  | nil => rfl
  | cons p rest ih =>
    obtain ⟨tm, vs⟩ := p
    simp only [callArgs, List.map_cons, natProd, List.length_flatMap, List.length_map, ih,
      List.map_const', List.sum_replicate_nat]
    congr 1
    cases tm with
    | SetOfType => rfl
    | OptionalType => cases vs <;> simp [altCount]
    | SingletonType => exact List.length_map _

/-- the non-aggregate argument cardinalities of `_standard_call_cardinality`
    bound the numbers of alternatives (`SET OF` arguments contribute a factor 1
    and no cardinality) -/
theorem stdCallArgs_sound :
    ∀ (params : List TypeModifier) (cards : List Card) (vals : List (List Val)),
      All2 γ cards (vals.map List.length) →
      ∃ ns, Γ (stdCallArgCards (params.zip cards)) ns ∧
        natProd ns = natProd ((params.zip vals).map fun p => altCount p.1 p.2.length)
  | [], _, _, _ => ⟨[], .nil, rfl⟩
  | _ :: _, [], [], _ => ⟨[], .nil, rfl⟩
  | tm :: ps, c :: cs, v :: vs, .cons hc hrest => by
    obtain ⟨ns, hns, hprod⟩ := stdCallArgs_sound ps cs vs hrest
    cases tm with
    | SetOfType => exact ⟨ns, hns, hprod.trans (Nat.one_mul _).symm⟩
    | OptionalType => exact ⟨_ :: ns, .cons (optional_arg_sound hc) hns, congrArg (_ * ·) hprod⟩
    | SingletonType => exact ⟨_ :: ns, .cons hc hns, congrArg (_ * ·) hprod⟩

theorem stdCall_sound (d : FnDecl) (cards : List Card) (vals : List (List Val))
    (h : All2 γ cards (vals.map List.length))
    (hret : ∀ args, γ (typemodToCard d.ret) (d.impl args).length) :
    γ (stdCallCard d.params d.ret cards) ((callArgs (d.params.zip vals)).flatMap d.impl).length := by
  obtain ⟨ns, hns, hprod⟩ := stdCallArgs_sound d.params cards vals h
  rw [List.length_flatMap]
  unfold stdCallCard
  apply sum_sound hns
  · rw [List.length_map, callArgs_length, hprod]
  · intro m hm
    obtain ⟨x, _, rfl⟩ := List.mem_map.1 hm
    exact hret x

end EdbVerif.MiniQL
