/-
`ConfigMemory(m.to_str()) == m` for every non-negative byte count, and the
counterexample for negative ones (which `ConfigMemory(int)` accepts).
-/
import EdbVerif.Lemmas.DurationDigits
import EdbVerif.Model.Memory
namespace EdbVerif.Memory
open EdbVerif.Duration

theorem parseMemory_natDigits (q m : Nat) (c : Char) (r : List Char) (hc : isDigit c = false)
    (hu : unitMult (c :: r) = some m) : parseMemory (natDigits q ++ c :: r) = some (q * m) := by
  obtain ⟨d, ds, hd⟩ := List.exists_cons_of_ne_nil (natDigits_ne_nil q)
  have h0 : natDigits q ++ c :: r ≠ ['0'] := by simp [hd]
  simp [parseMemory, h0, span_natDigits q c r hc, natDigits_isEmpty, hu, digitsToNat_natDigits]

/-- one rung of `to_str`'s ladder: a unit that divides `n` is printed, and read back.  The unit is passed
    as the string literal `memToStr` prints, so that no literal has to be unfolded to match it. -/
theorem parseMemory_rung (n U : Nat) (us : String) (c : Char) (r rest : List Char)
    (hus : us.toList = c :: r) (hU : unitMult (c :: r) = some U) (hc : isDigit c = false)
    (hrest : parseMemory rest = some n) :
    parseMemory (if (n : Int) ≥ U ∧ n % U = 0 then natDigits (n / U) ++ us.toList else rest) = some n := by
  by_cases h : (n : Int) ≥ U ∧ n % U = 0
  · rw [if_pos h, hus, parseMemory_natDigits _ U c r hc hU, Nat.div_mul_cancel (Nat.dvd_of_mod_eq_zero h.2)]
  · rw [if_neg h, hrest]

theorem memory_roundtrip (n : Nat) : parseMemory (memToStr (n : Int)) = some n := by
  unfold memToStr
  simp only [Int.toNat_natCast]
  refine parseMemory_rung n PiB "PiB" 'P' ['i', 'B'] _ (by decide +kernel) (by decide +kernel) (by decide) ?_
  refine parseMemory_rung n TiB "TiB" 'T' ['i', 'B'] _ (by decide +kernel) (by decide +kernel) (by decide) ?_
  refine parseMemory_rung n GiB "GiB" 'G' ['i', 'B'] _ (by decide +kernel) (by decide +kernel) (by decide) ?_
  refine parseMemory_rung n MiB "MiB" 'M' ['i', 'B'] _ (by decide +kernel) (by decide +kernel) (by decide) ?_
  refine parseMemory_rung n KiB "KiB" 'K' ['i', 'B'] _ (by decide +kernel) (by decide +kernel) (by decide) ?_
  rw [intDigits, if_neg (by omega), Int.natAbs_natCast]
  exact (parseMemory_natDigits n 1 'B' [] (by decide) (by decide +kernel)).trans (by rw [Nat.mul_one])

theorem memory_negative_counterexample : parseMemory (memToStr (-5)) = none := by decide

end EdbVerif.Memory
