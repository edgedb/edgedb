/-
`_update_refs_to`: the reverse index afterwards, and when it cannot fail.
-/
import EdbVerif.Lemmas.StoreMap

namespace EdbVerif.Store

theorem Edge.eq_mk_iff (e : Edge) (t : Nat) (c : Cls) (f id : Nat) :
    e = ⟨t, c, f, id⟩ ↔ e.src = id ∧ e.cls = c ∧ e.field = f ∧ e.tgt = t := by
  cases e
  simp only [Edge.mk.injEq]
  constructor <;> (intro h; simp [h])

/-- an edge `_update_refs_to` takes out: its target is passed as old and not as new -/
def Removed (id : Nat) (c : Cls) (orig new : Nat → List Nat) (fs : List Nat) (e : Edge) : Prop :=
  e.src = id ∧ e.cls = c ∧ e.field ∈ fs ∧ e.tgt ∈ orig e.field ∧ e.tgt ∉ new e.field

/-- an edge `_update_refs_to` puts in: its target is passed as new and not as old -/
def Added (id : Nat) (c : Cls) (orig new : Nat → List Nat) (fs : List Nat) (e : Edge) : Prop :=
  e.src = id ∧ e.cls = c ∧ e.field ∈ fs ∧ e.tgt ∈ new e.field ∧ e.tgt ∉ orig e.field

variable {id : Nat} {c : Cls}

theorem updRefsField_mem {f : Nat} {orig new : List Nat}
    {r r' : List Edge × List Nat} (h : updRefsField id c f orig new r = .ok r') (e : Edge) :
    e ∈ r'.1 ↔ (e ∈ r.1 ∧ ¬(e.src = id ∧ e.cls = c ∧ e.field = f ∧ e.tgt ∈ orig ∧ e.tgt ∉ new))
      ∨ (e.src = id ∧ e.cls = c ∧ e.field = f ∧ e.tgt ∈ new ∧ e.tgt ∉ orig) := by
  unfold updRefsField at h
  split at h
  · rename_i hemp
    cases h
    simp only [Bool.and_eq_true, List.isEmpty_iff] at hemp
    simp [hemp.1, hemp.2]
  simp only at h
  split at h
  · cases h
    -- the fold inserts exactly the edges to `new \ orig`, the filter drops exactly those to `orig \ new`; the
    -- `all` test only decides between success and `KeyError` and says nothing about membership
    simp only [List.mem_filter, mem_foldl_insert (fun t => (⟨t, c, f, id⟩ : Edge)), Edge.eq_mk_iff,
      Bool.and_eq_false_iff, Bool.not_eq_eq_eq_not, Bool.not_true, decide_eq_false_iff_not, List.elem_eq_mem]
    rename_i h1 h2
    clear h1 h2
    grind
  · cases h

theorem updRefsFields_mem {orig new : Nat → List Nat} (fs : List Nat)
    {r r' : List Edge × List Nat} (h : updRefsFields id c orig new fs r = .ok r') (e : Edge) :
    e ∈ r'.1 ↔ (e ∈ r.1 ∧ ¬ Removed id c orig new fs e) ∨ Added id c orig new fs e := by
  induction fs generalizing r with
  | nil =>
    cases h
    simp [Removed, Added]
  | cons f fs ih =>
    simp only [updRefsFields] at h
    split at h
    · cases h
    · rename_i r1 h1
      rw [ih h, updRefsField_mem h1]
      -- removed / added over `f :: fs` is removed / added at `f` or over `fs`: case analysis on `e.field`
      unfold Removed Added
      simp only [List.mem_cons]
      clear ih h h1
      grind

theorem updateRefsTo_mem {s : State} {orig new : Nat → List Nat}
    {r' : List Edge × List Nat} (h : updateRefsTo s id c orig new = .ok r') (e : Edge) :
    e ∈ r'.1 ↔ (e ∈ s.refsTo ∧ ¬ Removed id c orig new c.refIdxs e) ∨ Added id c orig new c.refIdxs e :=
  updRefsFields_mem c.refIdxs h e

theorem updRefsField_ok {f : Nat} {orig new : List Nat} {r : List Edge × List Nat}
    (h : ∀ t ∈ orig, (⟨t, c, f, id⟩ : Edge) ∈ r.1) : ∃ r', updRefsField id c f orig new r = .ok r' := by
  unfold updRefsField
  split
  · exact ⟨_, rfl⟩
  · simp only
    split
    · exact ⟨_, rfl⟩
    · rename_i hn
      refine (hn (List.all_eq_true.2 fun t ht => ?_)).elim
      rw [List.contains_iff_mem, mem_foldl_insert (fun t => (⟨t, c, f, id⟩ : Edge))]
      exact .inl (h t (List.mem_filter.1 ht).1)

theorem updRefsFields_ok {orig new : Nat → List Nat} (fs : List Nat)
    (hnd : fs.Nodup) {r : List Edge × List Nat}
    (h : ∀ f ∈ fs, ∀ t ∈ orig f, (⟨t, c, f, id⟩ : Edge) ∈ r.1) :
    ∃ r', updRefsFields id c orig new fs r = .ok r' := by
  induction fs generalizing r with
  | nil => exact ⟨r, rfl⟩
  | cons f fs ih =>
    simp only [List.nodup_cons] at hnd
    obtain ⟨r1, h1⟩ := updRefsField_ok (new := new f) (h f List.mem_cons_self)
    simp only [updRefsFields, h1]
    refine ih hnd.2 fun f' hf' t ht => ?_
    rw [updRefsField_mem h1]
    -- `Nodup`: a second pass over `f` would look for the edges this one has removed
    exact .inl ⟨h f' (List.mem_cons_of_mem f hf') t ht, fun hr => hnd.1 (hr.2.2.1 ▸ hf')⟩

theorem updateRefsTo_ok {s : State} (hc : ClsOK c) {orig new : Nat → List Nat}
    (h : ∀ f ∈ c.refIdxs, ∀ t ∈ orig f, (⟨t, c, f, id⟩ : Edge) ∈ s.refsTo) (e : Err) :
    updateRefsTo s id c orig new ≠ .error e := by
  obtain ⟨r', hr'⟩ := updRefsFields_ok (new := new) c.refIdxs hc (r := (s.refsTo, s.refTargets)) h
  intro he
  rw [updateRefsTo, hr'] at he
  cases he

end EdbVerif.Store
