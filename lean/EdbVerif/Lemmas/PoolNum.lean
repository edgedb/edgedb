/-
C15, numeric part: `InvNum` is preserved by every transition.  It reads a block only through `Block.nv`,
the blocks only as a multiset and the rest of the state through `State.num` (`InvNum.ofView`).  An
operation that moves a connection does so in steps; between them `cur` counts connections that are in no
block and in no closing task (`InvNumK`).  The composite operations come from `primsN`; the two pruning
entry points are proved apart (`pruneStart_inv`, `pruneAll_inv`), so `step_inv` holds for every event.
-/
import EdbVerif.Lemmas.PoolPrims
import EdbVerif.Lemmas.ListAux

namespace EdbVerif.Pool

theorem WF.frame {s s' : State} (h : WF s)
    (hb : s'.blocks = s.blocks) (hu : s'.nextUid = s.nextUid) (hc : s'.nextConn = s.nextConn)
    (ht : s'.tasks = s.tasks) (hn : s'.nextTask = s.nextTask) : WF s' := by
  obtain ⟨a, b, c, d, e, f⟩ := h
  exact ⟨by rw [hb]; exact a, by rw [hb, hu]; exact b, by rw [ht]; exact c,
    by rw [ht, hn]; exact d, by rw [hb]; exact e, by rw [hb, hc]; exact f⟩

/-- `acc` and `cap` with `usage`, `discByHolder` unfolded, in the form `rw` and `omega` meet -/
theorem InvNum.acc' {s : State} (h : InvNum s) :
    s.cur = sumInt (s.blocks.map Block.size) + cnt Task.closing s.tasks := h.acc

theorem InvNum.cap' {s : State} (h : InvNum s) : s.cur ≤ s.max + cnt Task.byHolder s.tasks := h.cap

/-- what `InvNum` reads of a block -/
def Block.nv (b : Block) : Nat × List Nat × Int := (b.uid, b.conns.map (·.1), b.pending)

/-- what `InvNum` reads of a state besides its blocks -/
def State.num (s : State) : Nat × Int × Nat × Nat × List (Nat × Task) × Nat :=
  (s.max, s.cur, s.nextUid, s.nextConn, s.tasks, s.nextTask)

theorem InvNum.ofView {s s' : State} (h : InvNum s)
    (hb : (s'.blocks.map Block.nv).Perm (s.blocks.map Block.nv)) (e : s'.num = s.num) : InvNum s' := by
  obtain ⟨hmax, hcur, hnu, hnc, hts, hnt⟩ : s'.max = s.max ∧ s'.cur = s.cur ∧ s'.nextUid = s.nextUid ∧
      s'.nextConn = s.nextConn ∧ s'.tasks = s.tasks ∧ s'.nextTask = s.nextTask := by
    simpa only [State.num, Prod.mk.injEq] using e
  have hm : ∀ b' ∈ s'.blocks, ∃ b ∈ s.blocks, b.uid = b'.uid ∧ b.conns.map (·.1) = b'.conns.map (·.1) :=
    fun b' hb' => by
      obtain ⟨b, hb0, e⟩ := List.mem_map.mp (hb.mem_iff.mp (List.mem_map_of_mem hb'))
      exact ⟨b, hb0, congrArg Prod.fst e, congrArg (fun v : Nat × List Nat × Int => v.2.1) e⟩
  have hs : ∀ bs : List Block,
      bs.map Block.size = (bs.map Block.nv).map fun v => (v.2.1.length : Int) + v.2.2 := fun bs => by
    rw [List.map_map]
    exact List.map_congr_left fun b _ => by simp [Block.size, Block.nv]
  refine ⟨⟨?_, fun b' hb' => ?_, hts ▸ h.tids, by rw [hts, hnt]; exact h.tidsFresh, fun b' hb' => ?_,
    fun b' hb' p hp => ?_⟩, ?_, ?_⟩
  · have := (hb.map Prod.fst).nodup_iff.mpr (by rw [List.map_map]; exact h.uids)
    rwa [List.map_map] at this
  · obtain ⟨b, hb0, e1, _⟩ := hm b' hb'
    rw [hnu, ← e1]; exact h.uidsFresh b hb0
  · obtain ⟨b, hb0, _, e2⟩ := hm b' hb'
    rw [← e2]; exact h.cids b hb0
  · obtain ⟨b, hb0, _, e2⟩ := hm b' hb'
    obtain ⟨q, hq, hqp⟩ := List.mem_map.mp (e2 ▸ List.mem_map_of_mem (f := Prod.fst) hp)
    rw [hnc, ← hqp]; exact h.cidsFresh b hb0 q hq
  · show s'.cur = sumInt (s'.blocks.map Block.size) + cnt Task.closing s'.tasks
    rw [hcur, hts, hs, sumInt_perm (hb.map _), ← hs]; exact h.acc
  · show s'.cur ≤ s'.max + cnt Task.byHolder s'.tasks
    rw [hmax, hcur, hts]; exact h.cap

theorem InvNum.frame {s s' : State} (h : InvNum s) (hb : s'.blocks = s.blocks) (e : s'.num = s.num) :
    InvNum s' :=
  h.ofView (.of_eq (congrArg _ hb)) e

theorem InvNum.ofCore {s s' : State} (h : InvNum s) (c : SameCore s' s) : InvNum s' := by
  obtain ⟨h1, h2, h3, h4, h5, h6, h7, _⟩ := c
  exact h.frame h3 (by simp only [State.num, h1, h2, h4, h5, h6, h7])

/-- `InvNum` reads none of the other fields; a `{ s with … }` that sets only such fields has this form -/
theorem InvNum.rest {s : State} (h : InvNum s) (st : Bool) (wl oq : List Nat) (na : Int) (ht : Bool)
    (gr gt : Nat) (ws : List Waiter) (hs : List Holder) (ps : List Prune) (hm : List (Nat × Nat))
    (lv : List Nat) (er : Option String) :
    InvNum ⟨s.max, s.cur, s.blocks, s.nextUid, s.nextConn, s.nextTask, st, wl, oq, na, ht, gr, gt,
      s.tasks, ws, hs, ps, hm, lv, er⟩ :=
  h.frame rfl rfl

theorem InvNum.fail {s : State} (h : InvNum s) (m : String) : InvNum (s.fail m) := h.rest ..

def Neutral (f : Block → Block) : Prop := ∀ b, (f b).nv = b.nv

theorem Inert.neutral {f : Block → Block} (hf : Inert f) : Neutral f := by
  intro b; rw [hf b]; rfl

theorem InvNum.mapN {s : State} (h : InvNum s) (f : Block → Block) (hf : Neutral f) :
    InvNum { s with blocks := s.blocks.map f } := by
  refine h.ofView (.of_eq ?_) rfl
  rw [List.map_map]
  exact List.map_congr_left fun b _ => hf b

theorem InvNum.modN {s : State} (h : InvNum s) (u : Nat) (f : Block → Block) (hf : Neutral f) :
    InvNum (s.mod u f) :=
  h.mapN _ fun b => by
    split
    · exact hf b
    · rfl

theorem InvNum.permBlocks {s : State} (h : InvNum s) {bs : List Block} (p : bs.Perm s.blocks) :
    InvNum { s with blocks := bs } :=
  h.ofView (p.map _) rfl

theorem WF.mod {s : State} (h : WF s) (u : Nat) (f : Block → Block) (hf : KeepsUid f)
    (hc : ∀ b ∈ s.blocks, b.uid = u →
      ((f b).conns.map (·.1)).Nodup ∧ ∀ p ∈ (f b).conns, p.1 < s.nextConn) :
    WF (s.mod u f) := by
  obtain ⟨a, b, c, d, e, g⟩ := h
  refine ⟨uids_mod a u f hf, ?_, c, d, ?_, ?_⟩
  · intro x hx
    obtain ⟨b0, hb0, h | ⟨_, h⟩⟩ := mem_modB hx
    · rw [h]; exact b b0 hb0
    · rw [h, hf]; exact b b0 hb0
  · intro x hx
    obtain ⟨b0, hb0, h | ⟨hu, h⟩⟩ := mem_modB hx
    · rw [h]; exact e b0 hb0
    · rw [h]; exact (hc b0 hb0 hu).1
  · intro x hx
    obtain ⟨b0, hb0, h | ⟨hu, h⟩⟩ := mem_modB hx
    · rw [h]; exact g b0 hb0
    · rw [h]; exact (hc b0 hb0 hu).2

theorem WF.addTask {s : State} (h : WF s) (t : Task) : WF (s.addTask t) := by
  obtain ⟨a, b, c, d, e, g⟩ := h
  exact ⟨a, b, Keyed.nodup_map_snoc c fun p hp => Nat.ne_of_lt (d p hp),
    ListAux.forall_mem_snoc (fun p hp => Nat.lt_succ_of_lt (d p hp)) (Nat.lt_succ_self _), e, g⟩

theorem WF.dropTask {s : State} (h : WF s) (tid : Nat) : WF (s.dropTask tid) := by
  obtain ⟨a, b, c, d, e, g⟩ := h
  exact ⟨a, b, Keyed.nodup_map_filter c,
    fun p hp => d p (List.mem_filter.mp hp).1, e, g⟩

theorem WF.setTask {s : State} (h : WF s) (tid : Nat) (t : Task) : WF (s.setTask tid t) := by
  obtain ⟨a, b, c, d, e, g⟩ := h
  refine ⟨a, b, ?_, ?_, e, g⟩
  · show ((s.tasks.map fun p => if p.1 == tid then (tid, t) else p).map (·.1)).Nodup
    rw [map_fst_setFlag]; exact c
  · intro p hp
    obtain ⟨q, hq, rfl⟩ := List.mem_map.mp hp
    have := d q hq
    show Prod.fst (if q.1 == tid then (tid, t) else q) < s.nextTask
    by_cases hk : q.1 = tid <;> simp [hk] <;> omega

theorem cnt_addTask (p : Task → Bool) (s : State) (t : Task) :
    cnt p (s.addTask t).tasks = cnt p s.tasks + (if p t then 1 else 0) := by
  show cnt p (s.tasks ++ [(s.nextTask, t)]) = _
  rw [cnt_append, cnt_cons, cnt_nil, Int.add_zero]

theorem cnt_dropTask (p : Task → Bool) {s : State} (h : WF s) {tid : Nat} {t : Task}
    (ht : s.task tid = some t) :
    cnt p (s.dropTask tid).tasks = cnt p s.tasks - (if p t then 1 else 0) :=
  sumInt_map_filter_key (k := fun x : Nat × Task => x.1) h.tids (task_some ht) fun x => if p x.2 then 1 else 0

theorem cnt_setTask (p : Task → Bool) {s : State} (h : WF s) {tid : Nat} {t : Task} (t' : Task)
    (ht : s.task tid = some t) :
    cnt p (s.setTask tid t').tasks = cnt p s.tasks - (if p t then 1 else 0) + (if p t' then 1 else 0) :=
  sumInt_map_set_key (k := fun x : Nat × Task => x.1) h.tids (task_some ht) (fun _ => (tid, t'))
    fun x => if p x.2 then 1 else 0

/-- `InvNum` while `k` connections are in hand: `cur` still counts them, but they are in no block
    and no closing task has them (taken out of `conns`, the task that closes or moves them not yet
    created or not yet started). -/
structure InvNumK (k : Int) (s : State) : Prop extends WF s where
  acc : s.cur = sumInt (s.blocks.map Block.size) + cnt Task.closing s.tasks + k
  cap : s.cur ≤ s.max + cnt Task.byHolder s.tasks

theorem InvNum.k {s : State} (h : InvNum s) : InvNumK 0 s :=
  ⟨h.toWF, by rw [Int.add_zero]; exact h.acc, h.cap⟩

theorem InvNumK.inv {s : State} (h : InvNumK 0 s) : InvNum s :=
  ⟨h.toWF, by have := h.acc; rwa [Int.add_zero] at this, h.cap⟩

theorem InvNumK.cur {s : State} {k : Int} (h : InvNumK k s) (d : Int)
    (hcap : s.cur + d ≤ s.max + cnt Task.byHolder s.tasks) :
    InvNumK (k + d) { s with cur := s.cur + d } := by
  refine ⟨h.toWF.frame rfl rfl rfl rfl rfl, ?_, hcap⟩
  have := h.acc
  show s.cur + d = sumInt (s.blocks.map Block.size) + cnt Task.closing s.tasks + (k + d)
  omega

/-- the block `u` changes: what its size loses is in hand -/
theorem InvNumK.mod {s : State} {k k' : Int} (h : InvNumK k s) {u : Nat} {b : Block}
    (hb : s.find u = some b) (f : Block → Block) (hf : KeepsUid f)
    (hc : ((f b).conns.map (·.1)).Nodup ∧ ∀ p ∈ (f b).conns, p.1 < s.nextConn)
    (hk : k' + (f b).size = k + b.size) : InvNumK k' (s.mod u f) := by
  refine ⟨h.toWF.mod u f hf fun x hx hxu => ?_, ?_, h.cap⟩
  · rwa [State.eq_of_find h.uids hb hx hxu]
  · have := h.acc
    show s.cur = sumInt ((s.mod u f).blocks.map Block.size) + cnt Task.closing s.tasks + k'
    rw [State.mod, sum_modB _ u f _ h.uids b hb]
    omega

theorem InvNumK.modPending {s : State} {k k' : Int} (h : InvNumK k s) {u : Nat} {b : Block}
    (hb : s.find u = some b) (d : Int) (g : Block → Nat) (hk : k' + d = k) :
    InvNumK k' (s.mod u fun b => { b with pending := b.pending + d, failures := g b }) :=
  have hbm := (State.find_some hb).1
  h.mod hb _ (fun _ => rfl) ⟨h.cids b hbm, h.cidsFresh b hbm⟩ (by simp only [Block.size]; omega)

theorem InvNumK.erase {s : State} {k : Int} (h : InvNumK k s) {u c : Nat} {b : Block} {v : Bool}
    (hb : s.find u = some b) (hc : (c, v) ∈ b.conns) :
    InvNumK (k + 1) (s.mod u fun b => { b with conns := b.conns.filter (·.1 != c) }) := by
  have hbm := (State.find_some hb).1
  have hl := Keyed.length_filter_erase (h.cids b hbm) hc fun _ => true
  simp only [List.filter_eq_self.mpr fun _ _ => rfl, if_pos] at hl
  exact h.mod hb _ (fun _ => rfl) ⟨Keyed.nodup_map_filter (h.cids b hbm),
    fun p hp => h.cidsFresh b hbm p (List.mem_filter.mp hp).1⟩ (by simp only [Block.size]; omega)

theorem InvNumK.addTask {s : State} {k k' : Int} (h : InvNumK k s) (t : Task)
    (hk : k' + (if t.closing then 1 else 0) = k) : InvNumK k' (s.addTask t) := by
  refine ⟨h.toWF.addTask t, ?_, ?_⟩
  · have := h.acc
    show s.cur = sumInt (s.blocks.map Block.size) + cnt Task.closing (s.addTask t).tasks + k'
    rw [cnt_addTask]; omega
  · have := h.cap
    show s.cur ≤ s.max + cnt Task.byHolder (s.addTask t).tasks
    rw [cnt_addTask]; split <;> omega

theorem InvNumK.setTask {s : State} {k k' : Int} (h : InvNumK k s) {tid : Nat} {t : Task} (t' : Task)
    (ht : s.task tid = some t) (h2 : t'.byHolder = t.byHolder)
    (hk : k' + (if t'.closing then 1 else 0) = k + (if t.closing then 1 else 0)) :
    InvNumK k' (s.setTask tid t') := by
  refine ⟨h.toWF.setTask tid t', ?_, ?_⟩
  · have := h.acc
    show s.cur = sumInt (s.blocks.map Block.size) + cnt Task.closing (s.setTask tid t').tasks + k'
    rw [cnt_setTask _ h.toWF t' ht]
    omega
  · have := h.cap
    show s.cur ≤ s.max + cnt Task.byHolder (s.setTask tid t').tasks
    rw [cnt_setTask _ h.toWF t' ht, h2]
    omega

theorem InvNum.pending {s : State} (h : InvNum s) {u : Nat} {b : Block} (hb : s.find u = some b)
    (d : Int) (g : Block → Nat) (hcap : s.cur + d ≤ s.max + discByHolder s) :
    InvNum (({ s with cur := s.cur + d } : State).mod u fun b =>
      { b with pending := b.pending + d, failures := g b }) :=
  ((h.k.cur d hcap).modPending hb d g rfl).inv

theorem InvNum.addTask {s : State} (h : InvNum s) (t : Task) (h1 : t.closing = false) :
    InvNum (s.addTask t) :=
  (h.k.addTask t (by rw [h1]; rfl)).inv

theorem InvNum.setTask {s : State} (h : InvNum s) {tid : Nat} {t : Task} (t' : Task)
    (ht : s.task tid = some t) (h1 : t'.closing = t.closing) (h2 : t'.byHolder = t.byHolder) :
    InvNum (s.setTask tid t') :=
  (h.k.setTask t' ht h2 (by rw [h1])).inv

theorem InvNum.dropTask {s : State} (h : InvNum s) {tid : Nat} {t : Task} (ht : s.task tid = some t)
    (h1 : t.closing = false) (h2 : t.byHolder = false) : InvNum (s.dropTask tid) := by
  refine ⟨h.toWF.dropTask tid, ?_, ?_⟩
  · show s.cur = sumInt (s.blocks.map Block.size) + cnt Task.closing (s.dropTask tid).tasks
    rw [cnt_dropTask _ h.toWF ht, h1, if_neg Bool.false_ne_true, Int.sub_zero]; exact h.acc'
  · show s.cur ≤ s.max + cnt Task.byHolder (s.dropTask tid).tasks
    rw [cnt_dropTask _ h.toWF ht, h2, if_neg Bool.false_ne_true, Int.sub_zero]; exact h.cap'

theorem InvNum.dropClosing {s : State} (h : InvNum s) {tid : Nat} {t : Task} (ht : s.task tid = some t)
    (hc : t.closing = true) (lv : List Nat) :
    InvNum { s.dropTask tid with cur := s.cur - 1, live := lv } := by
  refine ⟨(h.toWF.dropTask tid).frame rfl rfl rfl rfl rfl, ?_, ?_⟩
  · show s.cur - 1 = sumInt (s.blocks.map Block.size) + cnt Task.closing (s.dropTask tid).tasks
    rw [cnt_dropTask _ h.toWF ht, hc, if_pos rfl, h.acc']
    omega
  · have := h.cap'
    show s.cur - 1 ≤ s.max + cnt Task.byHolder (s.dropTask tid).tasks
    rw [cnt_dropTask _ h.toWF ht]
    split <;> omega

theorem wakeNext_inv {s : State} (h : InvNum s) (u : Nat) : InvNum (wakeNext s u) := by
  unfold wakeNext
  split
  · split
    · exact h
    · exact (h.modN u _ (by intro; rfl)).rest ..
  · exact h

theorem blockRelease_inv {s : State} {u c : Nat} (h : InvNum s) : InvNum (blockRelease s u c) :=
  wakeNext_inv (h.modN u _ (by intro; rfl)) u

theorem steal_inv {s : State} {u : Nat} {s1 : State} {o : Option Nat} (h : InvNum s)
    (heq : steal s u = (s1, o)) : InvNum s1 := by
  have : InvNum (steal s u).1 := by
    unfold steal
    split
    · split
      · exact h
      · exact h.modN u _ (by intro; rfl)
    · exact h
  rwa [heq] at this

theorem tryAcq_inv {s : State} (h : InvNum s) (id u a : Nat) (p : Bool) :
    InvNum (tryAcq s id u a p).1 := by
  unfold tryAcq
  split
  · exact h.fail _
  · split
    · exact h.modN u _ (by intro; rfl)
    · exact (h.modN u _ (by intro; rfl)).rest ..

theorem lend_inv {s : State} (h : InvNum s) (r u c : Nat) : InvNum (lend s r u c) := by
  have h0 : InvNum { s with nacq := s.nacq - 1 } := h.rest ..
  unfold lend
  simp only
  split
  · exact h0.fail _
  · split
    · exact (h0.modN _ _ (by intro; simp only [Block.nv, map_fst_setFlag])).rest ..
    · exact h0.fail _

theorem unlend_inv {s : State} {r u c : Nat} (h : InvNum s) : InvNum (unlend s r u c) :=
  (h.modN _ _ (by intro; simp only [Block.nv, map_fst_setFlag])).rest ..

theorem abortWaiters_inv {s : State} (u : Nat) (h : InvNum s) : InvNum (abortWaiters s u) := by
  unfold abortWaiters
  split
  · exact h
  · exact (h.modN u _ (by intro; rfl)).rest ..

theorem leaveWait_inv {s : State} (h : InvNum s) (id u : Nat) : InvNum (leaveWait s id u) :=
  (h.modN u _ (by intro; rfl)).rest ..

theorem popTop_inv {s : State} (h : InvNum s) (u : Nat) : InvNum (popTop s u) :=
  h.modN u _ (by intro; rfl)

/-- the guard under which one more connection may be promised -/
def Room (s : State) : Prop := s.cur < s.max + discByHolder s

theorem room_of_lt {s : State} (h : s.cur < s.max) : Room s := by
  have := cnt_nonneg Task.byHolder s.tasks
  unfold Room discByHolder
  omega

theorem schedNew_inv {s : State} (u : Nat) (h : InvNum s) (hg : Room s) : InvNum (schedNew s u) := by
  unfold schedNew
  split
  · exact h.fail _
  · rename_i b hb
    have h1 := h.pending hb 1 (·.failures) (by unfold Room at hg; omega)
    exact (of_ite (P := InvNum) (fun _ => h1.permBlocks (toEnd_perm _ u)) fun _ => h1).addTask _ rfl

theorem schedDiscard_inv {s : State} {u c : Nat} {bh : Bool} (h : InvNum s) :
    InvNum (schedDiscard s u c bh) := h.addTask _ rfl

theorem schedDiscard_byHolder {s : State} {u c : Nat} (h : InvNum s) :
    InvNum (schedDiscard s u c true) ∧ Room (schedDiscard s u c true) := by
  refine ⟨schedDiscard_inv h, ?_⟩
  have := h.cap'
  show s.cur < s.max + cnt Task.byHolder (s.addTask (.disc u c false true)).tasks
  rw [cnt_addTask]
  show s.cur < s.max + (cnt Task.byHolder s.tasks + 1)
  omega

theorem schedXfer_inv {s : State} {f c : Nat} (t : Nat) (bh : Bool) (h : InvNum s) :
    InvNum (schedXfer s f c t bh) := by
  unfold schedXfer
  split
  · rename_i fb tb hf ht
    split
    · rename_i c' hfind
      have h1 := h.k.erase hf (find_conn_some hfind)
      obtain ⟨tb', htb'⟩ := State.exists_find_mod f t (fun b => { b with conns := b.conns.filter (·.1 != c) })
        (fun _ => rfl) ht
      have h2 := (h1.modPending htb' 1 (·.failures) rfl).inv
      exact (of_ite (P := InvNum)
        (fun _ => (h2.permBlocks (toEnd_perm _ t)).permBlocks (toEnd_perm _ f)) fun _ => h2).addTask _ rfl
    · exact h.fail _
  · exact h.fail _

theorem getBlock_inv {s : State} (name : Nat) (h : InvNum s) : InvNum (getBlock s name).1 := by
  unfold getBlock
  split
  · exact h
  · have h1 : InvNum { s with blocks := s.blocks ++ [({ uid := s.nextUid, name := name } : Block)],
                              nextUid := s.nextUid + 1 } := by
      refine ⟨⟨Keyed.nodup_map_snoc h.uids fun b hb => Nat.ne_of_lt (h.uidsFresh b hb),
        ListAux.forall_mem_snoc (fun b hb => Nat.lt_succ_of_lt (h.uidsFresh b hb)) (Nat.lt_succ_self _),
        h.tids, h.tidsFresh, ListAux.forall_mem_snoc h.cids .nil, ListAux.forall_mem_snoc h.cidsFresh nofun⟩, ?_, h.cap⟩
      · have := h.acc'
        show s.cur = sumInt (List.map Block.size (s.blocks ++ [_])) + _
        rw [List.map_append, sumInt_append]
        simp only [List.map_cons, List.map_nil, sumInt_cons, sumInt_nil, Block.size, List.length_nil]
        omega
    exact of_ite (fun _ => h1.permBlocks (toFront_perm _ _)) fun _ => h1

theorem dropBlock_inv {s : State} (h : InvNum s) {u : Nat} {b : Block} (hb : s.find u = some b)
    (hz : b.size = 0) : InvNum { s with blocks := s.blocks.filter (·.uid != u) } := by
  refine ⟨⟨Keyed.nodup_map_filter h.uids,
    fun x hx => h.uidsFresh x (List.mem_filter.mp hx).1, h.tids, h.tidsFresh,
    fun x hx => h.cids x (List.mem_filter.mp hx).1,
    fun x hx => h.cidsFresh x (List.mem_filter.mp hx).1⟩, ?_, h.cap⟩
  have := h.acc'
  show s.cur = sumInt ((s.blocks.filter (·.uid != u)).map Block.size) + cnt Task.closing s.tasks
  obtain ⟨hbm, rfl⟩ := State.find_some hb
  rw [sumInt_map_filter_key h.uids hbm, hz]
  omega

theorem InvNum.addConn {s : State} (h : InvNum s) {u : Nat} {b0 : Block} (hb : s.find u = some b0)
    (hm : List (Nat × Nat)) (lv : List Nat) :
    InvNum { (s.mod u fun b => { b with failures := 0, pending := b.pending - 1,
                                        conns := b.conns ++ [(s.nextConn, false)] }) with
             nextConn := s.nextConn + 1, home := hm, live := lv } := by
  have hbm := (State.find_some hb).1
  have h0 : InvNumK 0 { s with nextConn := s.nextConn + 1 } :=
    ⟨⟨h.uids, h.uidsFresh, h.tids, h.tidsFresh, h.cids,
      fun x hx p hp => Nat.lt_succ_of_lt (h.cidsFresh x hx p hp)⟩, h.k.acc, h.cap⟩
  have h1 := h0.mod (k' := 0) hb
    (fun b => { b with failures := 0, pending := b.pending - 1, conns := b.conns ++ [(s.nextConn, false)] })
    (fun _ => rfl)
    ⟨Keyed.nodup_map_snoc (h.cids b0 hbm) fun p hp => Nat.ne_of_lt (h.cidsFresh b0 hbm p hp),
      ListAux.forall_mem_snoc (fun p hp => Nat.lt_succ_of_lt (h.cidsFresh b0 hbm p hp)) (Nat.lt_succ_self _)⟩
    (by simp only [Block.size, List.length_append, List.length_cons, List.length_nil]; omega)
  exact h1.inv.rest ..

theorem connOk_inv {s : State} {u : Nat} {b0 : Block} {name : Nat} (h : InvNum s)
    (hb : s.find u = some b0) : InvNum (connOk s u name) :=
  blockRelease_inv (h.addConn hb _ _)

theorem connFailCounters_inv {s : State} {u : Nat} {b0 : Block} (g : Block → Nat) (h : InvNum s)
    (hb : s.find u = some b0) : InvNum (connFailCounters s u g) ∧ Room (connFailCounters s u g) := by
  have := h.cap
  exact ⟨h.pending hb (-1) g (by omega), show s.cur - 1 < s.max + discByHolder s by omega⟩

theorem taskStart_inv {s : State} (tid : Nat) (h : InvNum s) : InvNum (taskStart s tid) := by
  unfold taskStart
  split
  · rename_i u ht
    exact h.setTask _ ht rfl rfl
  · rename_i u c hh ht
    split
    · exact (h.setTask (.dead hh) ht rfl rfl).fail _
    · rename_i b hb
      split
      · rename_i c' hfind
        exact ((h.k.erase hb (find_conn_some hfind)).setTask (.disc u c true hh) ht rfl rfl).inv
      · exact (h.setTask (.dead hh) ht rfl rfl).fail _
  · rename_i f c t hh ht
    exact h.setTask _ ht rfl rfl
  · rename_i c ht
    exact h.setTask _ ht rfl rfl
  · exact h.fail _

theorem discDone_inv {s : State} (tid : Nat) (ok : Bool) (h : InvNum s) : InvNum (discDone s tid ok) := by
  unfold discDone
  split
  · rename_i u c hh ht
    exact h.dropClosing ht rfl _
  · rename_i c ht
    exact h.dropClosing ht rfl _
  · rename_i f c t hh ht
    exact (h.setTask (.xfer f c t 2 hh) ht rfl rfl).rest ..
  · exact h.fail _

theorem pruneLoop_inv : ∀ n (p : Prune) s, InvNum s → InvNum (pruneLoop p n s)
  | 0, _, _, h => h
  | n + 1, p, s, h => by
    unfold pruneLoop
    split
    · exact h
    · refine of_ite (fun _ => ?_) fun _ =>
        List.foldlRecOn (motive := InvNum) _ _ h fun _ hs _ _ => hs.addTask _ rfl
      have ht := tryAcq_inv h p.id p.block 1 true
      generalize tryAcq s p.id p.block 1 true = r at ht ⊢
      obtain ⟨s1, _ | c⟩ := r
      · exact ht.rest ..
      · exact pruneLoop_inv n _ _ ht

theorem pruneCont_inv {s : State} (h : InvNum s) (id : Nat) (got : List Nat) (fuel : Nat) :
    InvNum (pruneCont s id got fuel) := by
  unfold pruneCont
  split
  · exact pruneLoop_inv _ _ _ (h.rest ..)
  · exact h.fail _

theorem resume_inv {s : State} (id : Nat) (h : InvNum s) : InvNum (resume s id) := by
  unfold resume
  split
  · exact h.fail _
  · rename_i w _
    simp only
    split
    · exact h.fail _
    · rename_i b hb
      split
      · exact h.fail _
      · have h2 := leaveWait_inv
          (of_ite (P := InvNum) (fun _ => h) fun _ => wakeNext_inv h w.block : InvNum (if b.stack.isEmpty then s else _))
          id w.block
        exact of_ite (fun _ => h2.rest ..) fun _ => h2.rest ..
      · have h1 := leaveWait_inv h id w.block
        split
        · exact of_ite (fun _ => pruneCont_inv (popTop_inv h1 w.block) _ _ _)
            fun _ => lend_inv (popTop_inv h1 w.block) _ _ _
        · exact of_ite (fun _ => pruneCont_inv h1 _ _ _) fun _ => tryAcq_inv h1 _ _ _ _

theorem primsN : Prims InvNum (fun s _ _ => InvNum s) Room where
  frame := InvNum.ofCore
  frameH := InvNum.ofCore
  modInert := fun u f hf h => h.modN u f hf.neutral
  mapInert := fun f hf h => h.mapN f hf.neutral
  toEnd := fun u h => h.permBlocks (toEnd_perm _ u)
  toFront := fun u h => h.permBlocks (toFront_perm _ u)
  gOfLt := fun _ hlt => room_of_lt hlt
  schedNew := schedNew_inv
  stealSome := steal_inv
  stealNone := fun h heq => steal_none_eq heq ▸ h
  schedXfer := schedXfer_inv
  schedDiscard := schedDiscard_inv
  schedDiscardH := schedDiscard_byHolder
  blockRelease := blockRelease_inv
  getBlock := getBlock_inv
  acqFinish := fun {s} r u h _ => by
    have ht := tryAcq_inv h r u 1 false
    unfold acqFinish
    generalize tryAcq s r u 1 false = x at ht ⊢
    obtain ⟨s1, _ | c⟩ := x
    · exact ht
    · exact lend_inv ht _ _ _
  unlend := fun h _ _ _ => unlend_inv h
  dropConnTask := fun h ht hc => h.dropTask ht hc.1 hc.2.1
  connOk := connOk_inv
  connFailCore := connFailCounters_inv
  abortWaiters := abortWaiters_inv
  taskStart := taskStart_inv
  discDone := discDone_inv
  resume := resume_inv
  dropBlock := fun h hb _ hz _ => dropBlock_inv h hb hz

theorem pruneStart_inv {s : State} (h : InvNum s) (pid name : Nat) : InvNum (pruneStart s pid name) := by
  unfold pruneStart
  split
  · exact h
  · exact of_ite (fun _ => h.fail _) fun _ => pruneLoop_inv _ _ _ (h.modN _ _ fun _ => rfl)

theorem sum_size_clear (bs : List Block) :
    sumInt (bs.map Block.size) =
      sumInt ((bs.map fun b => { b with stack := [], conns := [] }).map Block.size) +
        ((bs.flatMap fun b => b.conns.map (·.1)).length : Int) := by
  induction bs with
  | nil => simp
  | cons x xs ih =>
    simp only [List.map_cons, sumInt_cons, List.flatMap_cons, List.length_append, List.length_map, ih,
      Block.size, List.length_nil]
    omega

theorem addDiscAll_inv : ∀ (l : List Nat) {s : State}, InvNumK l.length s →
    InvNum (l.foldl (fun s c => s.addTask (.discAll c false)) s)
  | [], _, h => h.inv
  | c :: cs, _, h => addDiscAll_inv cs (h.addTask (.discAll c false) (Int.natCast_succ cs.length).symm)

theorem pruneAll_inv {s : State} (h : InvNum s) : InvNum (pruneAll s) := by
  refine addDiscAll_inv _ ⟨⟨?_, ?_, h.tids, h.tidsFresh, ?_, ?_⟩, ?_, h.cap⟩
  · show List.Nodup (List.map (fun b : Block => b.uid) (List.map _ s.blocks))
    rw [List.map_map]; exact h.uids
  · intro b hb
    obtain ⟨b0, hb0, rfl⟩ := List.mem_map.mp hb
    exact h.uidsFresh b0 hb0
  · intro b hb
    obtain ⟨b0, hb0, rfl⟩ := List.mem_map.mp hb
    exact .nil
  · intro b hb p hp
    obtain ⟨b0, hb0, rfl⟩ := List.mem_map.mp hb
    exact nomatch hp
  · have := h.acc'
    have hs := sum_size_clear s.blocks
    show s.cur = sumInt (List.map Block.size (List.map _ s.blocks)) + cnt Task.closing s.tasks + _
    omega

theorem init_inv (max : Nat) : InvNum (init max) :=
  ⟨⟨.nil, List.forall_mem_nil _, .nil, List.forall_mem_nil _, List.forall_mem_nil _, List.forall_mem_nil _⟩, rfl,
    Int.natCast_nonneg max⟩

theorem step_inv {s : State} (h : InvNum s) (env : Env) (e : Ev) : InvNum (step s env e) := by
  cases e with
  | prune p n => exact pruneStart_inv h p n
  | pall => exact pruneAll_inv h
  | _ => exact primsN.step h env _ (fun _ _ => Ev.noConfusion) Ev.noConfusion

theorem run_inv (evs : List (Env × Ev)) : ∀ s, InvNum s → InvNum (run s evs) := by
  induction evs with
  | nil => intro s h; exact h
  | cons x xs ih => intro s h; exact ih _ (step_inv h x.1 x.2)

end EdbVerif.Pool
