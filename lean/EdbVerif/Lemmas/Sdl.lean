/-
C11: the graph handed to the sort and the verdict of `buildWith`, in the vocabulary of the document:
`Hard/Ctrl/Weak (graph d)` are `DepHard/DepCtrl/DepWeak d`, an unresolved reference of `graph d` is `Dangling d`,
a successful sort gives a `LinExt d o`. What a declaration `Needs`, a complete tracer places earlier in every
`LinExt`; hence `buildWith_perm`: the result does not depend on the order of the document, for every algebra in
which independent declarations commute (`applyAll_linExt`, the one use of `linear_extensions_equal`).
-/
import EdbVerif.Lemmas.SdlPerm
import EdbVerif.Lemmas.SdlLinExt
import EdbVerif.Lemmas.Topo
import EdbVerif.Lemmas.Keyed

namespace EdbVerif.Sdl
open EdbVerif.Topo

theorem mem_ins {x y : Nat} {l : List Nat} : y ∈ ins x l ↔ y = x ∨ y ∈ l :=
  (ListAux.ins_perm (ins := ins) (lt := fun a b : Nat => a ≤ b) (fun _ => rfl) (fun _ _ _ => rfl)
    x l).mem_iff.trans List.mem_cons

theorem mem_isort {y : Nat} {l : List Nat} : y ∈ isort l ↔ y ∈ l :=
  (ListAux.sort_perm (ins := ins) (lt := fun a b : Nat => a ≤ b) (fun _ => rfl) (fun _ _ _ => rfl)
    (sort := isort) rfl (fun _ _ => rfl) l).mem_iff

theorem mem_norm {y : Nat} {l : List Nat} : y ∈ norm l ↔ y ∈ l :=
  mem_isort.trans mem_dedup

theorem graph_keys (d : Doc) : (graph d).keys = names d :=
  List.map_map

theorem graph_wf {d : Doc} (hn : (names d).Nodup) : WF (graph d) := by
  rwa [WF, graph_keys]

theorem exists_mem_graph {d : Doc} {P : Entry → Prop} :
    (∃ e ∈ graph d, P e) ↔ ∃ it ∈ collect d, P (entry (collect d) it) := by
  simp only [graph, List.mem_map, exists_exists_and_eq_and]

theorem hard_graph_iff (d : Doc) (a b : Nat) : Hard (graph d) a b ↔ DepHard d a b := by
  simp only [Hard, DepHard, graph_keys, exists_mem_graph, entry, mem_norm, List.not_mem_nil,
    false_or]

theorem ctrl_graph_iff (d : Doc) (a b : Nat) : Ctrl (graph d) a b ↔ DepCtrl d a b := by
  simp only [Ctrl, DepCtrl, graph_keys, exists_mem_graph, entry]

theorem weak_graph_iff (d : Doc) (a b : Nat) : Weak (graph d) a b ↔ DepWeak d a b := by
  simp only [Weak, DepWeak, graph_keys, exists_mem_graph, entry, mem_norm]

theorem dangling_iff (d : Doc) :
    Dangling d ↔
      ∃ e ∈ graph d, ∃ x ∈ e.weak ++ e.merge ++ e.deps ++ e.ctrl, x ∉ (graph d).keys := by
  simp only [Dangling, graph_keys, exists_mem_graph, entry, List.mem_append, mem_norm,
    List.not_mem_nil, or_false]

/-- hard ∪ loop-control, the relation whose cycles the sort reports: `Topo.R (graph d)` read on the document
    (`hard_graph_iff`, `ctrl_graph_iff`) -/
abbrev HC (d : Doc) : Nat → Nat → Prop := fun a b => DepHard d a b ∨ DepCtrl d a b

def LinExt (d : Doc) (o : List Nat) : Prop :=
  o.Perm (names d) ∧ ∀ a b, DepHard d a b → o.idxOf b < o.idxOf a

theorem sort_ok_spec {d : Doc} (hn : (names d).Nodup) {o : List Nat}
    (h : sortEx (graph d) false = .ok o) : LinExt d o :=
  ⟨graph_keys d ▸ sortEx_perm (graph d) false o (graph_wf hn) h, fun a b hab =>
    sortEx_hard (graph d) false o (graph_wf hn) h a b ((hard_graph_iff d a b).mpr hab)⟩

variable {σ : Type} (A : Algebra σ) {d : Doc}

theorem buildWith_dup (hn : ¬ (names d).Nodup) : buildWith A d = .duplicate :=
  if_neg hn

theorem sort_unres_iff :
    (∃ x i, sortEx (graph d) false = .unresolved x i) ↔ Dangling d := by
  rw [sortEx_unres_iff (graph d) false, dangling_iff]
  exact and_iff_right rfl

theorem buildWith_unres (hn : (names d).Nodup) (hd : Dangling d) : buildWith A d = .unresolved := by
  obtain ⟨x, i, e⟩ := sort_unres_iff.mpr hd
  unfold buildWith
  rw [if_pos hn, e]

theorem sort_cycle_iff (hn : (names d).Nodup) (hd : ¬ Dangling d) :
    (∃ i p, sortEx (graph d) false = .cycle i p) ↔ Cyclic (HC d) := by
  have hr : Resolved (graph d) false := Or.inr <| Option.not_isSome_iff_eq_none.mp <|
    mt ((firstUnresolved_isSome_iff (graph d)).trans (dangling_iff d).symm).mp hd
  simp only [sortEx_cycle_iff (graph d) false (graph_wf hn) hr, hard_graph_iff, ctrl_graph_iff]

theorem buildWith_cycle (hn : (names d).Nodup) (hd : ¬ Dangling d) (hc : Cyclic (HC d)) :
    buildWith A d = .cycle := by
  obtain ⟨i, p, e⟩ := (sort_cycle_iff hn hd).mpr hc
  unfold buildWith
  rw [if_pos hn, e]

theorem buildWith_ok (hn : (names d).Nodup) (hd : ¬ Dangling d) (hc : ¬ Cyclic (HC d)) :
    ∃ o, LinExt d o ∧
      buildWith A d = match applyAll A (collect d) A.empty o with
        | some s => .ok s
        | none => .applyError := by
  rcases e : sortEx (graph d) false with o | ⟨i, p⟩ | ⟨x, i⟩
  · refine ⟨o, sort_ok_spec hn e, ?_⟩
    unfold buildWith
    rw [if_pos hn, e]
    rfl
  · exact absurd ((sort_cycle_iff hn hd).mp ⟨i, p, e⟩) hc
  · exact absurd (sort_unres_iff.mp ⟨x, i, e⟩) hd

theorem buildWith_cycle_iff :
    buildWith A d = .cycle ↔ (names d).Nodup ∧ ¬ Dangling d ∧ Cyclic (HC d) := by
  refine ⟨fun h => ?_, fun ⟨hn, hd, hc⟩ => buildWith_cycle A hn hd hc⟩
  by_cases hn : (names d).Nodup
  swap
  · rw [buildWith_dup A hn] at h
    cases h
  by_cases hd : Dangling d
  · rw [buildWith_unres A hn hd] at h
    cases h
  by_cases hc : Cyclic (HC d)
  · exact ⟨hn, hd, hc⟩
  obtain ⟨o, -, e⟩ := buildWith_ok A hn hd hc
  rw [e] at h
  split at h <;> cases h

theorem find_same {a b : List Item} (h : Same a b) (hn : (b.map (·.name)).Nodup) :
    find a = find b := by
  funext k
  rcases ha : find a k with _ | it
  · exact (Keyed.find_eq_none.mpr fun it hit => Keyed.find_eq_none.mp ha it ((h.mem it).mpr hit)).symm
  · obtain ⟨hm, rfl⟩ := Keyed.find_some ha
    exact (Keyed.find_of_mem hn ((h.mem it).mp hm)).symm

def Needs (its : List Item) (a b : Nat) : Prop := ∃ ia, find its a = some ia ∧ b ∈ ia.req

theorem needs_before (hv : Complete d) {o : List Nat}
    (q : ∀ a b, DepHard d a b → o.idxOf b < o.idxOf a) {a b : Nat} (h : Needs (collect d) a b) :
    o.idxOf b < o.idxOf a := by
  obtain ⟨ia, hf, hb⟩ := h
  obtain ⟨hm, rfl⟩ := Keyed.find_some hf
  have t := hv ia hm b hb
  clear hb
  induction t with
  | single h => exact q _ _ h
  | tail _ h ih => exact Nat.lt_trans (q _ _ h) ih

theorem step_commute (hA : A.Commutes) (its : List Item) (a b : Nat)
    (hab : a ≠ b) (h₁ : ¬ Needs its a b) (h₂ : ¬ Needs its b a) :
    CommuteAt (fun s k => (find its k).bind (A.apply s)) a b := by
  intro s
  show ((find its a).bind (A.apply s)).bind (fun s' => (find its b).bind (A.apply s'))
     = ((find its b).bind (A.apply s)).bind (fun s' => (find its a).bind (A.apply s'))
  rcases ha : find its a with _ | ia
  · exact (Option.bind_fun_none _).symm
  rcases hb : find its b with _ | ib
  · exact Option.bind_fun_none _
  obtain ⟨-, rfl⟩ := Keyed.find_some ha
  obtain ⟨-, rfl⟩ := Keyed.find_some hb
  exact hA s ia ib ⟨hab, fun hr => h₁ ⟨ia, ha, hr⟩, fun hr => h₂ ⟨ib, hb, hr⟩⟩

theorem applyAll_linExt (hA : A.Commutes) (hn : (names d).Nodup) (hv : Complete d)
    {o₁ o₂ : List Nat} (l₁ : LinExt d o₁) (l₂ : LinExt d o₂) (s : σ) :
    applyAll A (collect d) s o₁ = applyAll A (collect d) s o₂ :=
  -- `applyAll A its` is, by definition, `runSteps` of the step `fun s k => (find its k).bind (A.apply s)`
  linear_extensions_equal _ (Needs (collect d)) (step_commute A hA (collect d))
    (l₁.1.trans l₂.1.symm) (l₁.1.nodup_iff.mpr hn)
    (pairwise_of_idxOf (l₁.1.nodup_iff.mpr hn) fun _ _ => needs_before hv l₁.2)
    (pairwise_of_idxOf (l₂.1.nodup_iff.mpr hn) fun _ _ => needs_before hv l₂.2) s

/-- **Order independence**, for every schema algebra in which independent
    declarations commute. -/
theorem buildWith_perm (hA : A.Commutes) {d₁ d₂ : Doc}
    (h : d₁.Perm d₂) (hv : Complete d₁) : buildWith A d₁ = buildWith A d₂ := by
  have hnn := (names_perm h).nodup_iff
  by_cases hn : (names d₁).Nodup
  swap
  · rw [buildWith_dup A hn, buildWith_dup A (mt hnn.mpr hn)]
  by_cases hd : Dangling d₁
  · rw [buildWith_unres A hn hd, buildWith_unres A (hnn.mp hn) ((dangling_perm h).mp hd)]
  have hd₂ : ¬ Dangling d₂ := mt (dangling_perm h).mpr hd
  have hcc : HC d₁ = HC d₂ := by
    unfold HC
    rw [depHard_perm h, depCtrl_perm h]
  by_cases hc : Cyclic (HC d₁)
  · rw [buildWith_cycle A hn hd hc, buildWith_cycle A (hnn.mp hn) hd₂ (hcc ▸ hc)]
  obtain ⟨o₁, l₁, e₁⟩ := buildWith_ok A hn hd hc
  obtain ⟨o₂, l₂, e₂⟩ := buildWith_ok A (hnn.mp hn) hd₂ (hcc ▸ hc)
  have hf : applyAll A (collect d₂) = applyAll A (collect d₁) := by
    unfold applyAll
    rw [find_same (collect_same h) (hnn.mp hn)]
  rw [e₁, e₂, hf, applyAll_linExt A hA hn hv l₁
    ⟨l₂.1.trans (names_perm h).symm, depHard_perm h ▸ l₂.2⟩]

end EdbVerif.Sdl
