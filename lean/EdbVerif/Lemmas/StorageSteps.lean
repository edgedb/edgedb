/-
Every command preserves the invariant: for each constructor of `DDL`, every accepted result of
`emit` re-establishes `WF` and `catalog ≈ layout` (`Sat (Restores c) (emit s d)`).  The commands that change
one pointer go through `step_upd` / `step_attr` with the local lemma for their operation list; creating and
dropping a pointer are such changes of a pointer without storage; the four link-property commands are
instances of `step_lprop`; the type commands are done on the whole catalog.
-/
import EdbVerif.Lemmas.StorageLocal
import EdbVerif.Lemmas.ListAux
namespace EdbVerif.Storage

theorem unstoreOps_prop {p : Ptr} {t : Nat} (hsrc : p.src = some t) (hc : p.computed = false)
    (hn : p.name ≠ .type_) :
    unstoreOps p = (if p.single then [Op.dropCol (.obj t) (colOf p.name p.id)] else []) ++
      (if p.hasTable then [dropPtrTable p] else []) := by
  unfold unstoreOps
  congr 1
  cases hs : p.single
  · have : p.srcCol = none := by simp [Ptr.srcCol, hsrc, hs]
    rw [this]; rfl
  · have : p.srcCol = some (.obj t, colOf p.name p.id) := srcCol_eq_some.mpr ⟨t, hsrc, hc, hs, hn, rfl⟩
    rw [this]; rfl

theorem execAll_dropPtrTables (l : List Ptr) (c : Catalog) (hnd : (l.map (·.id)).Nodup)
    (hin : ∀ q ∈ l, TName.ptr q.id ∈ c.tables) :
    ∃ c', execAll c (l.map dropPtrTable) = some c' ∧
      (∀ u, u ∈ c'.tables ↔ u ∈ c.tables ∧ ∀ q ∈ l, u ≠ .ptr q.id) ∧
      (∀ x, x ∈ c'.cols ↔ x ∈ c.cols ∧ ∀ q ∈ l, x.1 ≠ .ptr q.id) := by
  induction l generalizing c with
  | nil => exact ⟨c, rfl, by simp, by simp⟩
  | cons q l ih =>
    simp only [List.map_cons, List.nodup_cons, List.mem_map, not_exists, not_and] at hnd
    obtain ⟨c1, e1, hT1, hC1⟩ := exec_dropTable (q.kind == .link) (hin q (List.mem_cons_self))
    have hin1 : ∀ q' ∈ l, TName.ptr q'.id ∈ c1.tables := by
      intro q' hq'
      rw [hT1]
      refine ⟨?_, hin q' (List.mem_cons_of_mem _ hq')⟩
      intro h; exact hnd.1 q' hq' (TName.ptr.inj h)
    obtain ⟨c2, e2, hT2, hC2⟩ := ih c1 hnd.2 hin1
    refine ⟨c2, ?_, ?_, ?_⟩
    · exact (execAll_cons _ e1).trans e2
    · intro u; rw [hT2, hT1, List.forall_mem_cons, and_assoc, and_left_comm]
    · intro x; rw [hC2, hC1, List.forall_mem_cons, and_assoc, and_left_comm]

theorem updType_typeIds (s : Schema) (t : Nat) (f : TypeDecl → TypeDecl) (hf : ∀ d, (f d).id = d.id) :
    (s.updType t f).typeIds = s.typeIds :=
  Keyed.map_modify (fun d _ => hf d) s.types

/-! `emit` is a cascade of `match` on a lookup and `if`.  `Sat P (emit s d)` says that every accepted result
satisfies `P`; it is proved by walking down the cascade with the lemmas below, one per kind of node, so that a
property of `emit` is stated once for all results instead of inverting `emit s d = some (s', ops)` arm by arm
(five nested splits for `setSingle`). -/

def Sat (P : Schema → List Op → Prop) (r : Option (Schema × List Op)) : Prop :=
  ∀ x ∈ r, P x.1 x.2

section Sat
variable {P : Schema → List Op → Prop}

theorem Sat.elim {r : Option (Schema × List Op)} {s : Schema} {ops : List Op} (h : Sat P r)
    (e : r = some (s, ops)) : P s ops :=
  h _ e

theorem Sat.none : Sat P none := fun _ h => nomatch h

theorem Sat.some {s : Schema} {ops : List Op} (h : P s ops) : Sat P (some (s, ops)) := by
  rintro _ ⟨⟩; exact h

theorem Sat.ite {c : Prop} [Decidable c] {a b : Option (Schema × List Op)}
    (ha : c → Sat P a) (hb : ¬ c → Sat P b) : Sat P (if c then a else b) := by
  split
  · exact ha ‹_›
  · exact hb ‹_›

-- One lemma per type of the lookup: the statement must elaborate to the very matcher `emit` uses.
theorem Sat.matchPtr {o : Option Ptr} {F : Ptr → Option (Schema × List Op)} :
    (∀ p, o = .some p → Sat P (F p)) → Sat P (match o with | .none => .none | .some p => F p) := by
  intro h; cases o with
  | none => exact .none
  | some p => exact h p rfl

theorem Sat.matchNat {o : Option Nat} {F : Nat → Option (Schema × List Op)} :
    (∀ t, o = .some t → Sat P (F t)) → Sat P (match o with | .none => .none | .some t => F t) := by
  intro h; cases o with
  | none => exact .none
  | some t => exact h t rfl

theorem Sat.matchLProp {o : Option LProp} {F : LProp → Option (Schema × List Op)} :
    (∀ l, o = .some l → Sat P (F l)) → Sat P (match o with | .none => .none | .some l => F l) := by
  intro h; cases o with
  | none => exact .none
  | some l => exact h l rfl

end Sat

section
variable {s : Schema} {c : Catalog} (w : WF s) (he : c.Equiv (layout s))
include w he

theorem step_updType (t : Nat) {f : TypeDecl → TypeDecl} (hf : ∀ d, (f d).id = d.id) :
    Restores c (s.updType t f) [] := by
  have hids := updType_typeIds s t f hf
  refine ⟨c, rfl, w.sub (.refl _) fun p hp u hu => ?_, ?_⟩
  · rw [hids]; exact w.srcs p hp u hu
  · exact equiv_trans he (layout_congr (by rw [hids]; simp) (fun _ _ => Iff.rfl))

theorem step_createType (t name : Nat) (ab : Bool) (hfresh : t ∉ s.typeIds) :
    Restores c { s with types := s.types ++ [⟨t, name, ab, []⟩] } [.createTable (.obj t) [] false] := by
  have hnt : TName.obj t ∉ c.tables := by
    rw [he.1, mem_layout_tables]
    rintro (⟨_, hi, h⟩ | ⟨q, _, h⟩)
    · cases h; exact hfresh hi
    · cases (mem_ptrTables.mp h).2
  obtain ⟨c1, e1, hT1, hC1⟩ := exec_createTable_new [] false hnt
  have hids : ∀ i, i ∈ Schema.typeIds { s with types := s.types ++ [⟨t, name, ab, []⟩] } ↔
      i = t ∨ i ∈ s.typeIds := fun i => by simp [Schema.typeIds, or_comm]
  refine ⟨c1, execAll_single e1, w.sub (.refl _) fun p hp u hu => (hids u).mpr (.inr (w.srcs p hp u hu)),
    fun u => ?_, fun x => ?_⟩
  · rw [hT1, he.1, mem_layout_tables, mem_layout_tables, ← or_assoc]
    refine or_congr_left ⟨?_, ?_⟩
    · rintro (rfl | ⟨i, hi, rfl⟩)
      · exact ⟨t, (hids t).mpr (.inl rfl), rfl⟩
      · exact ⟨i, (hids i).mpr (.inr hi), rfl⟩
    · rintro ⟨i, hi, rfl⟩
      exact ((hids i).mp hi).imp (congrArg _) fun h => ⟨i, h, rfl⟩
  · rw [hC1, he.2, mem_layout_cols, mem_layout_cols]
    simp

theorem step_dropType (t : Nat) : Sat (Restores c) (emit s (.dropType t)) := by
  refine .ite (fun ht => .some ?_) fun _ => .none
  let L := (s.ptrs.filter (fun p => p.src = some t)).filter (·.hasTable)
  have hL : ∀ q, q ∈ L ↔ q ∈ s.ptrs ∧ q.src = some t ∧ q.hasTable = true := fun q => by
    simp only [L, List.mem_filter, decide_eq_true_eq, and_assoc]
  -- the tables that stay: not the type's own, not those of its pointers
  let keep : TName → Prop := fun u => u ≠ .obj t ∧ ∀ q ∈ L, u ≠ .ptr q.id
  have keep_obj : ∀ {t'}, keep (.obj t') ↔ t' ≠ t :=
    ⟨fun h e => h.1 (e ▸ rfl), fun h => ⟨fun e => h (TName.obj.inj e), fun _ _ => nofun⟩⟩
  have keep_tbl : ∀ {q u}, q ∈ s.ptrs → u ∈ ptrTables q → (keep u ↔ q.src ≠ some t) := by
    intro q u hq hu
    obtain ⟨hht, rfl⟩ := mem_ptrTables.mp hu
    refine ⟨fun h hs => h.2 q ((hL q).mpr ⟨hq, hs, hht⟩) rfl, fun hs => ⟨nofun, fun q' hq' e => hs ?_⟩⟩
    rw [w.eq_of_id hq ((hL q').mp hq').1 (TName.ptr.inj e)]
    exact ((hL q').mp hq').2.1
  have keep_col : ∀ {q x}, q ∈ s.ptrs → x ∈ ptrCols q → (keep x.1 ↔ q.src ≠ some t) := by
    intro q x hq hx
    rcases mem_ptrCols.mp hx with h | ⟨hht, e, _⟩
    · obtain ⟨t', hs, _, _, _, rfl⟩ := srcCol_eq_some.mp h
      rw [hs, keep_obj]
      exact ⟨fun h e => h (Option.some.inj e), fun h e => h (e ▸ rfl)⟩
    · rw [e]; exact keep_tbl hq (mem_ptrTables.mpr ⟨hht, rfl⟩)
  have hids : ∀ i, i ∈ (s.types.filter (fun d => d.id ≠ t)).map (·.id) ↔ i ∈ s.typeIds ∧ i ≠ t := fun i => by
    simp only [Schema.typeIds, List.mem_map, List.mem_filter, ne_eq, decide_eq_true_eq]
    exact ⟨fun ⟨d, ⟨hd, hne⟩, e⟩ => ⟨⟨d, hd, e⟩, e ▸ hne⟩, fun ⟨⟨d, hd, e⟩, hne⟩ => ⟨d, ⟨hd, e ▸ hne⟩, e⟩⟩
  obtain ⟨c1, e1, hT1, hC1⟩ := execAll_dropPtrTables L c
    (w.ids.sublist ((List.filter_sublist.trans List.filter_sublist).map _)) fun q hq => by
      obtain ⟨hq, _, hht⟩ := (hL q).mp hq
      rw [he.1, mem_layout_tables]
      exact .inr ⟨q, hq, mem_ptrTables.mpr ⟨hht, rfl⟩⟩
  obtain ⟨c2, e2, hT2, hC2⟩ := exec_dropTable (c := c1) (t := .obj t) false <| by
    rw [hT1, he.1, mem_layout_tables]
    exact ⟨.inl ⟨t, ht, rfl⟩, fun _ _ => nofun⟩
  refine ⟨c2, ?_, w.sub List.filter_sublist fun a ha u hu => ?_, fun u => ?_, fun x => ?_⟩
  · rw [execAll_append, e1]; exact execAll_single e2
  · obtain ⟨ha, hne⟩ := List.mem_filter.mp ha
    exact (hids u).mpr ⟨w.srcs a ha u hu, fun e => of_decide_eq_true hne (e ▸ hu)⟩
  · rw [hT2, hT1, he.1, and_left_comm, mem_layout_tables, mem_layout_tables, or_and_right]
    refine or_congr ⟨?_, ?_⟩ (exists_mem_filter_iff fun q hq hu =>
      (keep_tbl hq hu).trans decide_eq_true_iff.symm).symm
    · rintro ⟨⟨i, hi, rfl⟩, hk⟩
      exact ⟨i, (hids i).mpr ⟨hi, keep_obj.mp hk⟩, rfl⟩
    · rintro ⟨i, hi, rfl⟩
      exact ⟨⟨i, ((hids i).mp hi).1, rfl⟩, keep_obj.mpr ((hids i).mp hi).2⟩
  · rw [hC2, hC1, he.2, and_left_comm, mem_layout_cols, mem_layout_cols]
    exact (exists_mem_filter_iff fun q hq hx => (keep_col hq hx).trans decide_eq_true_iff.symm).symm

theorem step_setSingle (i : Nat) (b : Bool) : Sat (Restores c) (emit s (.setSingle i b)) := by
  refine .matchPtr fun p hf => .matchNat fun t hsrc => .ite (fun _ => .none) fun hn => ?_
  have step : ∀ {ops}, LocalOK p { p with single := b } ops →
      Restores c (s.updPtr i fun q => { q with single := b }) ops :=
    step_attr w he hf (fun q => { q with single := b }) (fun _ => rfl) rfl rfl rfl
  refine .ite (fun h => .some (step ?_)) fun h => ?_
  · simp only [Bool.or_eq_true, decide_eq_true_eq] at h
    rcases h with rfl | hc
    · exact local_noop rfl rfl fun _ => .rfl
    · have hd := dead_of_computed hc
      have hd' := dead_of_computed (p := { p with single := b }) hc
      exact local_noop (hd'.1.trans hd.1.symm) (by rw [hd.2, hd'.2]) fun _ => .rfl
  · simp only [Bool.or_eq_true, decide_eq_true_eq, not_or, Bool.not_eq_true] at h
    obtain ⟨hs, hc⟩ := h
    cases b
    · exact .ite nofun fun _ => .some (step (local_setSingle_false hsrc (by simpa using hs) hc hn))
    · exact .ite (fun _ => .some (step (local_setSingle_true hsrc (by simpa using hs) hc hn))) (absurd rfl)

theorem step_setRequired (i : Nat) (b : Bool) : Sat (Restores c) (emit s (.setRequired i b)) :=
  .matchPtr fun _ hf => .some <|
    step_attr w he hf (fun q => { q with required := b }) (fun _ => rfl) rfl rfl rfl
      (local_noop rfl rfl fun _ => .rfl)

theorem step_renamePtr (i : Nat) (nm : PName) (hsafe : safeStep s (.renamePtr i nm) = true) :
    Sat (Restores c) (emit s (.renamePtr i nm)) := by
  refine .matchPtr fun p hf => .ite (fun _ => .none) fun h => .some ?_
  obtain ⟨hp, _⟩ := findPtr_some hf
  simp only [safeStep, hf, beq_iff_eq] at hsafe
  simp only [Bool.or_eq_true, beq_iff_eq, not_or, Bool.not_eq_true] at h
  obtain ⟨⟨hused, hn1⟩, hn2⟩ := h
  refine step_upd w he hf (fun q => { q with name := nm }) (fun _ => rfl) rfl hsafe.symm (Or.inr hused)
    (w.lpids p hp) (w.lpnames p hp) (local_noop rfl ?_ fun _ => .rfl)
  unfold Ptr.srcCol
  cases p.src with
  | none => rfl
  | some t =>
    dsimp only
    rw [bne_iff_ne.mpr hn1, bne_iff_ne.mpr hn2]
    cases (!p.computed && p.single) <;> rfl

theorem step_setExpr (i : Nat) (b : Bool) (hsafe : safeStep s (.setExpr i b) = true) :
    Sat (Restores c) (emit s (.setExpr i b)) := by
  refine .matchPtr fun p hf => .matchNat fun t hsrc => .ite (fun _ => .none) fun h => ?_
  simp only [safeStep, hf, Bool.or_eq_true, beq_iff_eq] at hsafe
  simp only [Bool.or_eq_true, beq_iff_eq, not_or, Bool.not_eq_true] at h
  obtain ⟨hc, hn⟩ := h
  have step := step_attr w he hf (fun q => { q with computed := true, single := b }) (fun _ => rfl) rfl rfl rfl
    (local_unstore (p := p) (dead_of_computed rfl))
  cases hk : p.kind with
  | link => exact .some step
  | prop =>
    -- the storage info of the new schema names the same column only when the cardinality is unchanged
    rw [hk] at hsafe
    obtain rfl : p.single = b := hsafe.resolve_left nofun
    rw [unstoreOps_prop hsrc hc hn] at step
    exact .some step

theorem step_resetExpr (i : Nat) (hsafe : safeStep s (.resetExpr i) = true) :
    Sat (Restores c) (emit s (.resetExpr i)) := by
  refine .matchPtr fun p hf => .matchNat fun t hsrc => .ite (fun _ => .none) fun h => .some ?_
  simp only [safeStep, hf, Bool.not_eq_eq_eq_not, Bool.not_true] at hsafe
  simp only [Bool.or_eq_true, Bool.not_eq_eq_eq_not, Bool.not_true, not_or, Bool.not_eq_false] at h
  exact step_attr w he hf (fun q => { q with computed := false }) (fun _ => rfl) rfl rfl rfl
    (local_store rfl rfl rfl (dead_of_computed h.1) hsafe)

theorem step_dropPtr (i : Nat) : Sat (Restores c) (emit s (.dropPtr i)) := by
  refine .matchPtr fun p hf => .some ?_
  -- first the pointer loses its storage (as if made computed), then it leaves the schema
  have hd : Dead ({ p with computed := true } : Ptr) := dead_of_computed rfl
  obtain ⟨c', e, _, h1⟩ := step_attr w he hf (fun q => { q with computed := true }) (fun _ => rfl) rfl rfl rfl
    (local_unstore (p := p) hd)
  refine ⟨c', e, w.sub List.filter_sublist fun a ha => w.srcs a (List.mem_filter.mp ha).1, equiv_trans h1 (layout_congr (fun _ => Iff.rfl) ?_)⟩
  intro q hq
  rw [mem_updPtr w hf]
  simp only [List.mem_filter, ne_eq, decide_eq_true_eq]
  exact ⟨fun h => h.resolve_left fun e => hq (e ▸ hd), Or.inr⟩

theorem append_dead {q : Ptr} (hd : Dead q) (hid : ∀ a ∈ s.ptrs, a.id ≠ q.id)
    (hname : s.nameUsed q.src q.name = false) (hsrc : ∀ t, q.src = some t → t ∈ s.typeIds) (hlp : q.lprops = []) :
    WF { s with ptrs := s.ptrs ++ [q] } ∧ c.Equiv (layout { s with ptrs := s.ptrs ++ [q] }) := by
  have mem : ∀ {a}, a ∈ s.ptrs ++ [q] ↔ a ∈ s.ptrs ∨ a = q := by simp
  have hnu : ∀ a ∈ s.ptrs, a.src = q.src → a.name ≠ q.name := by simpa [Schema.nameUsed] using hname
  refine ⟨⟨?_, ?_, ?_, ?_, ?_⟩, ?_⟩
  · exact Keyed.nodup_map_snoc w.ids hid
  · intro a ha b hb hs hn
    rcases mem.mp ha with h1 | rfl <;> rcases mem.mp hb with h2 | rfl
    · exact w.names a h1 b h2 hs hn
    · exact absurd hn (hnu a h1 hs)
    · exact absurd hn.symm (hnu b h2 hs.symm)
    · rfl
  · exact ListAux.forall_mem_snoc w.srcs hsrc
  · exact ListAux.forall_mem_snoc w.lpids (hlp ▸ List.nodup_nil)
  · exact ListAux.forall_mem_snoc w.lpnames (hlp ▸ nofun)
  · exact equiv_trans he <| layout_congr (fun _ => .rfl) fun a ha =>
      ⟨fun h => mem.mpr (.inl h), fun h => (mem.mp h).resolve_right fun e => ha (e ▸ hd)⟩

theorem step_createPtr (p : Ptr) : Sat (Restores c) (emit s (.createPtr p)) := by
  refine .ite (fun _ => .none) fun hcond => .ite (fun _ => .none) fun hsrcok => .some ?_
  simp only [Bool.or_eq_true, decide_eq_true_eq, Bool.not_eq_eq_eq_not, Bool.not_true, not_or,
    Bool.not_eq_true, List.isEmpty_eq_false_iff, Classical.not_not] at hcond
  obtain ⟨⟨hfresh, hname⟩, hlps⟩ := hcond
  -- first the pointer joins the schema without storage, then it is stored
  let dead : Ptr := { p with computed := true }
  have hd : Dead dead := dead_of_computed rfl
  have hne : ∀ q ∈ s.ptrs, q.id ≠ p.id := fun q hq h => hfresh (h ▸ mem_ptrIds_of_mem hq)
  obtain ⟨w0, he0⟩ := append_dead w he hd hne hname
    (fun t ht => by rw [show p.src = some t from ht] at hsrcok; simpa using hsrcok) hlps
  have hf0 : Schema.findPtr { s with ptrs := s.ptrs ++ [dead] } p.id = some dead :=
    Keyed.find_of_mem w0.ids (List.mem_append_right _ List.mem_cons_self)
  have h := step_attr w0 he0 hf0 (fun q => { q with computed := p.computed }) (fun _ => rfl) rfl rfl rfl
    (local_store (p := dead) (p' := p) rfl rfl rfl hd (by simp [Ptr.userProps, hlps]))
  have hs' : Schema.updPtr { s with ptrs := s.ptrs ++ [dead] } p.id (fun q => { q with computed := p.computed }) =
      { s with ptrs := s.ptrs ++ [p] } := by
    have e : ∀ q ∈ s.ptrs, (if q.id = p.id then ({ q with computed := p.computed } : Ptr) else q) = q :=
      fun q hq => if_neg (hne q hq)
    show ({ s with ptrs := List.map _ (s.ptrs ++ [dead]) } : Schema) = _
    rw [List.map_append, List.map_congr_left e, List.map_id']
    simp [dead]
  rwa [hs'] at h

/-- what `emit` produces for a link-property command, by whether the property's column is stored
    before / after it -/
def lpropOps (p p' : Ptr) (j : Nat) : Bool → Bool → List Op
  | false, true => lpropStoreOps p p' (.col j) false
  | true, false => lpropUnstoreOps p p' (.col j)
  | _, _ => []

/-- Every link-property command replaces the link property with the id of `new` in one link by `new`
    or (if not `present`) removes it; `g` is what it does to the list. -/
theorem step_lprop {i : Nat} {p : Ptr} (hf : s.findPtr i = some p) (g : List LProp → List LProp)
    (hnd : ((g p.lprops).map (·.id)).Nodup) {new : LProp} (hnew : new.implicitName = false) {present : Bool}
    (hmem : ∀ a, a ∈ g p.lprops ↔ (present = true ∧ a = new) ∨ (a ∈ p.lprops ∧ a.id ≠ new.id))
    {sb : Bool} (hb : CName.col new.id ∈ p.lpropCols ↔ sb = true) :
    Restores c (s.updPtr i fun q => { q with lprops := g q.lprops })
      (lpropOps p { p with lprops := g p.lprops } new.id sb (present && !new.computed)) := by
  have hpl := w.lpnames p (findPtr_some hf).1
  have hpl' : ∀ a ∈ g p.lprops, a.implicitName = false := fun a ha =>
    ((hmem a).mp ha).elim (fun h => h.2 ▸ hnew) fun h => hpl a h.1
  have hcols : ∀ k, k ∈ ({ p with lprops := g p.lprops } : Ptr).lpropCols ↔
      (k = .col new.id ∧ (present && !new.computed) = true) ∨ (k ≠ .col new.id ∧ k ∈ p.lpropCols) := by
    intro k
    rw [mem_lpropCols_plain (p := { p with lprops := g p.lprops }) hpl', mem_lpropCols_plain hpl]
    constructor
    · rintro ⟨a, ha, h1, rfl⟩
      rcases (hmem a).mp ha with ⟨h, rfl⟩ | ⟨h, hne⟩
      · exact .inl ⟨rfl, by rw [h, h1]; rfl⟩
      · exact .inr ⟨fun e => hne (CName.col.inj e), a, h, h1, rfl⟩
    · rintro (⟨rfl, h⟩ | ⟨hne, a, h, h1, rfl⟩)
      · simp only [Bool.and_eq_true, Bool.not_eq_eq_eq_not, Bool.not_true] at h
        exact ⟨new, (hmem new).mpr (.inl ⟨h.1, rfl⟩), h.2, rfl⟩
      · exact ⟨a, (hmem a).mpr (.inr ⟨h, fun e => hne (congrArg _ e)⟩), h1, rfl⟩
  have step : ∀ {ops}, LocalOK p { p with lprops := g p.lprops } ops → Restores c _ ops :=
    step_upd w he hf (fun q => { q with lprops := g q.lprops }) (fun _ => rfl) rfl rfl (.inl rfl) hnd hpl'
  have same : sb = (present && !new.computed) → Restores c _ [] := fun h =>
    step (local_lprops_same p fun k => (hcols k).trans <| by
      by_cases e : k = .col new.id
      · rw [e, hb, h]; simp
      · simp [e])
  generalize (present && !new.computed) = sa at hcols same ⊢
  cases sb <;> cases sa
  · exact same rfl
  · refine step (local_lpropStore p (fun k => (hcols k).trans ?_) (by rw [hb]; nofun))
    by_cases e : k = .col new.id <;> simp [e]
  · exact step (local_lpropUnstore p (fun k => (hcols k).trans (or_iff_right fun h => nomatch h.2)) (hb.mpr rfl))
  · exact same rfl

theorem step_addLProp (i : Nat) (lp : LProp) (hsafe : safeStep s (.addLProp i lp) = true) :
    Sat (Restores c) (emit s (.addLProp i lp)) := by
  refine .matchPtr fun p hf => .ite (fun _ => .none) fun h => .some ?_
  obtain ⟨hp, _⟩ := findPtr_some hf
  simp only [Bool.or_eq_true, decide_eq_true_eq, not_or] at h
  have hfresh : ∀ a ∈ p.lprops, a.id ≠ lp.id := fun a ha e => h.2 (e ▸ List.mem_map_of_mem ha)
  have hplain : lp.implicitName = false := by simpa [safeStep] using hsafe
  have hb : CName.col lp.id ∉ p.lpropCols := by
    rw [mem_lpropCols_plain (w.lpnames p hp)]
    rintro ⟨l, hl, _, e⟩
    exact hfresh l hl (CName.col.inj e).symm
  have := step_lprop w he hf (· ++ [lp]) (Keyed.nodup_map_snoc (w.lpids p hp) hfresh) hplain (present := true)
    (fun a => by
      rw [List.mem_append, List.mem_singleton, or_comm]
      exact or_congr (and_iff_right rfl).symm (iff_self_and.mpr (hfresh a)))
    (sb := false) (iff_of_false hb Bool.false_ne_true)
  rw [hplain, col_of_plain hplain]
  cases hlc : lp.computed <;> rw [hlc] at this <;> exact this

theorem step_dropLProp (i lpid : Nat) : Sat (Restores c) (emit s (.dropLProp i lpid)) := by
  refine .matchPtr fun p hf => .matchLProp fun lp hfind => .some ?_
  obtain ⟨hp, _⟩ := findPtr_some hf
  obtain ⟨hlp, rfl⟩ := Keyed.find_some hfind
  have hpl := w.lpnames p hp
  have := step_lprop w he hf (·.filter fun l => l.id ≠ lp.id)
    (Keyed.nodup_map_filter (w.lpids p hp)) (hpl lp hlp) (present := false)
    (fun a => by simp [List.mem_filter]) (sb := !lp.computed)
    ((col_mem_lpropCols (w.lpids p hp) hpl hlp).trans (by simp))
  rw [col_of_plain (hpl lp hlp)]
  cases hlc : lp.computed <;> rw [hlc] at this <;> exact this

theorem step_mapLProp {i : Nat} {p : Ptr} (hf : s.findPtr i = some p) {lp : LProp} (hlp : lp ∈ p.lprops)
    (f : LProp → LProp) (hid : ∀ l, (f l).id = l.id) (hpf : (f lp).implicitName = false) :
    Restores c (s.updPtr i fun q => q.mapLProp lp.id f)
      (lpropOps p (p.mapLProp lp.id f) lp.id (!lp.computed) (!(f lp).computed)) := by
  obtain ⟨hp, _⟩ := findPtr_some hf
  have hnd := w.lpids p hp
  have := step_lprop w he hf (List.map fun l => if l.id = lp.id then f l else l)
    (by rw [Keyed.map_modify fun l _ => hid l]; exact hnd) hpf (present := true)
    (fun a => by rw [hid]; exact (mem_mapLProp hnd hlp f).trans (or_congr_left (and_iff_right rfl).symm))
    (sb := !lp.computed)
    (by rw [hid, col_mem_lpropCols hnd (w.lpnames p hp) hlp]; simp)
  rwa [hid, Bool.true_and] at this

theorem step_renameLProp (i lpid : Nat) (name : LName) (hsafe : safeStep s (.renameLProp i lpid name) = true) :
    Sat (Restores c) (emit s (.renameLProp i lpid name)) := by
  refine .matchPtr fun p hf => .ite (fun h => .some ?_) fun _ => .none
  obtain ⟨lp, hlp, rfl⟩ := List.mem_map.mp h
  obtain ⟨n, rfl⟩ : ∃ n, name = .other n := by
    cases name with
    | other n => exact ⟨n, rfl⟩
    | _ => simp [safeStep] at hsafe
  have := step_mapLProp w he hf hlp (fun l => { l with name := .other n }) (fun _ => rfl) rfl
  cases hlc : lp.computed <;> rw [hlc] at this <;> exact this

theorem step_setLPropComputed (i lpid : Nat) (b : Bool) :
    Sat (Restores c) (emit s (.setLPropComputed i lpid b)) := by
  refine .matchPtr fun p hf => .matchLProp fun lp hfind => ?_
  obtain ⟨hlp, rfl⟩ := Keyed.find_some hfind
  have hpl := w.lpnames p (findPtr_some hf).1 lp hlp
  have := step_mapLProp w he hf hlp (fun l => { l with computed := b }) (fun _ => rfl) hpl
  rw [col_of_plain hpl, hpl]
  cases hlc : lp.computed <;> cases b <;> rw [hlc] at this
  · exact .ite (fun _ => .some this) (absurd rfl)
  · exact .ite nofun fun _ => .ite (fun _ => .some this) (absurd rfl)
  · exact .ite nofun fun _ => .ite nofun fun _ => .some this
  · exact .ite (fun _ => .some this) (absurd rfl)

end

end EdbVerif.Storage
