/-
Wire level of C14: each reader of `Model/Desc.lean` inverts its packer and stops where the
packer stopped (`Parses`); so one block is parsed back to its flat descriptor (`parseFlat_block`), one
annotation block to its id and text (`parseFlat_annoBlock`).
-/
import EdbVerif.Model.Desc

namespace EdbVerif.Desc

def Parses {α : Type} (rd : Rd α) (w : Bytes) (a : α) : Prop :=
  ∀ rest, rd (w ++ rest) = some (a, rest)

section
variable {α β : Type} {r : Rd α} {w w' : Bytes} {a : α}

theorem bnd_eq {f : α → Rd β} {bs bs' : Bytes} (h : r bs = some (a, bs')) :
    bnd r f bs = f a bs' := by
  rw [bnd, h]

theorem Parses.pure (a : α) : Parses (ret a) [] a := fun _ => rfl

theorem Parses.bind {f : α → Rd β} {b : β} (h₁ : Parses r w a) (h₂ : Parses (f a) w' b) :
    Parses (bnd r f) (w ++ w') b := fun rest => by
  rw [List.append_assoc, bnd_eq (h₁ _)]
  exact h₂ rest

theorem Parses.map {g : α → β} {b : β} (h : Parses r w a) (e : g a = b) :
    Parses (bnd r fun x => ret (g x)) w b := fun rest => by
  rw [bnd_eq (h rest), ← e]
  rfl
end

theorem mod_mul_256 {m k : Nat} (n : Nat) (hk : m * 256 = k) : n / m % 256 * m + n % m = n % k := by
  subst hk
  rw [Nat.mod_mul, Nat.mul_comm, Nat.add_comm]

theorem parses_u8 (a : Nat) : Parses rdU8 (u8 a) a := fun _ => rfl

theorem parses_u16 {n : Nat} (h : n < 65536) : Parses rdU16 (u16 n) n := fun rest => by
  show some (n / 256 % 256 * 256 + n % 256, rest) = _
  rw [mod_mul_256 n (k := 65536) rfl, Nat.mod_eq_of_lt h]

theorem parses_u32 {n : Nat} (h : n < 4294967296) : Parses rdU32 (u32 n) n := fun rest => by
  show some (n / 16777216 % 256 * 16777216 + n / 65536 % 256 * 65536 + n / 256 % 256 * 256 +
    n % 256, rest) = _
  rw [Nat.add_assoc, Nat.add_assoc, mod_mul_256 n (k := 65536) rfl, mod_mul_256 n (k := 16777216) rfl,
    mod_mul_256 n (k := 4294967296) rfl, Nat.mod_eq_of_lt h]

theorem parses_rdN {n : Nat} {l : Bytes} (h : l.length = n) : Parses (rdN n) l l := fun rest => by
  unfold rdN
  rw [if_pos (by rw [List.length_append, h]; exact Nat.le_add_right n _), List.take_left' h,
    List.drop_left' h]

theorem parses_str {s : Bytes} (h : s.length < 4294967296) : Parses rdStr (str s) s :=
  (parses_u32 h).bind (parses_rdN rfl)

theorem parses_bool (b : Bool) : Parses rdBool (bool b) b := fun _ => by cases b <;> rfl

theorem parses_many {α : Type} {rd : Rd α} {wr : α → Bytes} {n : Nat} {l : List α}
    (hn : l.length = n) (h : ∀ x ∈ l, Parses rd (wr x) x) :
    Parses (rdMany rd n) (l.flatMap wr) l := by
  subst hn
  induction l with
  | nil => exact Parses.pure []
  | cons x xs ih =>
    exact (h x List.mem_cons_self).bind
      ((ih fun y hy => h y (List.mem_cons_of_mem _ hy)).map rfl)

theorem parses_refs {l : List Nat} (hl : l.length < 65536) (h : ∀ x ∈ l, x < 65536) :
    Parses rdRefs (refs l) l :=
  (parses_u16 hl).bind (parses_many rfl fun x hx => parses_u16 (h x hx))

theorem parses_nameRef {x : Bytes × Nat} (h₁ : x.1.length < 4294967296) (h₂ : x.2 < 65536) :
    Parses rdNameRef (nameRefB x) x :=
  (parses_str h₁).bind ((parses_u16 h₂).map rfl)

theorem parses_nameRefs {names : List Bytes} {pre : List Nat} (hn : names.length = pre.length)
    (hnl : names.all (·.length < 4294967296) = true) (hpre : ∀ t ∈ pre, t < 65536) :
    Parses (rdMany rdNameRef pre.length) ((names.zip pre).flatMap nameRefB) (names.zip pre) :=
  parses_many (by rw [List.length_zip, hn, Nat.min_self]) fun _ hx =>
    have h := List.of_mem_zip hx
    parses_nameRef (of_decide_eq_true (List.all_eq_true.mp hnl _ h.1)) (hpre _ h.2)

theorem parses_el {p : Proto} {ws : Bool} {x : ShEl × Nat × Nat} (hok : elOK x.1 = true)
    (ht : x.2.1 < 65536) (hs : if p = .v2 ∧ ws = true then x.2.2 < 65536 else x.2.2 = 0) :
    Parses (rdEl p ws) (elB p ws x) x := by
  obtain ⟨⟨fl, c, nm⟩, t, s⟩ := x
  simp only [elOK, Bool.and_eq_true, decide_eq_true_eq] at hok
  obtain ⟨⟨hf, hc⟩, hn⟩ := hok
  unfold rdEl elB
  simp only [List.append_assoc]
  refine (parses_u32 hf).bind ((parses_u8 c).bind ?_)
  rw [hc]
  refine (parses_str hn).bind ((parses_u16 ht).bind ?_)
  by_cases hp : p = .v2 ∧ ws = true
  · rw [if_pos hp] at hs
    rw [if_pos hp, if_pos hp]
    exact (parses_u16 hs).map rfl
  · rw [if_neg hp] at hs
    subst hs
    rw [if_neg hp, if_neg hp]
    exact Parses.pure _

theorem src_replicate (c : Prop) [Decidable c] (n : Nat) :
    ∀ s ∈ List.replicate n 0, if c then s < 65536 else s = 0 := by
  intro s hs
  obtain rfl := (List.mem_replicate.mp hs).2
  split
  · decide
  · rfl

section zip3
variable {α β γ : Type} {a : List α} {b : List β} {c : List γ}

theorem zip_len (h : c.length = b.length) : (b.zip c).length = b.length := by
  rw [List.length_zip, h, Nat.min_self]

theorem zip3_len (h₁ : a.length = b.length) (h₂ : c.length = b.length) :
    (a.zip (b.zip c)).length = b.length := by
  rw [List.length_zip, zip_len h₂, h₁, Nat.min_self]

theorem zip3_map1 (h₁ : a.length = b.length) (h₂ : c.length = b.length) :
    (a.zip (b.zip c)).map (·.1) = a :=
  List.map_fst_zip (Nat.le_of_eq (h₁.trans (zip_len h₂).symm))

theorem zip3_map2 (h₁ : a.length = b.length) (h₂ : c.length = b.length) :
    (a.zip (b.zip c)).map (·.2.1) = b :=
  (List.map_map (g := Prod.fst) (f := Prod.snd)).symm.trans <| by
    rw [List.map_snd_zip (Nat.le_of_eq ((zip_len h₂).trans h₁.symm)),
      List.map_fst_zip (Nat.le_of_eq h₂.symm)]

theorem zip3_map3 (h₁ : a.length = b.length) (h₂ : c.length = b.length) :
    (a.zip (b.zip c)).map (·.2.2) = c :=
  (List.map_map (g := Prod.snd) (f := Prod.snd)).symm.trans <| by
    rw [List.map_snd_zip (Nat.le_of_eq ((zip_len h₂).trans h₁.symm)),
      List.map_snd_zip (Nat.le_of_eq h₂)]
end zip3

theorem parses_els {p : Proto} {ws : Bool} {els : List ShEl} {pre srcs : List Nat}
    (hn : els.length = pre.length) (hs : srcs.length = pre.length) (hel : els.all elOK = true)
    (hpre : ∀ t ∈ pre, t < 65536)
    (hsrc : ∀ s ∈ srcs, if p = .v2 ∧ ws = true then s < 65536 else s = 0) :
    Parses (rdMany (rdEl p ws) pre.length) ((els.zip (pre.zip srcs)).flatMap (elB p ws))
      (els.zip (pre.zip srcs)) :=
  parses_many (zip3_len hn hs) fun _ hx =>
    have h := List.of_mem_zip hx
    have h' := List.of_mem_zip h.2
    parses_el (List.all_eq_true.mp hel _ h.1) (hpre _ h'.1) (hsrc _ h'.2)

theorem metaOK_v1 {m : Option Meta} (h : metaOK .v1 m = true) : m = none := by
  cases m with
  | none => rfl
  | some _ => cases h

theorem metaOK_v2 {m : Option Meta} (h : metaOK .v2 m = true) :
    ∃ x, m = some x ∧ x.name.length < 4294967296 := by
  cases m with
  | none => cases h
  | some x => exact ⟨x, rfl, of_decide_eq_true h⟩

theorem parses_metaAnc {p : Proto} {m : Option Meta} {anc : List Nat} (hm : metaOK p m = true)
    (hv : p = .v2 ∨ anc = []) (hl : anc.length < 65536) (ha : ∀ x ∈ anc, x < 65536) :
    Parses (rdMetaAnc p) (metaAnc p m anc) (m, anc) := by
  cases p
  · obtain rfl := metaOK_v1 hm
    obtain rfl := hv.resolve_left nofun
    exact Parses.pure _
  · obtain ⟨x, rfl, hx⟩ := metaOK_v2 hm
    unfold rdMetaAnc metaAnc
    simp only [List.append_assoc]
    exact (parses_str hx).bind ((parses_bool _).bind ((parses_refs hl ha).map rfl))

/-- references the decoder resolves and throws away -/
def chkOf (p : Proto) (f : Flat) : List Nat :=
  match p, f.h.kind with
  | .v2, .shape true _ => List.replicate f.pre.length 0
  | _, _ => []

theorem chkOf_eq (p : Proto) (f : Flat) :
    chkOf p f = match f.h.kind, p with
      | .shape true _, .v2 => List.replicate f.pre.length 0
      | _, _ => [] := by
  obtain ⟨⟨k, _, _⟩, _, _⟩ := f
  cases k with
  | shape eph els => cases p <;> cases eph <;> rfl
  | _ => cases p <;> rfl

theorem i32_neg1 : i32 (-1) = u32 4294967295 := by decide
theorem i32ToInt_max : i32ToInt 4294967295 = -1 := by decide

macro "hok_simp" h:ident : tactic => `(tactic|
  simp only [hdrOK, Bool.and_eq_true, Bool.or_eq_true, beq_iff_eq, decide_eq_true_eq, and_assoc] at $h:ident)

theorem parseKind_kindBytes (md : Mode) (p : Proto) (f : Flat)
    (hok : hdrOK p f.h f.pre.length f.post.length = true)
    (hsql : md = .doc ∨ ∀ n, f.h.kind ≠ .sqlRow n)
    (hpre : ∀ r ∈ f.pre, r < 65536) (hpost : ∀ r ∈ f.post, r < 65536) :
    Parses (parseKind md p f.h.kind.tag f.h.id) (kindBytes p f) (f, chkOf p f) := by
  obtain ⟨⟨kind, id, m⟩, pre, post⟩ := f
  rw [chkOf_eq]
  hok_simp hok
  obtain ⟨_, hlp, hl, hk⟩ := hok
  -- with the kind known each arm of `parseKind` is reached by computation; rewriting with `parseKind`
  -- would first generate the equation lemmas of its fourteen-fold `if`, which is slow
  cases kind <;> hok_simp hk <;>
    simp only [List.length_eq_zero_iff, List.length_eq_one_iff, Option.isNone_iff_eq_none] at hk
  case set =>
    obtain ⟨rfl, ⟨x, rfl⟩, rfl⟩ := hk
    exact (parses_u16 (hpre x List.mem_cons_self)).map rfl
  case baseScalar =>
    obtain ⟨rfl, rfl, rfl, rfl⟩ := hk
    exact Parses.pure _
  case scalar =>
    obtain ⟨hm, rfl, h0⟩ := hk
    cases p
    · obtain ⟨x, rfl⟩ := h0.resolve_left nofun
      obtain rfl := metaOK_v1 hm
      exact (parses_u16 (hpost x List.mem_cons_self)).map rfl
    · exact (parses_metaAnc hm (.inl rfl) hl hpost).map rfl
  case tuple =>
    obtain ⟨hm, hv⟩ := hk
    exact (parses_metaAnc hm hv hl hpost).bind ((parses_refs hlp hpre).map rfl)
  case namedTuple names =>
    obtain ⟨hm, hv, hn, hnl⟩ := hk
    unfold kindBytes
    simp only [List.append_assoc]
    refine (parses_metaAnc hm hv hl hpost).bind
      ((parses_u16 hlp).bind ((parses_nameRefs hn hnl hpre).map ?_))
    simp only [List.map_fst_zip (Nat.le_of_eq hn), List.map_snd_zip (Nat.le_of_eq hn.symm)]
  case array dims =>
    obtain ⟨hm, hv, ⟨x, rfl⟩, rfl⟩ := hk
    unfold kindBytes
    simp only [List.append_assoc]
    -- the one dimension `-1` is written as `u32 4294967295` and read back as `-1` (`i32_neg1`, `i32ToInt_max`),
    -- found here by evaluation
    exact (parses_metaAnc hm hv hl hpost).bind ((parses_u16 (hpre x List.mem_cons_self)).bind
      ((parses_u16 (n := 1) (by decide)).bind
        ((parses_u32 (n := 4294967295) (by decide)).bind (Parses.pure _))))
  case range | multirange =>
    obtain ⟨hm, hv, x, rfl⟩ := hk
    exact (parses_metaAnc hm hv hl hpost).bind ((parses_u16 (hpre x List.mem_cons_self)).map rfl)
  case enum mem =>
    obtain ⟨hm, hv, rfl, hml, hma⟩ := hk
    unfold kindBytes
    simp only [List.append_assoc]
    exact (parses_metaAnc hm hv hl hpost).bind ((parses_u16 hml).bind ((parses_many rfl fun x hx =>
      parses_str (of_decide_eq_true (List.all_eq_true.mp hma x hx))).map rfl))
  case object =>
    obtain ⟨rfl, hm, rfl, rfl⟩ := hk
    obtain ⟨x, rfl, hx⟩ := metaOK_v2 hm
    exact (parses_str hx).bind ((parses_bool _).map rfl)
  case compound op =>
    obtain ⟨rfl, hm, rfl, hop⟩ := hk
    obtain ⟨x, rfl, hx⟩ := metaOK_v2 hm
    unfold kindBytes nameSd
    simp only [List.append_assoc]
    rcases hop with rfl | rfl <;>
      exact (parses_str hx).bind ((parses_bool _).bind ((parses_u8 _).bind
        ((parses_refs hl hpost).map rfl)))
  case inputShape els =>
    obtain ⟨rfl, hn, hel, rfl⟩ := hk
    have hr : (List.replicate pre.length 0).length = pre.length := List.length_replicate
    refine (parses_u16 hlp).bind ((parses_els hn hr hel hpre (src_replicate _ _)).map ?_)
    simp only [zip3_map1 hn hr, zip3_map2 hn hr]
  case sqlRow names =>
    obtain ⟨rfl, hn, hnl, rfl⟩ := hk
    obtain rfl := hsql.resolve_right fun h => h names rfl
    refine (parses_u16 hlp).bind ((parses_nameRefs hn hnl hpre).map ?_)
    simp only [List.map_fst_zip (Nat.le_of_eq hn), List.map_snd_zip (Nat.le_of_eq hn.symm)]
  case shape eph els =>
    obtain ⟨rfl, hn, hel, h0⟩ := hk
    have hr : (List.replicate pre.length 0).length = pre.length := List.length_replicate
    cases p <;> cases eph
    case v1.false =>
      obtain rfl := List.eq_nil_of_length_eq_zero (eq_of_beq h0)
      refine (parses_u16 hlp).bind ((parses_els hn hr hel hpre (src_replicate _ _)).map ?_)
      simp only [zip3_map1 hn hr, zip3_map2 hn hr]
    case v1.true => cases h0
    case v2.true =>
      obtain rfl := List.eq_nil_of_length_eq_zero (eq_of_beq h0)
      unfold kindBytes
      simp only [List.append_assoc]
      refine (parses_bool true).bind ((parses_u16 (n := 0) (by decide)).bind ((parses_u16 hlp).bind
        ((parses_els hn hr hel hpre (src_replicate _ _)).map ?_)))
      simp only [zip3_map1 hn hr, zip3_map2 hn hr, zip3_map3 hn hr]
    case v2.false =>
      match post, eq_of_beq h0, hpost with
      | ty :: srcs, h0, hpost =>
        have hs : srcs.length = pre.length := Nat.succ.inj h0
        unfold kindBytes
        simp only [List.append_assoc]
        refine (parses_bool false).bind ((parses_u16 (hpost ty List.mem_cons_self)).bind
          ((parses_u16 hlp).bind ((parses_els hn hs hel hpre fun s h => ?_).map ?_)))
        · rw [if_pos ⟨rfl, rfl⟩]
          exact hpost s (List.mem_cons_of_mem _ h)
        · simp only [zip3_map1 hn hs, zip3_map2 hn hs, zip3_map3 hn hs]

theorem Kind.tag_lt (k : Kind) : k.tag < 128 := by cases k <;> exact Nat.le_of_ble_eq_true rfl

theorem hdrOK_id {p : Proto} {h : Hdr} {a b : Nat} (hok : hdrOK p h a b = true) :
    h.id.length = 16 := by
  unfold hdrOK at hok
  exact eq_of_beq (Bool.and_eq_true_iff.mp (Bool.and_eq_true_iff.mp
    (Bool.and_eq_true_iff.mp hok).1).1).1

theorem parseFlat_block (m : Mode) (p : Proto) (f : Flat)
    (hok : hdrOK p f.h f.pre.length f.post.length = true)
    (hsql : m = .doc ∨ ∀ n, f.h.kind ≠ .sqlRow n)
    (hpre : ∀ r ∈ f.pre, r < 65536) (hpost : ∀ r ∈ f.post, r < 65536) :
    Parses (parseFlat m p) (block p f) (.desc f (chkOf p f)) := by
  intro rest
  have ht : ¬ 128 ≤ f.h.kind.tag := Nat.not_le.mpr f.h.kind.tag_lt
  have hid := parses_rdN (hdrOK_id hok) (kindBytes p f ++ rest)
  have hk := parseKind_kindBytes m p f hok hsql hpre hpost rest
  cases p <;> unfold parseFlat block body <;> simp only [List.append_assoc]
  · rw [bnd_eq (a := []) rfl, bnd_eq (parses_u8 _ _), if_neg ht, bnd_eq hid, bnd_eq hk]
    rfl
  · rw [bnd_eq (parses_rdN (n := 4) (l := u32 _) rfl _), bnd_eq (parses_u8 _ _), if_neg ht, bnd_eq hid,
      bnd_eq hk]
    rfl

theorem block_ne_nil (p : Proto) (f : Flat) : block p f ≠ [] := by
  cases p <;> exact List.cons_ne_nil _ _

theorem parseFlat_annoBlock (p : Proto) (id text : Bytes) (hid : id.length = 16)
    (ht : text.length < 4294967296) :
    Parses (parseFlat .doc p) (annoBlock p id text) (.anno id text) := by
  intro rest
  have hid := parses_rdN hid (str text ++ rest)
  cases p <;> unfold parseFlat annoBlock <;> simp only [List.append_assoc]
  · rw [bnd_eq (a := []) rfl, bnd_eq (parses_u8 _ _), if_pos (by decide), bnd_eq hid,
      bnd_eq (parses_str ht _)]
    rfl
  · rw [bnd_eq (parses_rdN (n := 4) (l := u32 _) rfl _), bnd_eq (parses_u8 _ _), if_pos (by decide),
      bnd_eq hid, bnd_eq (parses_str ht _)]
    rfl

theorem annoBlock_ne_nil (p : Proto) (id text : Bytes) : annoBlock p id text ≠ [] := by
  cases p <;> exact List.cons_ne_nil _ _

/-- the real decoder has no arm for the tag `0xff` -/
theorem parseFlat_anno_real (id text rest : Bytes) :
    parseFlat .real .v1 (annoBlock .v1 id text ++ rest) = none := rfl

end EdbVerif.Desc
