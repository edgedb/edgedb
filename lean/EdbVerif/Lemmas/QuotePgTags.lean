/-
C18, dbops: bodies wrapped in dollar tags.  A fixed tag (`$__$` of PLTopBlock, `$____funcbody____$` of
CreateFunction) is safe only for bodies that do not contain it (`fixedTag_lex`).  The code (edgedb f6e6d09)
chooses the tag of a `DO` block / function body against the body (`tag = $__$, $__1$, $__2$, …` until
`tag not in body + tag[:-1]`).  The loop always ends within `len(body)+2` candidates and the chosen tag
cannot be closed by the body (`famTag_lex`).
-/
import EdbVerif.Model.PgLexDollar
import EdbVerif.Lemmas.QuoteDollarTotal

namespace EdbVerif.PgLex
open EdbVerif.Lex

theorem dollarTagChars_name (name X : List Char)
    (hn : ∀ c ∈ name, isIdentCont c = true ∧ c ≠ '$') :
    dollarTagChars (name ++ '$' :: X) = some (name, X) := by
  induction name with
  | nil => simp [dollarTagChars]
  | cons c cs ih =>
    have := hn c (by simp)
    simp [dollarTagChars, this.1, this.2, ih (fun x hx => hn x (by simp [hx]))]

theorem fixedTag_lex (name body rest : List Char)
    (hn : ∀ c ∈ name, isIdentCont c = true ∧ c ≠ '$')
    (hd : ∀ d tl, name = d :: tl → isDigit d = false)
    (h : findSub ('$' :: name ++ ['$']) (body ++ '$' :: name) = none) :
    lexDollarStr (('$' :: name ++ ['$']) ++ body ++ ('$' :: name ++ ['$']) ++ rest) = .ok (body, rest) := by
  have hf := findSub_first ('$' :: name) '$' body rest (by simpa using h)
  have ht := dollarTagChars_name name (body ++ (('$' :: name) ++ ['$']) ++ rest) hn
  simp only [List.cons_append, List.append_assoc, List.nil_append] at hf ht ⊢
  simp only [lexDollarStr, if_true, ht]
  simp only [List.cons_append, hf]
  cases name with
  | nil => simp
  | cons d tl => simp [hd d tl rfl]

/-- `DO LANGUAGE plpgsql $__$ … $__$` -/
def doName : List Char := ['_', '_']
/-- `AS $____funcbody____$ … $____funcbody____$` -/
def funcName : List Char :=
  ['_', '_', '_', '_', 'f', 'u', 'n', 'c', 'b', 'o', 'd', 'y', '_', '_', '_', '_']

def wrap (name body : List Char) : List Char := ('$' :: name ++ ['$']) ++ body ++ ('$' :: name ++ ['$'])

theorem funcTag_lex (body rest : List Char)
    (h : findSub ('$' :: funcName ++ ['$']) (body ++ '$' :: funcName) = none) :
    lexDollarStr (wrap funcName body ++ rest) = .ok (body, rest) :=
  fixedTag_lex funcName body rest (by decide) (by intro d tl e; cases e; decide) h

end EdbVerif.PgLex

namespace EdbVerif.Lex
open EdbVerif.Quote

theorem decStr_eq (n : Nat) : decStr n = Nat.toDigits 10 n :=
  Digits.revDigits_eq_of_le (b := 10) (by decide) (dig := fun d => Char.ofNat (48 + d)) (by decide)
    (aux := revDecAux) rfl (fun _ _ => rfl) n n (Nat.le_refl n)

theorem decStr_inj (a b : Nat) (h : decStr a = decStr b) : a = b :=
  Digits.toDigits_inj (b := 10) (by decide) (by decide) a b (by rwa [decStr_eq, decStr_eq] at h)

theorem decStr_ne_nil (n : Nat) : decStr n ≠ [] :=
  decStr_eq n ▸ Nat.toDigits_ne_nil

def famName (pre suf : List Char) (n : Nat) : List Char :=
  pre ++ (if n = 0 then [] else decStr n) ++ suf

theorem doTagOf_eq (n : Nat) : doTagOf n = '$' :: famName ['_', '_'] [] n ++ ['$'] := by
  simp [doTagOf, famName]

theorem funcTagOf_eq (n : Nat) : funcTagOf n =
    '$' :: famName ['_', '_', '_', '_', 'f', 'u', 'n', 'c', 'b', 'o', 'd', 'y'] ['_', '_', '_', '_'] n ++ ['$'] := by
  simp [funcTagOf, famName]

theorem famName_inj (pre suf : List Char) (a b : Nat) (h : famName pre suf a = famName pre suf b) :
    a = b := by
  have h1 := List.append_cancel_left (List.append_cancel_right h)
  by_cases ha : a = 0 <;> by_cases hb : b = 0
  · omega
  · simp [ha, hb] at h1; exact absurd h1.symm (by simpa using decStr_ne_nil b)
  · simp [ha, hb] at h1; exact absurd h1 (decStr_ne_nil a)
  · simp [ha, hb] at h1; exact decStr_inj a b h1

abbrev tagNameChar (c : Char) : Prop := PgLex.isIdentCont c = true ∧ c ≠ '$' ∧ c ≠ '\n'

theorem famName_chars (pre suf : List Char) (h : ∀ c ∈ pre ++ suf, tagNameChar c) (n : Nat) :
    ∀ c ∈ famName pre suf n, tagNameChar c := by
  intro c hc
  simp only [famName, List.mem_append] at hc h
  rcases hc with (hc | hc) | hc
  · exact h c (Or.inl hc)
  · split at hc
    · simp at hc
    · obtain ⟨d, hd, rfl⟩ := Digits.digitChar_of_mem_toDigits (by decide) n c (decStr_eq n ▸ hc)
      exact (by decide : ∀ d, d < 10 → tagNameChar (Nat.digitChar d)) d hd
  · exact h c (Or.inr hc)

/-- the check `tag in body + tag[:-1]` also protects the wrapped content `\\n{body}\\n` -/
theorem wrapped_safe (name body : List Char) (hn : ∀ c ∈ name, c ≠ '\n')
    (h : findSub ('$' :: name ++ ['$']) (body ++ '$' :: name) = none) :
    findSub ('$' :: name ++ ['$']) (('\n' :: body ++ ['\n']) ++ '$' :: name) = none := by
  rw [findSub_eq_none_iff] at h ⊢
  have hx : '\n' ∉ '$' :: name ++ ['$'] := by
    simp only [List.cons_append, List.mem_cons, List.mem_append, not_or]
    exact ⟨by decide, fun hm => hn _ hm rfl, by simp⟩
  have hpre : ∀ l, ¬ ('$' :: name ++ ['$']) <+: '\n' :: l := by
    rintro l ⟨r, hr⟩
    simp at hr
  have hlen : ('$' :: name ++ ['$']).length = name.length + 2 := by simp
  generalize '$' :: name ++ ['$'] = T at *
  -- an occurrence starts neither at a newline nor inside `$name`, and does not cross the second newline
  intro hin
  rw [List.append_assoc, List.cons_append, List.infix_cons_iff, List.infix_append_iff] at hin
  rcases hin with h1 | h1 | h1 | ⟨l₁, l₂, rfl, h1, h2⟩
  · exact hpre _ h1
  · exact h (List.infix_append_of_infix_left h1)
  · rcases List.infix_cons_iff.mp h1 with h1 | h1
    · exact hpre _ h1
    · have := h1.length_le
      simp at this
      omega
  · rcases List.prefix_cons_iff.mp h2 with rfl | ⟨t, rfl, _⟩
    · rw [List.append_nil] at h
      exact h (List.infix_append_of_infix_left h1.isInfix)
    · exact hx (by simp)

/-- what the code emits between the tags -/
def wrapNl (body : List Char) : List Char := '\n' :: body ++ ['\n']

theorem famTag_lex (pre suf : List Char) (hch : ∀ c ∈ pre ++ suf, tagNameChar c)
    (hhead : ∃ d tl, pre = d :: tl ∧ PgLex.isDigit d = false)
    (tg : Nat → List Char) (htg : ∀ n, tg n = '$' :: famName pre suf n ++ ['$']) (body rest : List Char) :
    ∃ t, tagLoop tg body (body.length + 2) 0 = some t ∧
      PgLex.lexDollarStr (t ++ wrapNl body ++ t ++ rest) = .ok (wrapNl body, rest) := by
  have hchars := famName_chars pre suf hch
  obtain ⟨t, ht⟩ := tagLoop_isSome tg
    (fun n => ⟨_, htg n, fun c hc => by simp [notDollar, (hchars n c hc).2.1]⟩)
    (fun a b h => famName_inj pre suf a b (by simpa [htg] using h)) body
  refine ⟨t, ht, ?_⟩
  obtain ⟨k, rfl, hc⟩ := tagLoop_spec tg body _ _ t ht
  rw [htg, List.dropLast_concat] at hc
  rw [htg]
  refine PgLex.fixedTag_lex (famName pre suf k) (wrapNl body) rest
    (fun c hc => ⟨(hchars k c hc).1, (hchars k c hc).2.1⟩) ?_
    (wrapped_safe _ body (fun c hc' => (hchars k c hc').2.2) (by simpa [contains] using hc))
  obtain ⟨d, tl, rfl, hd⟩ := hhead
  intro d' tl' e
  simp only [famName, List.cons_append, List.cons.injEq] at e
  rw [← e.1]; exact hd

end EdbVerif.Lex
