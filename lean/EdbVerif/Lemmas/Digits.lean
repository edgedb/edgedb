/-
Digits: the models print numbers least significant digit first, by a recursion on fuel (`natDigitsRev`,
`revDecAux`, `revHexAux`).  Each is `Nat.toDigits b n` reversed, given its step equation, what it prints for 0
at fuel 0 (one recursion shape: the one that stops with `[]` there is taken with its fuel shifted by one), and
that its digit function agrees with `Nat.digitChar` below the base; after that core's lemmas on `Nat.toDigits` and
`Nat.ofDigitChars` apply.  Core reads numerals back for bases up to 10 only: `ofDigits` does so up to 16
(`ofDigits_toDigits`), whence `Nat.toDigits` is injective (`toDigits_inj`).
-/
namespace EdbVerif.Digits

/-- the recursion prints one digit per unit of fuel and one more at fuel 0, so fuel `n` suffices; a recursion
    that prints `[]` at fuel 0 is this one with its fuel shifted: `aux := fun f => aux' (f + 1)` -/
theorem revDigits_eq_of_le {b : Nat} (hb : 1 < b) {dig : Nat → Char} (hdig : ∀ d, d < b → dig d = Nat.digitChar d)
    {aux : Nat → Nat → List Char} (h0 : aux 0 0 = [dig 0])
    (hs : ∀ f n, aux (f + 1) n = if n < b then [dig n] else dig (n % b) :: aux f (n / b)) :
    ∀ f n, n ≤ f → (aux f n).reverse = Nat.toDigits b n := by
  intro f
  induction f with
  | zero =>
    intro n h
    obtain rfl : n = 0 := by omega
    rw [h0, Nat.toDigits_of_lt_base (by omega), hdig 0 (by omega)]; rfl
  | succ f ih =>
    intro n h
    rw [hs, Nat.toDigits_eq_if hb]
    split
    · rename_i hn; simp [hdig n hn]
    · rename_i hn
      have hlt : n / b ≤ f := by
        have : n / b < n := Nat.div_lt_self (by omega) hb
        omega
      rw [List.reverse_cons, ih _ hlt, hdig _ (Nat.mod_lt _ (by omega))]

/-- core has this for bases up to 10 only, as `Nat.isDigit_of_mem_toDigits` -/
theorem digitChar_of_mem_toDigits {b : Nat} (hb : 1 < b) (n : Nat) :
    ∀ c ∈ Nat.toDigits b n, ∃ d, d < b ∧ c = Nat.digitChar d := by
  induction n using Nat.strongRecOn with
  | _ n ih =>
    intro c hc
    rw [Nat.toDigits_eq_if hb] at hc
    split at hc
    · exact ⟨n, ‹n < b›, List.mem_singleton.mp hc⟩
    · rcases List.mem_append.mp hc with hc | hc
      · exact ih _ (Nat.div_lt_self (by omega) hb) c hc
      · exact ⟨n % b, Nat.mod_lt n (by omega), List.mem_singleton.mp hc⟩

/-- the value of a digit character, `0`–`9` and `a`–`f` -/
def digitVal (c : Char) : Nat := if c.toNat < 58 then c.toNat - 48 else c.toNat - 87

/-- a numeral read back, most significant digit first (core's `Nat.ofDigitChars` stops at base 10) -/
def ofDigits (b : Nat) (l : List Char) : Nat := l.foldl (fun s c => b * s + digitVal c) 0

theorem digitVal_digitChar : ∀ d, d < 16 → digitVal (Nat.digitChar d) = d := by decide

theorem ofDigits_toDigits {b : Nat} (hb : 1 < b) (hb' : b ≤ 16) (n : Nat) : ofDigits b (Nat.toDigits b n) = n := by
  induction n using Nat.strongRecOn with
  | _ n ih =>
    rw [Nat.toDigits_eq_if hb]
    split
    · exact (Nat.mul_zero b ▸ Nat.zero_add _).trans (digitVal_digitChar n (by omega))
    · have := Nat.mod_lt n (show 0 < b by omega)
      rw [ofDigits, List.foldl_append, ← ofDigits, ih _ (Nat.div_lt_self (by omega) hb)]
      exact (congrArg (b * (n / b) + ·) (digitVal_digitChar _ (by omega))).trans (Nat.div_add_mod n b)

theorem toDigits_inj {b : Nat} (hb : 1 < b) (hb' : b ≤ 16) (n m : Nat) (h : Nat.toDigits b n = Nat.toDigits b m) :
    n = m := by
  rw [← ofDigits_toDigits hb hb' n, h, ofDigits_toDigits hb hb' m]

end EdbVerif.Digits
