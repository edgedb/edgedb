/-
C12 — the primitives produce values of the type `primRet` announces.
-/
import EdbVerif.Lemmas.TypesVal

namespace EdbVerif.Types
open EdbVerif.Gen.Types

theorem resultTags : (Fn.all.all fun f => Scalar.all.all fun s =>
      match arithResult f s with
      | some r => isNumeric r
      | none => true) = true ∧
    (Scalar.all.all fun s =>
      (match sumResult s with
       | some r => isNumeric r
       | none => true) &&
      (match meanResult s with
       | some r => isNumeric r
       | none => true)) = true := by decide +kernel

theorem arithResult_numeric {f : Fn} {s r : Scalar} (h : arithResult f s = some r) :
    isNumeric r = true := by
  have := List.all_eq_true.1 (List.all_eq_true.1 resultTags.1 f (Fn.mem_all f)) s (Scalar.mem_all s)
  rwa [h] at this

theorem sumResult_numeric {s r : Scalar} (h : sumResult s = some r) : isNumeric r = true := by
  have := List.all_eq_true.1 resultTags.2 s (Scalar.mem_all s)
  rw [Bool.and_eq_true, h] at this
  exact this.1

theorem meanResult_numeric {s r : Scalar} (h : meanResult s = some r) : isNumeric r = true := by
  have := List.all_eq_true.1 resultTags.2 s (Scalar.mem_all s)
  rw [Bool.and_eq_true, h] at this
  exact this.2

def BagsOK : List (List Val) → List Ty → Prop
  | [], [] => True
  | b :: bs, t :: ts => (∀ v ∈ b, hasTypeB v t = true) ∧ BagsOK bs ts
  | _, _ => False

theorem product_typed : ∀ (bags : List (List Val)) (ts : List Ty), BagsOK bags ts →
    ∀ vs ∈ product bags, hasTypeL vs ts = true
  | [], [], _, vs, h => by simp [product] at h; subst h; rfl
  | b :: bs, t :: ts, hb, vs, h => by
    simp only [product, List.mem_flatMap, List.mem_map] at h
    obtain ⟨v, hv, r, hr, rfl⟩ := h
    simp only [hasTypeL, Bool.and_eq_true]
    exact ⟨hb.1 v hv, product_typed bs ts hb.2 r hr⟩
  | [], _ :: _, hb, _, _ | _ :: _, [], hb, _, _ => hb.elim

theorem convBags_ok : ∀ (bags : List (List Val)) (ts ptys : List Ty), BagsOK bags ts →
    convertibleL ts ptys = true → BagsOK (convBags ptys bags) ptys
  | [], [], [], _, _ => by simp [convBags, BagsOK]
  | b :: bs, t :: ts, p :: ps, hb, hc => by
    simp only [convertibleL, Bool.and_eq_true] at hc
    simp only [convBags, BagsOK]
    refine ⟨?_, convBags_ok bs ts ps hb.2 hc.2⟩
    intro v hv
    simp only [List.mem_map] at hv
    obtain ⟨w, hw, rfl⟩ := hv
    exact convVal_hasType w t p (hb.1 w hw) hc.1
  | [], _ :: _, _, hb, _ | _ :: _, [], _, hb, _ => hb.elim
  | [], [], _ :: _, _, hc | _ :: _, _ :: _, [], _, hc => by cases hc

theorem same_of_if {t u r : Ty} (hr : (if (t == u) = true then some t else none) = some r) :
    t = r ∧ u = r := by
  split at hr
  · rename_i he
    cases hr
    exact ⟨rfl, (eq_of_beq he).symm⟩
  · cases hr

theorem arith2_typed {f : Fn} {s s' : Scalar} {a c : Int} {b d : Nat} {r : Ty} {v : Val}
    (hr : (if (s == s') = true then Option.map (fun r => Ty.scalar (.base r)) (arithResult f s) else none) = some r)
    (h1 : (if (s == s') = true then
        match arithResult f s, ratArith f { n := a, d := b } { n := c, d := d } with
        | some r, some x => some (Val.num r x.n x.d)
        | _, _ => none
      else none) = some v) : hasTypeB v r = true := by
  split at h1
  · rename_i hs
    simp only [hs, ↓reduceIte, Option.map_eq_some_iff] at hr
    obtain ⟨r', hr', rfl⟩ := hr
    rw [hr'] at h1
    split at h1
    · rename_i r'' x h2 _
      cases h2
      cases h1
      simp [hasTypeB, arithResult_numeric hr']
    · cases h1
  · cases h1

theorem prim1_typed (f : Fn) (vs : List Val) (ptys : List Ty) (r : Ty) (v : Val)
    (hv : hasTypeL vs ptys = true) (hr : primRet f ptys = some r) (h1 : prim1 f vs = some v) :
    hasTypeB v r = true := by
  have hp := typeOfL_of_hasTypeL vs ptys hv
  subst hp
  unfold prim1 at h1
  -- `h_n` is the `n`-th pattern of `prim1`, alternatives of one arm counted singly
  split at h1 <;> try cases h1
  case h_1 | h_2 =>  -- unary `+`, `-`
    simp only [typeOfL, typeOf, hasTypeL, hasTypeB, BEq.rfl, Bool.true_and, Bool.and_true] at hv
    rw [show primRet _ _ = if isNumeric _ then _ else _ from rfl, if_pos hv] at hr
    cases hr
    simp [hasTypeB, hv]
  case h_27 =>  -- `math::abs`
    cases hr
    simpa [typeOfL, typeOf, hasTypeL, hasTypeB] using hv
  case h_3 | h_4 | h_5 | h_6 | h_7 | h_8 | h_9 =>  -- binary `+ - * / // % ^`
    exact arith2_typed hr h1
  case h_20 =>  -- `++` on arrays
    simp only [typeOfL, typeOf, hasTypeL, hasTypeB, Bool.and_true, Bool.and_eq_true] at hv
    obtain ⟨rfl, h⟩ := same_of_if hr
    cases h
    simp only [typeOf, hasTypeB, Bool.and_eq_true, allHaveType_iff, List.mem_append] at hv ⊢
    exact ⟨hv.1.1, fun w hw => hw.elim (hv.1.2 w) (hv.2.2 w)⟩
  case h_21 =>  -- `++` on bytes and the like
    simp only [typeOfL, typeOf, hasTypeL, hasTypeB, BEq.rfl, Bool.true_and, Bool.and_true,
      Bool.and_eq_true] at hv
    obtain ⟨rfl, _⟩ := same_of_if hr
    simp [typeOf, hasTypeB, hv.1]
  -- the remaining primitives have a fixed result type, to which `primRet` computes
  all_goals
    cases hr
    rfl

theorem bags1 {a : List Val} {ptys : List Ty} (h : BagsOK [a] ptys) :
    ∃ t, ptys = [t] ∧ ∀ v ∈ a, hasTypeB v t = true := by
  match ptys, h with
  | [t], h => exact ⟨t, rfl, h.1⟩

theorem bags2 {a b : List Val} {ptys : List Ty} (h : BagsOK [a, b] ptys) :
    ∃ t u, ptys = [t, u] ∧ (∀ v ∈ a, hasTypeB v t = true) ∧ ∀ v ∈ b, hasTypeB v u = true := by
  match ptys, h with
  | [t, u], h => exact ⟨t, u, rfl, h.1, h.2.1⟩

theorem bags3 {a b c : List Val} {ptys : List Ty} (h : BagsOK [a, b, c] ptys) :
    ∃ t u w, ptys = [t, u, w] ∧ (∀ v ∈ a, hasTypeB v t = true) ∧ (∀ v ∈ b, hasTypeB v u = true) ∧
      ∀ v ∈ c, hasTypeB v w = true := by
  match ptys, h with
  | [t, u, w], h => exact ⟨t, u, w, rfl, h.1, h.2.1, h.2.2.1⟩

theorem mem_distinct (a : List Val) (v : Val)
    (h : v ∈ List.foldr (fun v acc => if acc.any v.beq = true then acc else v :: acc) [] a) : v ∈ a := by
  induction a with
  | nil => cases h
  | cons x xs ih =>
    simp only [List.foldr] at h
    split at h
    · exact List.mem_cons_of_mem _ (ih h)
    · rcases List.mem_cons.1 h with rfl | h
      · exact List.mem_cons_self
      · exact List.mem_cons_of_mem _ (ih h)

theorem minBy_mem (lt : Val → Val → Bool) (a : List Val) (v : Val) (h : minBy lt a = some v) : v ∈ a := by
  induction a generalizing v with
  | nil => cases h
  | cons x xs ih =>
    simp only [minBy] at h
    split at h
    next => cases h; exact List.mem_cons_self
    next m hm =>
      split at h
      · cases h; exact List.mem_cons_of_mem _ (ih _ hm)
      · cases h; exact List.mem_cons_self

theorem enumFrom_typed (t : Ty) (a : List Val) (i : Nat) (ha : ∀ v ∈ a, hasTypeB v t = true) :
    ∀ v ∈ enumFrom i a, hasTypeB v (.tuple [.scalar (.base .int64), t]) = true := by
  induction a generalizing i with
  | nil => intro v hv; cases hv
  | cons x xs ih =>
    intro v hv
    simp only [enumFrom] at hv
    rcases List.mem_cons.1 hv with rfl | hv
    · simp [hasTypeB, hasTypeL, isNumeric_int64, ha x List.mem_cons_self]
    · exact ih (i + 1) (fun w hw => ha w (List.mem_cons_of_mem _ hw)) v hv

theorem prim_typed (f : Fn) (ptys : List Ty) (bags : List (List Val)) (r : Ty)
    (hb : BagsOK bags ptys) (hr : primRet f ptys = some r) :
    ∀ v ∈ prim f ptys bags, hasTypeB v r = true := by
  intro v hv
  unfold prim at hv
  split at hv
  · simp only [List.mem_filterMap] at hv
    obtain ⟨vs, hvs, h1⟩ := hv
    exact prim1_typed f vs ptys r v (product_typed bags ptys hb vs hvs) hr h1
  · split at hv
    case h_1 =>  -- UNION
      obtain ⟨t, u, rfl, ha, hb'⟩ := bags2 hb
      obtain ⟨rfl, rfl⟩ := same_of_if hr
      rcases List.mem_append.1 hv with h | h
      · exact ha v h
      · exact hb' v h
    case h_2 =>  -- `??`
      obtain ⟨t, u, rfl, ha, hb'⟩ := bags2 hb
      obtain ⟨rfl, rfl⟩ := same_of_if hr
      split at hv
      · exact hb' v hv
      · exact ha v hv
    case h_3 =>  -- IF
      obtain ⟨t, u, w, rfl, ha, _, hc⟩ := bags3 hb
      obtain ⟨rfl, rfl⟩ := same_of_if hr
      simp only [List.mem_flatMap] at hv
      obtain ⟨cv, _, hcv⟩ := hv
      split at hcv
      · exact ha v hcv
      · exact hc v hcv
      · cases hcv
    case h_4 =>  -- DISTINCT
      obtain ⟨t, rfl, ha⟩ := bags1 hb
      cases hr
      exact ha v (mem_distinct _ v hv)
    case h_5 | h_6 =>  -- EXCEPT, INTERSECT
      obtain ⟨t, u, rfl, ha, _⟩ := bags2 hb
      cases hr
      exact ha v (List.mem_filter.1 hv).1
    case h_7 | h_13 | h_14 =>  -- EXISTS, `all`, `any`
      obtain ⟨t, rfl, _⟩ := bags1 hb
      cases hr
      simp only [List.mem_singleton] at hv
      subst hv
      simp [hasTypeB]
    case h_8 | h_9 =>  -- IN, NOT IN
      obtain ⟨t, u, rfl, _, _⟩ := bags2 hb
      cases hr
      simp only [List.mem_map] at hv
      obtain ⟨_, _, rfl⟩ := hv
      simp [hasTypeB]
    case h_10 | h_11 =>  -- `?=`, `?!=`
      obtain ⟨t, u, rfl, _, _⟩ := bags2 hb
      cases hr
      split at hv
      · simp only [List.mem_singleton] at hv
        subst hv
        simp [hasTypeB]
      · simp only [List.mem_flatMap, List.mem_map] at hv
        obtain ⟨_, _, _, _, rfl⟩ := hv
        simp [hasTypeB]
    case h_12 =>  -- `count`
      obtain ⟨t, rfl, _⟩ := bags1 hb
      cases hr
      simp only [List.mem_singleton] at hv
      subst hv
      simp [hasTypeB, isNumeric_int64]
    case h_15 | h_16 =>  -- `min`, `max`
      obtain ⟨t, rfl, ha⟩ := bags1 hb
      cases hr
      simp only [Option.mem_toList] at hv
      exact ha v (minBy_mem _ _ v hv)
    case h_17 =>  -- `array_agg`
      obtain ⟨t, rfl, ha⟩ := bags1 hb
      have hr' : (if t.isArray then none else some (Ty.array t)) = some r := hr
      split at hr'
      · cases hr'
      · cases hr'
        simp only [List.mem_singleton] at hv
        subst hv
        simp only [hasTypeB, Bool.and_eq_true]
        exact ⟨Ty.beq_refl t, (allHaveType_iff _ _).2 ha⟩
    case h_18 =>  -- `array_unpack`
      obtain ⟨t, rfl, ha⟩ := bags1 hb
      simp only [List.mem_flatMap] at hv
      obtain ⟨w, hw, hvw⟩ := hv
      have hwt := ha w hw
      split at hvw
      · cases t with
        | array t' =>
          cases hr
          simp only [hasTypeB, Bool.and_eq_true] at hwt
          exact (allHaveType_iff _ _).1 hwt.2 v hvw
        | _ => cases hwt
      · cases hvw
    case h_19 =>  -- `enumerate`
      obtain ⟨t, rfl, ha⟩ := bags1 hb
      cases hr
      exact enumFrom_typed t _ 0 ha v hv
    case h_20 =>  -- `sum`
      split at hv
      · rename_i s
        have hr' : (sumResult s).map (fun r => Ty.scalar (.base r)) = some r := hr
        simp only [Option.map_eq_some_iff] at hr'
        obtain ⟨r', hr', rfl⟩ := hr'
        simp only [hr', List.mem_singleton] at hv
        subst hv
        simp [hasTypeB, sumResult_numeric hr']
      · cases hv
    case h_21 =>  -- `math::mean`
      split at hv
      · rename_i s
        have hr' : (meanResult s).map (fun r => Ty.scalar (.base r)) = some r := hr
        simp only [Option.map_eq_some_iff] at hr'
        obtain ⟨r', hr', rfl⟩ := hr'
        simp only [hr'] at hv
        split at hv
        · split at hv
          · simp only [List.mem_singleton] at hv
            subst hv
            rename_i h1 _ _ _
            cases h1
            simp [hasTypeB, meanResult_numeric hr']
          · cases hv
        · cases hv
      · cases hv
    case h_22 => cases hv  -- no primitive

end EdbVerif.Types
