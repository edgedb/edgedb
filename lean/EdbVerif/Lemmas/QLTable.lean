/-
C01 — finite facts about the GENERATED file `Gen/Prec.lean` and about `isStopTok`: what `matchBin`
does on an operator's own tokens, on `IS`, `IF`, `[`, `.` and on the stop tokens (these the proofs about
`loop` do not cite: they evaluate `matchBin` on the token at hand), and the comparisons between
precedence levels that the round-trip proof needs.  When the grammar changes and the regenerated table
no longer satisfies one of them, this file stops compiling and names the fact.
-/
import EdbVerif.Model.QLSpec

namespace EdbVerif.QL
open EdbVerif.QLLex EdbVerif.Gen.Prec

theorem matchBin_toks (op : BOp) (r : List Tok) : matchBin (op.toks ++ r) = some (op, r) := by
  cases op <;> rfl

theorem laLvl_pos (op : BOp) : op.laLvl ≠ 0 := by
  cases op <;> decide

theorem matchBin_is (r : List Tok) : matchBin (.kw .is :: r) = none := rfl
theorem matchBin_if (r : List Tok) : matchBin (.kw .if :: r) = none := rfl
theorem matchBin_lbracket (r : List Tok) : matchBin (.p .lbracket :: r) = none := rfl

theorem matchBin_dot (r : List Tok) : matchBin (.p .dot :: r) = none := rfl

theorem toks_ne_lparen (op : BOp) (r r' : List Tok) : op.toks ++ r ≠ .p .lparen :: r' :=
  fun h => nomatch (matchBin_toks op r).symm.trans (congrArg matchBin h)

theorem stopTok_cases {t : Tok} (h : isStopTok t = true) :
    t = .p .rparen ∨ t = .p .comma ∨ t = .p .rbracket ∨ t = .p .rbrace ∨ t = .kw .else ∨
      t = .kw .then := by
  unfold isStopTok at h
  split at h <;> simp at h ⊢

theorem matchBin_stop (t : Tok) (r : List Tok) (h : isStopTok t = true) :
    matchBin (t :: r) = none := by
  obtain rfl | rfl | rfl | rfl | rfl | rfl := stopTok_cases h <;> rfl

theorem isLaLvl_pos : isLaLvl ≠ 0 := by decide
theorem ifLaLvl_pos : ifLaLvl ≠ 0 := by decide
theorem if_lt_not : ifLaLvl < notLvl := by decide
theorem not_le_unop (op : UOp) : notLvl ≤ op.lvl := by cases op <;> decide
theorem not_le_uplus : notLvl ≤ uplusLvl := not_le_unop .plus
theorem not_le_distinct : notLvl ≤ distinctLvl := not_le_unop .distinct
theorem not_le_typecast : notLvl ≤ typecastLvl := by decide
theorem not_le_detached : notLvl ≤ detachedLvl := by decide
theorem ifRhs_le_bracket : rhsMin ifRuleLvl ifAssoc ≤ bracketLvl := by decide
theorem ifThen_le_bracket : ifThenRuleLvl ≤ bracketLvl := by decide
theorem bracket_le_top : bracketLvl ≤ topLvl := by decide
theorem bracket_le_dot : bracketLvl ≤ dotLvl := by decide
theorem dot_le_top : dotLvl ≤ topLvl := by decide
theorem rhsMin_le_bracket (op : BOp) : rhsMin op.ruleLvl op.assoc ≤ bracketLvl := by
  cases op <;> decide

end EdbVerif.QL
