/-
C19: `from_json(to_json(m)) == m` – the map level, frozensets and atoms.
-/
import EdbVerif.Lemmas.Config
namespace EdbVerif.Config

theorem Scope.ofName_name (sc : Scope) : Scope.ofName sc.name = some sc := by
  cases sc <;> simp [Scope.ofName, Scope.name]

/-- the JSON entry `to_json_obj` writes for one setting -/
def entryJson (k : String) (sv : SV) (j : JV) : JV :=
  .obj [("name", .str k), ("source", .str sv.source), ("scope", .str sv.scope.name), ("value", j)]

theorem entryFromJson_entryJson (sp : Spec) (k : String) (s : Setting) (sv : SV) (j : JV)
    (hn : sv.name = k) (hv : valueFromJson sp s j = .ok sv.value) :
    entryFromJson sp k s (entryJson k sv j) = .ok sv := by
  cases sv
  simp_all [entryFromJson, entryJson, jget, List.find?, Scope.ofName_name]

theorem json_roundtrip_aux (sp : Spec) : ∀ (m acc : SMap),
    (acc ++ m).WF →
    (∀ kv ∈ m, ∃ s, sp.get kv.1 = some s ∧ kv.2.name = kv.1 ∧ RT sp s kv.2.value) →
    ∃ es, mapE (toJsonEntry sp) m = .ok es ∧
      fromJsonEntries sp es acc = .ok (acc ++ m) := by
  intro m
  induction m with
  | nil => intro acc _ _; exact ⟨[], rfl, by simp [fromJsonEntries]⟩
  | cons kv r ih =>
    intro acc hwf hent
    obtain ⟨k, sv⟩ := kv
    obtain ⟨s, hs, hn, j, hj1, hj2⟩ := hent (k, sv) (by simp)
    have hk : k ∉ acc.keys := by
      unfold SMap.WF SMap.keys at hwf
      simp only [List.map_append, List.map_cons] at hwf
      rw [List.nodup_append] at hwf
      intro hmem
      exact hwf.2.2 k hmem k List.mem_cons_self rfl
    have hwf' : ((acc ++ [(k, sv)]) ++ r).WF := by simpa using hwf
    obtain ⟨es, he1, he2⟩ := ih (acc ++ [(k, sv)]) hwf' (fun kv h => hent kv (by simp [h]))
    refine ⟨(k, entryJson k sv j) :: es, ?_, ?_⟩
    · apply mapE_cons_ok _ he1
      simp only [toJsonEntry, hs, hj1, entryJson]
    · unfold fromJsonEntries
      simp only [hs, entryFromJson_entryJson sp k s sv j hn hj2]
      rw [SMap.set_of_not_mem acc k sv hk, he2, List.append_assoc]
      rfl

theorem json_roundtrip (sp : Spec) (m : SMap) (hwf : m.WF)
    (hent : ∀ kv ∈ m, ∃ s, sp.get kv.1 = some s ∧ kv.2.name = kv.1 ∧ RT sp s kv.2.value) :
    ∃ j, toJson sp m = .ok j ∧ fromJson sp j = .ok m := by
  obtain ⟨es, h1, h2⟩ := json_roundtrip_aux sp m [] (by simpa using hwf) hent
  refine ⟨.obj es, ?_, ?_⟩
  · unfold toJson; rw [h1]
  · simpa [fromJson] using h2

theorem dedupPy_of_PD : ∀ (l acc : List Scalar), PD (acc.reverse ++ l) → dedupPy acc l = acc.reverse ++ l := by
  intro l
  induction l with
  | nil => intro acc _; simp [dedupPy]
  | cons x r ih =>
    intro acc h
    have hx : memPy x acc = false :=
      List.any_eq_false.2 fun a ha => by
        simp [(List.pairwise_append.1 h).2.2 a (List.mem_reverse.2 ha) x List.mem_cons_self]
    simpa [dedupPy, hx] using ih (x :: acc) (by simpa using h)

theorem mkSet_of_PD (l : List Scalar) (h : PD l) : mkSet l = l := by
  simpa [mkSet] using dedupPy_of_PD l [] (by simpa using h)

theorem dedupPy_PD : ∀ (l acc : List Scalar), PD acc.reverse → PD (dedupPy acc l) := by
  intro l
  induction l with
  | nil => intro acc h; simpa [dedupPy] using h
  | cons x r ih =>
    intro acc h
    unfold dedupPy
    split
    · exact ih acc h
    · rename_i hx
      refine ih _ ?_
      rw [List.reverse_cons]
      refine ListAux.pairwise_snoc.2 ⟨h, fun a ha => ?_⟩
      simpa using List.any_eq_false.1 (Bool.not_eq_true _ ▸ hx) a (List.mem_reverse.1 ha)

theorem mkSet_subset (l : List Scalar) : ∀ x ∈ mkSet l, x ∈ l := by
  have : ∀ (l acc : List Scalar) x, x ∈ dedupPy acc l → x ∈ acc ∨ x ∈ l := by
    intro l
    induction l with
    | nil => intro acc x h; left; simpa [dedupPy] using h
    | cons y r ih =>
      intro acc x h
      unfold dedupPy at h
      split at h
      · exact (ih acc x h).imp_right (List.mem_cons_of_mem y)
      · rcases ih (y :: acc) x h with h | h
        · rcases List.mem_cons.mp h with rfl | h
          · exact Or.inr (by simp)
          · exact Or.inl h
        · exact Or.inr (List.mem_cons_of_mem y h)
  intro x hx
  simpa using this l [] x hx

theorem mkSet_PD (l : List Scalar) : PD (mkSet l) := dedupPy_PD l [] (by simp [PD])

theorem mkSet_idem (l : List Scalar) : mkSet (mkSet l) = mkSet l := mkSet_of_PD _ (mkSet_PD l)

theorem raw_roundtrip (x : Scalar) (h : Raw x) : ∃ j, rawToJson x = .ok j ∧ atomOfJson j = .ok x := by
  cases x <;> simp [Raw] at h <;> exact ⟨_, rfl, rfl⟩

theorem toList_ofList (l : List Char) : (String.ofList l).toList = l := by simp

end EdbVerif.Config
