/-
C12 — the implicit-cast order on types and `commonType` as its (partial) join, lifted from the scalar
table facts.  `implCastable` and `convertible` are `lift`s of their scalar cases, so their order facts are
instances; `commonType … = some …` gets an induction principle over the ways it is established.
-/
import EdbVerif.Lemmas.TypesTable
import EdbVerif.Lemmas.TypesLift

namespace EdbVerif.Types
open EdbVerif.Gen.Types

theorem castableSc_top {a : Sc} {x : Scalar} (ha : a.top = some x) (b : Sc) :
    castableSc a b = true ↔ ∃ y, b.top = some y ∧ castableS x y = true := by
  cases hb : b.top <;> simp [castableSc, castDistSc, ha, hb, castableS]

theorem castableSc_enum {a : Sc} (ha : a.top = none) (b : Sc) : castableSc a b = true ↔ a = b := by
  cases hb : b.top <;> simp [castableSc, castDistSc, ha, hb]
  rintro rfl
  rw [ha] at hb; cases hb

theorem castableSc_refl (a : Sc) : castableSc a a = true := by
  cases ha : a.top with
  | none => exact (castableSc_enum ha a).2 rfl
  | some x => exact (castableSc_top ha a).2 ⟨x, ha, castableS_refl x⟩

theorem castableSc_trans {a b c : Sc} (h1 : castableSc a b = true) (h2 : castableSc b c = true) :
    castableSc a c = true := by
  cases ha : a.top with
  | none => rwa [(castableSc_enum ha b).1 h1]
  | some x =>
    obtain ⟨y, hy, hxy⟩ := (castableSc_top ha b).1 h1
    obtain ⟨z, hz, hyz⟩ := (castableSc_top hy c).1 h2
    exact (castableSc_top ha c).2 ⟨z, hz, castableS_trans hxy hyz⟩

theorem Sc.eq_base {a : Sc} {x : Scalar} (h : a.top = some x) (hd : ∀ c s, a ≠ .derived c s) :
    a = .base x := by
  cases a with
  | base s => rw [Option.some.inj h]
  | derived c s => exact absurd rfl (hd c s)
  | enum n => cases h

theorem castableSc_antisymm {a b : Sc} (ha : ∀ c s, a ≠ .derived c s) (hb : ∀ c s, b ≠ .derived c s)
    (h1 : castableSc a b = true) (h2 : castableSc b a = true) : a = b := by
  cases hx : a.top with
  | none => exact (castableSc_enum hx b).1 h1
  | some x =>
    obtain ⟨y, hy, hxy⟩ := (castableSc_top hx b).1 h1
    obtain ⟨x', hx', hyx⟩ := (castableSc_top hy a).1 h2
    rw [hx] at hx'; cases hx'
    cases castableS_antisymm hxy hyx
    rw [Sc.eq_base hx ha, Sc.eq_base hy hb]

theorem commonSc_sound {a b c : Sc} (h : commonSc a b = some c) :
    (castableSc a c = true ∧ castableSc b c = true) ∧
    ∀ u, castableSc a u = true → castableSc b u = true → castableSc c u = true := by
  unfold commonSc at h
  split at h
  · rename_i x y hx hy
    simp only [Option.map_eq_some_iff] at h
    obtain ⟨z, hz, rfl⟩ := h
    have hl := commonScalar_lub hz
    simp only [castableSc_top hx, castableSc_top hy, castableSc_top (rfl : (Sc.base z).top = some z)]
    refine ⟨⟨⟨z, rfl, hl.1⟩, z, rfl, hl.2.1⟩, ?_⟩
    rintro u ⟨w, hw, h1⟩ ⟨w', hw', h2⟩
    rw [hw] at hw'; cases hw'
    exact ⟨w, hw, hl.2.2 w h1 h2⟩
  · split at h
    · cases h
      subst ‹a = b›
      exact ⟨⟨castableSc_refl _, castableSc_refl _⟩, fun u hu _ => hu⟩
    · cases h
  · cases h

theorem commonSc_complete {a b u : Sc} (h1 : castableSc a u = true) (h2 : castableSc b u = true) :
    ∃ c, commonSc a b = some c := by
  cases ha : a.top with
  | none =>
    cases (castableSc_enum ha u).1 h1
    cases hb : b.top with
    | none => exact ⟨a, by simp [commonSc, ha, (castableSc_enum hb a).1 h2]⟩
    | some y =>
      obtain ⟨w, hw, _⟩ := (castableSc_top hb a).1 h2
      rw [ha] at hw; cases hw
  | some x =>
    obtain ⟨w, hw, h1⟩ := (castableSc_top ha u).1 h1
    cases hb : b.top with
    | none => rw [(castableSc_enum hb u).1 h2, hw] at hb; cases hb
    | some y =>
      obtain ⟨w', hw', h2⟩ := (castableSc_top hb u).1 h2
      rw [hw] at hw'; cases hw'
      cases hz : commonScalar x y with
      | none => exact absurd ⟨h1, h2⟩ (commonScalar_none hz w)
      | some z => exact ⟨.base z, by simp [commonSc, ha, hb, hz]⟩

theorem convertibleSc_refl (a : Sc) : convertibleSc a a = true := by simp [convertibleSc]

theorem convertibleSc_castable {a b : Sc} (h : convertibleSc a b = true) : castableSc a b = true := by
  rcases convertibleSc_iff.1 h with rfl | ⟨x, y, hx, rfl, hxy⟩
  · exact castableSc_refl _
  · exact (castableSc_top hx _).2 ⟨y, rfl, hxy⟩

theorem convertibleSc_trans {a b c : Sc} (h1 : convertibleSc a b = true) (h2 : convertibleSc b c = true) :
    convertibleSc a c = true := by
  rcases convertibleSc_iff.1 h1 with rfl | ⟨x, y, hx, rfl, hxy⟩
  · exact h2
  · rcases convertibleSc_iff.1 h2 with rfl | ⟨y', z, hy', rfl, hyz⟩
    · exact h1
    · cases hy'
      exact convertibleSc_iff.2 (.inr ⟨x, z, hx, rfl, castableS_trans hxy hyz⟩)

theorem commonSc_conv {a b c : Sc} (h : commonSc a b = some c) :
    convertibleSc a c = true ∧ convertibleSc b c = true := by
  unfold commonSc at h
  split at h
  · rename_i x y hx hy
    simp only [Option.map_eq_some_iff] at h
    obtain ⟨z, hz, rfl⟩ := h
    have hl := commonScalar_lub hz
    simp only [convertibleSc, hx, hy, Bool.or_eq_true]
    exact ⟨Or.inr hl.1, Or.inr hl.2.1⟩
  · split at h
    · cases h
      subst ‹a = b›
      exact ⟨convertibleSc_refl _, convertibleSc_refl _⟩
    · cases h
  · cases h

theorem commonSc_comm (a b : Sc) : commonSc a b = commonSc b a := by
  unfold commonSc
  cases ha : a.top <;> cases hb : b.top <;> simp only [commonScalar_comm]
  simp only [eq_comm (a := b)]
  split
  · rw [‹a = b›]
  · rfl

theorem implCastableL_refl : ∀ as : List Ty, implCastableL as as = true :=
  implCastable_lift.2 ▸ liftL_refl castableSc_refl

theorem implCastableL_trans : ∀ as bs cs : List Ty, implCastableL as bs = true →
    implCastableL bs cs = true → implCastableL as cs = true :=
  implCastable_lift.2 ▸ fun as bs cs h1 h2 => (lift_trans @castableSc_trans).2 as bs h1 cs h2

theorem implCastable_antisymm_both :
    (∀ a b : Ty, implCastable a b = true → plain a = true → plain b = true →
      implCastable b a = true → a = b) ∧
    (∀ as bs : List Ty, implCastableL as bs = true → plainL as = true → plainL bs = true →
      implCastableL bs as = true → as = bs) := by
  rw [implCastable_lift.1, implCastable_lift.2]
  apply lift_induct
  · intro x y h1 pa pb h2
    have ha : ∀ c s, x ≠ .derived c s := by
      intro c s e; subst e; simp [plain] at pa
    have hb : ∀ c s, y ≠ .derived c s := by
      intro c s e; subst e; simp [plain] at pb
    rw [castableSc_antisymm ha hb h1 h2]
  · exact fun _ _ _ _ => rfl
  · intro as bs ih pa pb h2; rw [ih pa pb h2]
  · intro a b ih pa pb h2; rw [ih pa pb h2]
  · exact fun _ _ _ => rfl
  · intro a b as bs ih1 ih2 pa pb h2
    simp only [liftL, plainL, Bool.and_eq_true] at pa pb h2
    rw [ih1 pa.1 pb.1 h2.1, ih2 pa.2 pb.2 h2.2]

theorem implCastableL_antisymm : ∀ as bs : List Ty, plainL as = true → plainL bs = true →
    implCastableL as bs = true → implCastableL bs as = true → as = bs :=
  fun as bs pa pb h1 h2 => implCastable_antisymm_both.2 as bs h1 pa pb h2

theorem Le.refl (a : Ty) : Le a a := by
  rw [Le, implCastable_lift.1]; exact lift_refl castableSc_refl a
theorem Le.trans {a b c : Ty} (h1 : Le a b) (h2 : Le b c) : Le a c := by
  rw [Le, implCastable_lift.1] at *; exact (lift_trans @castableSc_trans).1 a b h1 c h2
theorem Le.antisymm {a b : Ty} (pa : plain a = true) (pb : plain b = true) (h1 : Le a b) (h2 : Le b a) :
    a = b := implCastable_antisymm_both.1 a b h1 pa pb h2

def LeL (as bs : List Ty) : Prop := implCastableL as bs = true

theorem commonType_induct {P : Ty → Ty → Ty → Prop} {PL : List Ty → List Ty → List Ty → Prop}
    (scalar : ∀ x y z, commonSc x y = some z → P (.scalar x) (.scalar y) (.scalar z))
    (same : ∀ t, P t t t)
    (tuple : ∀ as bs cs, PL as bs cs → P (.tuple as) (.tuple bs) (.tuple cs))
    (array : ∀ a b c, P a b c → P (.array a) (.array b) (.array c))
    (nil : PL [] [] [])
    (cons : ∀ a b c as bs cs, P a b c → PL as bs cs → PL (a :: as) (b :: bs) (c :: cs)) :
    (∀ a b c, commonType a b = some c → P a b c) ∧
    (∀ as bs cs, commonTypeL as bs = some cs → PL as bs cs) := by
  apply commonType.mutual_induct
  · intro a b c h  -- scalars
    simp only [commonType, Option.map_eq_some_iff] at h
    obtain ⟨z, hz, rfl⟩ := h
    exact scalar a b z hz
  · intro a b hab c h  -- the same object type
    simp only [commonType, hab, if_true] at h
    cases h
    cases beq_iff_eq.1 hab
    exact same _
  · intro a b hab c h  -- two object types
    simp [commonType, hab] at h
  · intro as bs he c h  -- equal tuples
    simp only [commonType, he, if_true] at h
    cases h
    cases Ty.beqL_eq as bs he
    exact same _
  · intro as bs he ih c h  -- tuples, element-wise
    simp only [commonType, he, Bool.false_eq_true, if_false, Option.map_eq_some_iff] at h
    obtain ⟨cs, hcs, rfl⟩ := h
    exact tuple as bs cs (ih cs hcs)
  · intro a b he c h  -- equal arrays
    simp only [commonType, he, if_true] at h
    cases h
    cases Ty.beq_eq a b he
    exact same _
  · intro a b he ih c h  -- arrays, by element type
    simp only [commonType, he, Bool.false_eq_true, if_false, Option.map_eq_some_iff] at h
    obtain ⟨c', hc', rfl⟩ := h
    exact array a b c' (ih c' hc')
  · intro a b _ _ _ _ c h  -- different kinds of type
    simp [commonType] at h
  · intro cs h
    cases h
    exact nil
  · intro a as b bs c cs hcs hc ih1 ih2 cs' h  -- both results there
    simp only [commonTypeL, hc, hcs, Option.some.injEq] at h
    cases h
    exact cons a b c as bs cs (ih1 c hc) (ih2 cs hcs)
  · intro a as b bs hn _ _ cs h  -- one result missing
    simp only [commonTypeL] at h
    cases h
  · intro as bs _ _ cs h  -- different lengths
    simp [commonTypeL] at h

theorem commonType_sound_both :
    (∀ a b c : Ty, commonType a b = some c → (Le a c ∧ Le b c) ∧ ∀ u, Le a u → Le b u → Le c u) ∧
    (∀ as bs cs : List Ty, commonTypeL as bs = some cs →
      (LeL as cs ∧ LeL bs cs) ∧ ∀ us, LeL as us → LeL bs us → LeL cs us) := by
  apply commonType_induct
  · intro x y z h
    have hh := commonSc_sound h
    refine ⟨hh.1, fun u hu1 hu2 => ?_⟩
    cases u <;> simp only [Le, implCastable, Bool.false_eq_true] at hu1 hu2 ⊢
    exact hh.2 _ hu1 hu2
  · exact fun t => ⟨⟨Le.refl t, Le.refl t⟩, fun u hu _ => hu⟩
  · intro as bs cs ih
    refine ⟨ih.1, fun u hu1 hu2 => ?_⟩
    cases u <;> simp only [Le, implCastable, Bool.false_eq_true] at hu1 hu2 ⊢
    exact ih.2 _ hu1 hu2
  · intro a b c ih
    refine ⟨ih.1, fun u hu1 hu2 => ?_⟩
    cases u <;> simp only [Le, implCastable, Bool.false_eq_true] at hu1 hu2 ⊢
    exact ih.2 _ hu1 hu2
  · exact ⟨⟨rfl, rfl⟩, fun us h _ => h⟩
  · intro a b c as bs cs i1 i2
    simp only [LeL, implCastableL, Bool.and_eq_true]
    refine ⟨⟨⟨i1.1.1, i2.1.1⟩, i1.1.2, i2.1.2⟩, fun us hu1 hu2 => ?_⟩
    cases us <;> simp only [implCastableL, Bool.and_eq_true, Bool.false_eq_true] at hu1 hu2 ⊢
    exact ⟨i1.2 _ hu1.1 hu2.1, i2.2 _ hu1.2 hu2.2⟩

theorem commonType_sound (a b c : Ty) (h : commonType a b = some c) :
    (Le a c ∧ Le b c) ∧ ∀ u, Le a u → Le b u → Le c u := commonType_sound_both.1 a b c h

theorem commonTypeL_sound : ∀ as bs cs : List Ty, commonTypeL as bs = some cs →
    (LeL as cs ∧ LeL bs cs) ∧ ∀ us, LeL as us → LeL bs us → LeL cs us :=
  commonType_sound_both.2

theorem commonType_complete_both :
    (∀ a u : Ty, implCastable a u = true →
      ∀ b, implCastable b u = true → ∃ c, commonType a b = some c) ∧
    (∀ as us : List Ty, implCastableL as us = true →
      ∀ bs, implCastableL bs us = true → ∃ cs, commonTypeL as bs = some cs) := by
  rw [implCastable_lift.1, implCastable_lift.2]
  apply lift_induct
  · intro x u h1 b h2
    cases b <;> simp only [lift, Bool.false_eq_true] at h2
    obtain ⟨c, hc⟩ := commonSc_complete h1 h2
    exact ⟨.scalar c, by simp [commonType, hc]⟩
  · intro n b h2
    cases b <;> simp only [lift, Bool.false_eq_true, beq_iff_eq] at h2
    exact ⟨.obj n, by simp [commonType, h2]⟩
  · intro as us ih b h2
    cases b <;> simp only [lift, Bool.false_eq_true] at h2
    obtain ⟨cs, hcs⟩ := ih _ h2
    simp only [commonType]
    split
    · exact ⟨_, rfl⟩
    · exact ⟨.tuple cs, by simp [hcs]⟩
  · intro a u ih b h2
    cases b <;> simp only [lift, Bool.false_eq_true] at h2
    obtain ⟨c, hc⟩ := ih _ h2
    simp only [commonType]
    split
    · exact ⟨_, rfl⟩
    · exact ⟨.array c, by simp [hc]⟩
  · intro bs h2
    cases bs <;> simp only [liftL, Bool.false_eq_true] at h2
    exact ⟨[], rfl⟩
  · intro a u as us ih1 ih2 bs h2
    cases bs <;> simp only [liftL, Bool.and_eq_true, Bool.false_eq_true] at h2
    obtain ⟨c, hc⟩ := ih1 _ h2.1
    obtain ⟨cs, hcs⟩ := ih2 _ h2.2
    exact ⟨c :: cs, by simp [commonTypeL, hc, hcs]⟩

theorem commonType_complete (a b u : Ty) (h1 : Le a u) (h2 : Le b u) : ∃ c, commonType a b = some c :=
  commonType_complete_both.1 a u h1 b h2

theorem commonTypeL_complete : ∀ as bs us : List Ty, LeL as us → LeL bs us →
    ∃ cs, commonTypeL as bs = some cs :=
  fun as bs us h1 h2 => commonType_complete_both.2 as us h1 bs h2

theorem convertible_refl (a : Ty) : convertible a a = true :=
  convertible_lift.1 ▸ lift_refl convertibleSc_refl a

theorem convertibleL_refl : ∀ as : List Ty, convertibleL as as = true :=
  convertible_lift.2 ▸ liftL_refl convertibleSc_refl

theorem convertible_trans (a b c : Ty) (h1 : convertible a b = true) (h2 : convertible b c = true) :
    convertible a c = true := by
  rw [convertible_lift.1] at *; exact (lift_trans @convertibleSc_trans).1 a b h1 c h2

theorem convertibleL_trans : ∀ as bs cs : List Ty, convertibleL as bs = true →
    convertibleL bs cs = true → convertibleL as cs = true :=
  convertible_lift.2 ▸ fun as bs cs h1 h2 => (lift_trans @convertibleSc_trans).2 as bs h1 cs h2

theorem convertible_le : ∀ a b : Ty, convertible a b = true → implCastable a b = true :=
  convertible_lift.1 ▸ implCastable_lift.1 ▸ (lift_mono @convertibleSc_castable).1

theorem convertibleL_le : ∀ as bs : List Ty, convertibleL as bs = true → implCastableL as bs = true :=
  convertible_lift.2 ▸ implCastable_lift.2 ▸ (lift_mono @convertibleSc_castable).2

/-- **value soundness of the common type**: both operands CONVERT to it (no run-time check):
    it is never a user scalar one of the operands is not already an instance of -/
theorem commonType_conv_both :
    (∀ a b c : Ty, commonType a b = some c → convertible a c = true ∧ convertible b c = true) ∧
    (∀ as bs cs : List Ty, commonTypeL as bs = some cs →
      convertibleL as cs = true ∧ convertibleL bs cs = true) := by
  apply commonType_induct
  · exact fun x y z h => commonSc_conv h
  · exact fun t => ⟨convertible_refl t, convertible_refl t⟩
  · exact fun _ _ _ ih => ih
  · exact fun _ _ _ ih => ih
  · exact ⟨rfl, rfl⟩
  · intro a b c as bs cs i1 i2
    simp only [convertibleL, Bool.and_eq_true]
    exact ⟨⟨i1.1, i2.1⟩, i1.2, i2.2⟩

theorem commonType_conv (a b c : Ty) (h : commonType a b = some c) :
    convertible a c = true ∧ convertible b c = true := commonType_conv_both.1 a b c h

theorem commonTypeL_conv : ∀ as bs cs : List Ty, commonTypeL as bs = some cs →
    convertibleL as cs = true ∧ convertibleL bs cs = true :=
  commonType_conv_both.2

theorem commonType_plain_both :
    (∀ a b c : Ty, commonType a b = some c → plain a = true → plain c = true) ∧
    (∀ as bs cs : List Ty, commonTypeL as bs = some cs → plainL as = true → plainL cs = true) := by
  apply commonType_induct
  · intro x y z h _
    unfold commonSc at h
    split at h
    · simp only [Option.map_eq_some_iff] at h
      obtain ⟨z, _, rfl⟩ := h
      rfl
    · rename_i hx _
      split at h
      · cases h
        cases x <;> simp [Sc.top] at hx
        rfl
      · cases h
    · cases h
  · exact fun _ h => h
  · exact fun _ _ _ ih => ih
  · exact fun _ _ _ ih => ih
  · exact fun h => h
  · intro a b c as bs cs i1 i2 h
    simp only [plainL, Bool.and_eq_true] at h ⊢
    exact ⟨i1 h.1, i2 h.2⟩

theorem commonType_plain (a b c : Ty) (pa : plain a = true) (h : commonType a b = some c) :
    plain c = true := commonType_plain_both.1 a b c h pa

theorem commonTypeL_plain : ∀ as bs cs : List Ty, plainL as = true → commonTypeL as bs = some cs →
    plainL cs = true :=
  fun as bs cs pa h => commonType_plain_both.2 as bs cs h pa

theorem implCastableL_length (as bs : List Ty) (h : implCastableL as bs = true) : as.length = bs.length :=
  (lift_induct (P := fun _ _ => True) (PL := fun as bs => as.length = bs.length)
    (fun _ _ _ => trivial) (fun _ => trivial) (fun _ _ _ => trivial) (fun _ _ _ => trivial) rfl
    (fun _ _ _ _ _ h => by simp [h])).2 as bs (implCastable_lift.2 ▸ h)

theorem commonTypeL_length (as bs cs : List Ty) (h : commonTypeL as bs = some cs) :
    as.length = bs.length ∧ cs.length = as.length :=
  (commonType_induct (P := fun _ _ _ => True)
    (PL := fun as bs cs => as.length = bs.length ∧ cs.length = as.length)
    (fun _ _ _ _ => trivial) (fun _ => trivial) (fun _ _ _ _ => trivial) (fun _ _ _ _ => trivial)
    ⟨rfl, rfl⟩ (fun _ _ _ _ _ _ _ h => by simp [h.1, h.2])).2 as bs cs h

/-- `find_common_implicitly_castable_type` returns a least upper bound in the implicit-cast
    (pre)order, and finds one whenever one exists; the result is determined up to mutual castability
    (a user-derived scalar and its concrete base are equivalent there).  This is `C12.common_lub`. -/
theorem commonType_isLUB (a b c : Ty) :
    (commonType a b = some c → IsLUB a b c) ∧
    (IsLUB a b c → ∃ c', commonType a b = some c' ∧ Equiv c' c) := by
  constructor
  · intro h
    have := commonType_sound a b c h
    exact ⟨this.1, fun u hu => this.2 u hu.1 hu.2⟩
  · rintro ⟨⟨h1, h2⟩, h3⟩
    obtain ⟨c', hc'⟩ := commonType_complete a b c h1 h2
    have s := commonType_sound a b c' hc'
    exact ⟨c', hc', s.2 c h1 h2, h3 c' s.1⟩

theorem commonType_isLUB_plain (a b c : Ty) (pa : plain a = true) (pc : plain c = true) :
    commonType a b = some c ↔ IsLUB a b c := by
  constructor
  · exact (commonType_isLUB a b c).1
  · intro h
    obtain ⟨c', hc', he⟩ := (commonType_isLUB a b c).2 h
    have pc' := commonType_plain a b c' pa hc'
    rw [hc', Le.antisymm pc' pc he.1 he.2]

mutual
theorem commonType_comm : ∀ a b : Ty, commonType a b = commonType b a
  | .scalar a, .scalar b => by simp only [commonType, commonSc_comm a b]
  | .obj a, .obj b => by
    simp only [commonType, beq_iff_eq, eq_comm (a := b)]
    split
    · rw [‹a = b›]
    · rfl
  | .tuple as, .tuple bs => by
    rw [commonType, commonType, Ty.beqL_comm bs as, ← commonTypeL_comm as bs]
    split
    · rw [Ty.beqL_eq as bs ‹_›]
    · rfl
  | .array a, .array b => by
    rw [commonType, commonType, Ty.beq_comm b a, ← commonType_comm a b]
    split
    · rw [Ty.beq_eq a b ‹_›]
    · rfl
  | .scalar _, .obj _ | .scalar _, .tuple _ | .scalar _, .array _
  | .obj _, .scalar _ | .obj _, .tuple _ | .obj _, .array _
  | .tuple _, .scalar _ | .tuple _, .obj _ | .tuple _, .array _
  | .array _, .scalar _ | .array _, .obj _ | .array _, .tuple _ => rfl
theorem commonTypeL_comm : ∀ as bs : List Ty, commonTypeL as bs = commonTypeL bs as
  | [], [] => rfl
  | a :: as, b :: bs => by
    simp only [commonTypeL, commonType_comm a b, commonTypeL_comm as bs]
  | [], _ :: _ | _ :: _, [] => rfl
end

end EdbVerif.Types
