/-
C14: the ≥2.0 length prefixes FRAME the stream.  `_finish_typedesc` writes `uint32(len(desc)) + desc`; a client
that does not know a descriptor tag skips `len` bytes.  `frames` (Model/Desc.lean) is that client.  Here: the
prefix of every block the model encoder emits is the length of the body that follows, the walk by prefixes
ends exactly at the end of the stream and visits one block per entry of `uuid_to_pos`.
-/
import EdbVerif.Lemmas.DescEnc

namespace EdbVerif.Desc
variable {dn : Option (Id → Bytes)}

theorem frame_ne_nil (b : Bytes) : frame b ≠ [] := by simp [frame, u32]

theorem frames_succ {fuel : Nat} {bs : Bytes} (h : bs ≠ []) :
    frames (fuel + 1) bs =
      match rdU32 bs with
      | none => none
      | some (n, r) =>
        match rdN n r with
        | none => none
        | some (x, r') =>
          match frames fuel r' with
          | none => none
          | some xs => some (x :: xs) := by
  cases bs with
  | nil => exact absurd rfl h
  | cons b bs => rfl

theorem frames_flatMap (bodies : List Bytes) (fuel : Nat) (hf : (bodies.flatMap frame).length ≤ fuel)
    (hb : ∀ b ∈ bodies, b.length < 4294967296) : frames fuel (bodies.flatMap frame) = some bodies := by
  rw [← List.append_nil (bodies.flatMap frame)] at hf ⊢
  refine ListAux.many_print frames frame id (·.length < 4294967296) [] 0
    (fun b => List.length_pos_iff.mpr (frame_ne_nil b)) (fun f => by cases f <;> rfl) ?_ bodies hb fuel hf
  intro fuel b bs hb h
  rw [frames_succ (List.append_ne_nil_of_left_ne_nil (frame_ne_nil b) _),
    show frame b ++ (bs.flatMap frame ++ []) = u32 b.length ++ (b ++ (bs.flatMap frame ++ [])) from
      List.append_assoc .., parses_u32 hb]
  dsimp only
  rw [parses_rdN (l := b) rfl]
  dsimp only
  rw [h]
  rfl

theorem len_u16s (l : List Nat) : (l.flatMap u16).length = 2 * l.length := by
  induction l with
  | nil => rfl
  | cons a l ih => simp only [List.flatMap_cons, List.length_append, ih, u16, List.length_cons,
      List.length_nil]; omega

theorem len_refs (l : List Nat) : (refs l).length = 2 + 2 * l.length := by
  simp only [refs, List.length_append, len_u16s, u16, List.length_cons, List.length_nil]

theorem len_metaAnc (p : Proto) (m : Option Meta) {a a' : List Nat} (h : a.length = a'.length) :
    (metaAnc p m a).length = (metaAnc p m a').length := by
  unfold metaAnc
  split <;> simp only [List.length_append, len_refs, h, List.length_nil]

theorem len_zipFlat {α β : Type} {F : α × β → Bytes}
    (hF : ∀ a b b', (F (a, b)).length = (F (a, b')).length) :
    ∀ (l : List α) (A A' : List β), A.length = A'.length →
      ((l.zip A).flatMap F).length = ((l.zip A').flatMap F).length
  | [], _, _, _ => by rw [List.zip_nil_left, List.zip_nil_left]
  | _ :: _, [], [], _ => rfl
  | a :: l, b :: A, b' :: A', h => by
    rw [List.zip_cons_cons, List.zip_cons_cons, List.flatMap_cons, List.flatMap_cons,
      List.length_append, List.length_append, hF a b b', len_zipFlat hF l A A' (Nat.succ.inj h)]

theorem len_nameRefs (l : List Bytes) {A A' : List Nat} (h : A.length = A'.length) :
    ((l.zip A).flatMap nameRefB).length = ((l.zip A').flatMap nameRefB).length :=
  len_zipFlat (fun _ _ _ => by unfold nameRefB; simp only [List.length_append]; rfl) l A A' h

theorem len_els (p : Proto) (ws : Bool) (l : List ShEl) {A A' : List (Nat × Nat)}
    (h : A.length = A'.length) :
    ((l.zip A).flatMap (elB p ws)).length = ((l.zip A').flatMap (elB p ws)).length :=
  len_zipFlat (fun _ _ _ => by
    unfold elB
    simp only [List.length_append]
    split <;> rfl) l A A' h

theorem len_kindBytes (p : Proto) (h : Hdr) {pre pre' post post' : List Nat}
    (h1 : pre.length = pre'.length) (h2 : post.length = post'.length) :
    (kindBytes p ⟨h, pre, post⟩).length = (kindBytes p ⟨h, pre', post'⟩).length := by
  have hz : ∀ {X X' : List Nat}, X.length = X'.length → (pre.zip X).length = (pre'.zip X').length :=
    fun hx => by rw [List.length_zip, List.length_zip, h1, hx]
  rcases h with ⟨k, id, mt⟩
  unfold kindBytes
  cases k <;> simp only [List.length_append, len_u16s, len_refs, h1, h2, len_metaAnc p mt h2,
    len_nameRefs _ h1]
  case scalar => cases p <;> simp only [len_u16s, h2, len_metaAnc _ mt h2]
  case inputShape => rw [len_els _ _ _ (hz rfl)]
  case shape eph els =>
    cases p
    · simp only [List.length_append]
      rw [len_els _ _ _ (hz rfl)]
    · cases eph <;> simp only [List.length_append]
      · exact congrArg _ (len_els _ _ _ (hz (X := post.tail) (X' := post'.tail)
          (by rw [List.length_tail, List.length_tail, h2])))
      · exact congrArg _ (len_els _ _ _ (hz rfl))

theorem body_length (p : Proto) (f : Flat) : (body p f).length = bodySize p f.h f.pre.length f.post.length := by
  unfold bodySize body
  simp only [List.length_append]
  rw [len_kindBytes p f.h (pre := f.pre) (post := f.post) (pre' := List.replicate f.pre.length 0)
    (post' := List.replicate f.post.length 0) (by simp) (by simp)]

theorem structWalk_succ {m : Mode} {p : Proto} {fuel : Nat} {bs : Bytes} (h : bs ≠ []) :
    structWalk m p (fuel + 1) bs =
      match parseFlat m p bs with
      | none => none
      | some (_, r) =>
        match structWalk m p fuel r with
        | none => none
        | some xs => some (bs.take (bs.length - r.length) :: xs) := by
  cases bs with
  | nil => exact absurd rfl h
  | cons b bs => rfl

def Reads (m : Mode) (f : Flat) : Prop :=
  ∀ rest, parseFlat m .v2 (block .v2 f ++ rest) = some (.desc f (chkOf .v2 f), rest)

theorem structWalk_flatMap (m : Mode) (fl : List Flat) (fuel : Nat)
    (hf : (fl.flatMap (block .v2)).length ≤ fuel) (hr : ∀ f ∈ fl, Reads m f) :
    structWalk m .v2 fuel (fl.flatMap (block .v2)) = some (fl.map (block .v2)) := by
  rw [← List.append_nil (fl.flatMap (block .v2))] at hf ⊢
  refine ListAux.many_print (structWalk m .v2) (block .v2) (·.map (block .v2)) (Reads m) [] 0
    (fun f => List.length_pos_iff.mpr (block_ne_nil .v2 f)) (fun f => by cases f <;> rfl) ?_ fl hr fuel hf
  intro fuel f fl hr h
  rw [structWalk_succ (List.append_ne_nil_of_left_ne_nil (block_ne_nil .v2 f) _), hr]
  simp only
  rw [h]
  simp [List.take_left']

def Good (m : Mode) (f : Flat) : Prop := (body .v2 f).length < 4294967296 ∧ Reads m f

/-- the buffer is a sequence of framed bodies of flats, one per table entry -/
def FramedSt (m : Mode) (s : St) : Prop :=
  ∃ fl : List Flat, fl.length = s.tbl.length ∧ (∀ f ∈ fl, Good m f) ∧ s.buf = fl.flatMap (block .v2)

theorem framed_kept (m : Mode) (c : Id → Desc) :
    Kept .v2 dn (fun s => s.tbl.length ≤ 65536 → FramedSt m s) (fun u => NodeOK m c .v2 u ∧
      bodySize .v2 u.hdr u.pre.length u.post.length < 4294967296) := by
  intro h pre post s hN hP hpre hpost hfr hlen
  have hlen' := Nat.le_trans (emit_tbl_len .v2 s h pre post) hlen
  obtain ⟨fl, hflen, hgood, hbuf⟩ := hP hlen'
  refine ⟨fl ++ [flatAt s.tbl h pre post], ?_, fun f hf => ?_, ?_⟩
  · rw [emit_tbl_new .v2 s h pre post fun hin => kid_id_ne (fun u hu => (hN u hu).1.canon) (hfr hin),
      List.length_append, List.length_append, hflen]
    rfl
  · rcases List.mem_append.mp hf with hf | hf
    · exact hgood f hf
    · obtain ⟨hok, hb⟩ := hN _ (self_mem_subs _)
      rw [List.mem_singleton.mp hf]
      refine ⟨?_, flatAt_parses hok hpre hpost hlen'⟩
      rw [body_length]
      show bodySize .v2 h (pre.map _).length (post.map _).length < _
      rw [List.length_map, List.length_map]
      exact hb
  · show s.buf ++ _ = _
    rw [hbuf, List.flatMap_append, List.flatMap_singleton]

theorem encL_framed (m : Mode) (c : Id → Desc) : ∀ (ds : List Desc) (s : St), FramedSt m s →
    (∀ u ∈ subsL ds, c u.id = u) →
    (∀ u ∈ subsL ds, bodySize .v2 u.hdr u.pre.length u.post.length < 4294967296) →
    nodesOKL .v2 ds = true → (∀ u ∈ subsL ds, m = .doc ∨ ∀ n, u.hdr.kind ≠ .sqlRow n) →
    (encL .v2 dn s ds).tbl.length ≤ 65536 → FramedSt m (encL .v2 dn s ds) :=
  fun ds s hs hc hb hn hsql => encL_preserves (framed_kept m c) ds s (fun u hu =>
    ⟨⟨hc u hu, hdrOK_of_nodesOK (nodesOKL_of_mem_subsL hn hu), hsql u hu⟩, hb u hu⟩) fun _ => hs

theorem FramedSt.empty (m : Mode) : FramedSt m {} := ⟨[], rfl, by simp, rfl⟩

theorem enc_flats (m : Mode) (dn : Option (Id → Bytes)) (d : Desc) (h : WFDesc .v2 d) (hs : SqlOK m d)
    (hb : BlocksFit .v2 d) : FramedSt m (enc .v2 dn {} d) :=
  enc_preserves (framed_kept m (canon d)) d {} (fun u hu => ⟨h.nodeOK hs u hu, hb u hu⟩)
    (fun _ => FramedSt.empty m) (h.fits_dn dn)

theorem blocks_eq_frames (fl : List Flat) :
    fl.flatMap (block .v2) = (fl.map (body .v2)).flatMap frame := by
  rw [List.flatMap_map]; rfl

/-- **The framing theorem** for any context whose buffer is framed (a fresh one after `enc`: `enc_flats`;
    a derived one: `encL_framed`): the walk by the length prefixes alone consumes the stream exactly, one body
    per entry of `uuid_to_pos`, and the structural reader (`parseFlat`, which ignores the prefixes) cuts it at
    the same places. -/
theorem FramedSt.walks {m : Mode} {s : St} (h : FramedSt m s) :
    ∃ bodies : List Bytes,
      frames s.buf.length s.buf = some bodies ∧
      structWalk m .v2 s.buf.length s.buf = some (bodies.map frame) ∧
      bodies.length = s.tbl.length ∧ s.buf = bodies.flatMap frame := by
  obtain ⟨fl, hlen, hgood, hbuf⟩ := h
  refine ⟨fl.map (body .v2), ?_, ?_, by rw [List.length_map, hlen], hbuf.trans (blocks_eq_frames fl)⟩
  · rw [hbuf, blocks_eq_frames]
    refine frames_flatMap _ _ (Nat.le_refl _) fun b hb => ?_
    obtain ⟨f, hf, rfl⟩ := List.mem_map.mp hb
    exact (hgood f hf).1
  · rw [hbuf, structWalk_flatMap m fl _ (Nat.le_refl _) fun f hf => (hgood f hf).2, List.map_map]
    rfl

theorem annotated_v2 (k : Kind) : annotated .v2 k = false := by cases k <;> rfl

/-- from protocol 2.0 on there are no annotation blocks: `describe()` returns the descriptor blocks -/
theorem encodeA_v2 (dn : Option (Id → Bytes)) (d : Desc) : encodeA .v2 dn d = (enc .v2 dn {} d).buf := by
  have hnil : (enc .v2 dn {} d).ann = [] := by
    cases dn with
    | none => exact enc_ann_none .v2 d
    | some f =>
      apply List.eq_nil_iff_forall_not_mem.mpr
      intro e he
      rcases enc_ann .v2 f d {} e he with h | ⟨u, _, _, ha⟩
      · cases h
      · rw [annotated_v2] at ha; cases ha
  unfold encodeA; rw [hnil]; simp [annoBytes]

theorem exTuple_blocksFit : BlocksFit .v2 exTuple := by decide +kernel

end EdbVerif.Desc
