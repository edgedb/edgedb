/-
C18, EdgeQL string literal: `quote_literal` read back by the tokenizer model.
-/
import EdbVerif.Lemmas.QuoteBasic

namespace EdbVerif.Lex
open EdbVerif.Quote

theorem escapeString_flatMap (s : List Char) : escapeString s = s.flatMap fun c => escapeString [c] := by
  simp only [escapeString, replaceChar, List.flatMap_assoc, List.flatMap_cons, List.flatMap_nil, List.append_nil]

theorem unprintable_lt (c : Char) (h : isUnprintableRE c = true) : c.toNat < 65536 := by
  simp [isUnprintableRE] at h; omega

theorem not_unprintable_not_bidi (c : Char) (h : isUnprintableRE c = false) : isBidi c = false := by
  simp only [isUnprintableRE, Bool.or_eq_false_iff] at h
  simp only [isBidi, Bool.or_eq_false_iff]
  exact ⟨h.1.2, h.2⟩

theorem escapeString_piece (c : Char) (h0 : c.toNat ≠ 0) :
    scanOK '\'' (escapeString [c]) = true ∧ UnqPiece (escapeString [c]) [c] := by
  by_cases h1 : c = '\\'
  · subst h1; exact ⟨rfl, unqPiece_escape ['\\'] _ fun _ => rfl⟩
  by_cases h2 : c = '\''
  · subst h2; exact ⟨rfl, unqPiece_escape ['\''] _ fun _ => rfl⟩
  by_cases h3 : c = Char.ofNat 8
  · subst h3; exact ⟨rfl, unqPiece_escape ['b'] _ fun _ => rfl⟩
  by_cases h4 : c = Char.ofNat 12
  · subst h4; exact ⟨rfl, unqPiece_escape ['f'] _ fun _ => rfl⟩
  by_cases h5 : c = '\n'
  · subst h5; exact ⟨rfl, unqPiece_escape ['n'] _ fun _ => rfl⟩
  by_cases h6 : c = '\r'
  · subst h6; exact ⟨rfl, unqPiece_escape ['r'] _ fun _ => rfl⟩
  by_cases h7 : c = '\t'
  · subst h7; exact ⟨rfl, unqPiece_escape ['t'] _ fun _ => rfl⟩
  have e : escapeString [c] = if isUnprintableRE c then escapeUnprintable c else [c] := by
    simp [escapeString, replaceChar, h1, h2, h3, h4, h5, h6, h7]
  rw [e]
  split
  · rename_i hu
    unfold escapeUnprintable
    split
    · rename_i hn
      exact ⟨scanOK_numEsc _ (Or.inl rfl) 'x' (by decide) _ (isHexLower_hex _).1, unqPiece_x c hn h0⟩
    · exact ⟨scanOK_numEsc _ (Or.inl rfl) 'u' (by decide) _ (isHexLower_hex _).2.1,
        unqPiece_u c (unprintable_lt c hu) h0⟩
  · rename_i hu
    have hp := checkProhibited_none c true h0 (not_unprintable_not_bidi c (by simpa using hu))
    exact ⟨by simp [scanOK, h1, h2, hp], unqPiece_plain c h1⟩

/-- The general shape used by `quote_literal` and by the plain forms of `visit_Constant`: a body made
    of pieces, each walked through by the scanner and decoded to one character. -/
theorem lexString_pieces (q : Char) (hq : q ≠ '\\') (f : Char → List Char) (s rest : List Char)
    (hscan : ∀ c ∈ s, scanOK q (f c) = true) (hunq : ∀ c ∈ s, UnqPiece (f c) [c]) :
    lexString false false q (s.flatMap f ++ q :: rest) = .ok (⟨.str, .str s⟩, rest) := by
  simp [lexString, scanStr_of_scanOK q hq _ rest (scanOK_flatMap q f s hscan), unqStr_flatMap f s hunq]

theorem quoteLiteral_lex (U : UClass) (s rest : List Char)
    (h : ∀ c ∈ s, c.toNat ≠ 0) :
    lexOne U (quoteLiteral s ++ rest) = .ok (⟨.str, .str s⟩, rest) := by
  have := lexString_pieces '\'' (by decide) (fun c => escapeString [c]) s rest
    (fun c hc => (escapeString_piece c (h c hc)).1) (fun c hc => (escapeString_piece c (h c hc)).2)
  rw [quoteLiteral, escapeString_flatMap]
  simpa only [List.cons_append, List.append_assoc, List.nil_append, lexOne_quote U _ (Or.inl rfl)] using this

end EdbVerif.Lex
