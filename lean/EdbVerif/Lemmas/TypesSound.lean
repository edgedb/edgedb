/-
C12 — soundness of `inferType` w.r.t. the reference evaluator.
-/
import EdbVerif.Lemmas.TypesOrder
import EdbVerif.Lemmas.TypesPrim

namespace EdbVerif.Types
open EdbVerif.Gen.Types

theorem lit_typed (l : Lit) : hasTypeB l.val l.ty = true := by
  cases l <;> simp [Lit.val, Lit.ty, hasTypeB, isNumeric_int64, isNumeric_float64,
    isNumeric_bigint, isNumeric_decimal]

theorem foldCommon_ub : ∀ (ts : List Ty) (t c : Ty), foldCommon t ts = some c →
    ∀ x ∈ t :: ts, convertible x c = true
  | [], t, c, h => by
    simp only [foldCommon, Option.some.injEq] at h
    subst h
    intro x hx
    simp only [List.mem_singleton] at hx
    subst hx
    exact convertible_refl x
  | u :: us, t, c, h => by
    simp only [foldCommon] at h
    split at h
    · rename_i c' hc'
      have s := commonType_conv t u c' hc'
      have ih := foldCommon_ub us c' c h
      have hc'c := ih c' List.mem_cons_self
      intro x hx
      rcases List.mem_cons.1 hx with rfl | hx
      · exact convertible_trans _ _ _ s.1 hc'c
      · rcases List.mem_cons.1 hx with rfl | hx
        · exact convertible_trans _ _ _ s.2 hc'c
        · exact ih x (List.mem_cons_of_mem _ hx)
    · cases h

theorem lookupObj_spec {db : DB} {t id : Nat} {o : Obj} (h : lookupObj db t id = some o) :
    o ∈ db ∧ o.t = t := by
  unfold lookupObj at h
  refine ⟨List.mem_of_find?_eq_some h, ?_⟩
  have := List.find?_some h
  simp only [Bool.and_eq_true, beq_iff_eq] at this
  exact this.1

theorem inCalc_call {sch : Schema} {Γ : List Ty} {f : Fn} {args : List Q} {ts : List Ty}
    (h : inferTypes sch Γ args = some ts) :
    inCalc sch Γ (.call f args) = (inCalcL sch Γ args && callOK f ts) := by
  simp only [inCalc, h, callOK]
  cases resolve f ts <;> rfl

theorem callOK_ok {f : Fn} {ts : List Ty} {bd : Bound} (hres : resolve f ts = .ok bd)
    (h : callOK f ts = true) : primRet f bd.ptys = some bd.ret ∧ convertibleL ts bd.ptys = true := by
  simp only [callOK, hres, Bool.and_eq_true] at h
  refine ⟨?_, h.2⟩
  have hpr := h.1
  split at hpr
  · rename_i r hr
    rw [hr, eq_of_beq hpr]
  · cases hpr

def Sound (sch : Schema) (db : DB) (q : Q) : Prop :=
  ∀ (Γ : List Ty) (env : List Val) (τ : Ty),
    hasTypeL env Γ = true → inCalc sch Γ q = true → inferType sch Γ q = some τ →
    ∀ v ∈ eval sch db env q, hasTypeB v τ = true

def SoundL (sch : Schema) (db : DB) (qs : List Q) : Prop :=
  ∀ (Γ : List Ty) (env : List Val) (ts : List Ty),
    hasTypeL env Γ = true → inCalcL sch Γ qs = true → inferTypes sch Γ qs = some ts →
    BagsOK (evalL sch db env qs) ts

theorem SoundL.of_forall {sch : Schema} {db : DB} :
    ∀ {qs : List Q}, (∀ q ∈ qs, Sound sch db q) → SoundL sch db qs
  | [], _, Γ, env, ts, _, _, hi => by
    simp only [inferTypes, Option.some.injEq] at hi
    subst hi
    simp [evalL, BagsOK]
  | q :: qs, h, Γ, env, ts, he, hc, hi => by
    simp only [inferTypes] at hi
    simp only [inCalcL, Bool.and_eq_true] at hc
    split at hi
    · rename_i t ts' ht hts
      cases hi
      simp only [evalL, BagsOK]
      exact ⟨h q List.mem_cons_self Γ env t he hc.1 ht,
        SoundL.of_forall (fun q hq => h q (List.mem_cons_of_mem _ hq)) Γ env ts' he hc.2 hts⟩
    · cases hi

/- The motive for `List Q` is `Sound` of every element; `SoundL.of_forall` turns that into the statement about
`evalL` where an arm needs it (tuple, array, call). -/
theorem sound (sch : Schema) (db : DB) (hdb : Conforms sch db) (q : Q) : Sound sch db q := by
  induction q using Q.rec (motive_2 := fun qs => ∀ q ∈ qs, Sound sch db q) with
  | lit l =>
    intro Γ env τ _ _ hi v hv
    simp only [inferType, Option.some.injEq] at hi
    simp only [eval, List.mem_singleton] at hv
    subst hi; subst hv
    exact lit_typed l
  | empty t =>
    intro Γ env τ _ _ _ v hv
    simp [eval] at hv
  | tuple qs ihqs =>
    intro Γ env τ he hc hi v hv
    simp only [inferType, Option.map_eq_some_iff] at hi
    obtain ⟨ts, hts, rfl⟩ := hi
    simp only [inCalc] at hc
    simp only [eval, List.mem_map] at hv
    obtain ⟨vs, hvs, rfl⟩ := hv
    simp only [hasTypeB]
    exact product_typed _ ts (SoundL.of_forall ihqs Γ env ts he hc hts) vs hvs
  | array qs ihqs =>
    intro Γ env τ he hc hi v hv
    -- the evaluator infers the element type from the run-time tags of `env`; tags are exact, so this is `Γ`
    have hΓ := typeOfL_of_hasTypeL env Γ he
    simp only [eval, hΓ, hi] at hv
    simp only [inferType] at hi
    simp only [inCalc] at hc
    split at hi
    · rename_i t ts hts
      split at hi
      · cases hi
      · simp only [Option.map_eq_some_iff] at hi
        obtain ⟨c, hcm, rfl⟩ := hi
        simp only [List.mem_map] at hv
        obtain ⟨vs, hvs, rfl⟩ := hv
        have hty := product_typed _ (t :: ts) (SoundL.of_forall ihqs Γ env (t :: ts) he hc hts) vs hvs
        simp only [hasTypeB, Bool.and_eq_true]
        exact ⟨Ty.beq_refl c, convAll_of_list vs (t :: ts) c hty (foldCommon_ub ts t c hcm)⟩
    · cases hi
  | call f args ihargs =>
    intro Γ env τ he hc hi v hv
    -- as for arrays: the overload the evaluator selects from the run-time tags is the one selected for `Γ`
    have hΓ := typeOfL_of_hasTypeL env Γ he
    simp only [inferType] at hi
    split at hi
    · rename_i hm
      split at hi
      · rename_i ts hts
        simp only [eval, hΓ, hts, hm, ↓reduceIte] at hv
        cases hres : resolve f ts with
        | ok bd =>
          simp only [hres, Res.ret?, Option.some.injEq] at hi
          simp only [hres] at hv
          rw [inCalc_call hts, Bool.and_eq_true] at hc
          obtain ⟨hpr, hcast⟩ := callOK_ok hres hc.2
          subst hi
          exact prim_typed f bd.ptys _ bd.ret
            (convBags_ok _ ts bd.ptys (SoundL.of_forall ihargs Γ env ts he hc.1 hts) hcast) hpr v hv
        | noMatch => simp [hres, Res.ret?] at hi
        | ambiguous n => simp [hres, Res.ret?] at hi
      · cases hi
    · cases hi
  | cast t q ihq =>
    intro Γ env τ he hc hi v hv
    simp only [inferType] at hi
    simp only [inCalc] at hc
    split at hi
    · rename_i a ha
      split at hi
      · rename_i hw
        cases hi
        simp only [Bool.and_eq_true] at hw
        simp only [eval, List.mem_map] at hv
        obtain ⟨w, hw', rfl⟩ := hv
        exact convVal_cast w a t (ihq Γ env a he hc ha w hw') hw.2
      · cases hi
    · cases hi
  | var i =>
    intro Γ env τ he _ hi v hv
    simp only [inferType] at hi
    simp only [eval] at hv
    split at hv
    · rename_i w hw
      simp only [List.mem_singleton] at hv
      subst hv
      exact hasTypeL_get env Γ i v τ he hw hi
    · cases hv
  | for_ src body ihsrc ihbody =>
    intro Γ env τ he hc hi v hv
    simp only [inferType] at hi
    simp only [inCalc, Bool.and_eq_true] at hc
    split at hi
    · rename_i σ hs
      simp only [hs] at hc
      simp only [eval, List.mem_flatMap] at hv
      obtain ⟨w, hw, hvw⟩ := hv
      have hwt := ihsrc Γ env σ he hc.1 hs w hw
      have he' : hasTypeL (w :: env) (σ :: Γ) = true := by
        simp [hasTypeL, hwt, he]
      exact ihbody (σ :: Γ) (w :: env) τ he' hc.2 hi v hvw
    · cases hi
  | filter src cond ihsrc _ =>
    intro Γ env τ he hc hi v hv
    simp only [inferType] at hi
    simp only [inCalc, Bool.and_eq_true] at hc
    split at hi
    · rename_i σ hs
      split at hi
      · cases hi
        simp only [eval, List.mem_filter] at hv
        exact ihsrc Γ env τ he hc.1 hs v hv.1
      · cases hi
    · cases hi
  | objs t =>
    intro Γ env τ _ _ hi v hv
    simp only [inferType] at hi
    split at hi
    · cases hi
      simp only [eval, List.mem_map, List.mem_filter] at hv
      obtain ⟨o, ⟨_, ho⟩, rfl⟩ := hv
      simpa [hasTypeB] using ho
    · cases hi
  | path q p ihq =>
    intro Γ env τ he hc hi v hv
    simp only [inferType] at hi
    simp only [inCalc] at hc
    split at hi
    · rename_i t hq
      simp only [eval, List.mem_flatMap] at hv
      obtain ⟨w, hw, hvw⟩ := hv
      have hwt := ihq Γ env (.obj t) he hc hq w hw
      split at hvw
      · rename_i t' id
        simp only [hasTypeB, beq_iff_eq] at hwt
        subst hwt
        split at hvw
        · rename_i o ho
          obtain ⟨hmem, hot⟩ := lookupObj_spec ho
          cases hf : o.fields[p]? with
          | none => simp [hf] at hvw
          | some vs =>
            simp only [hf, Option.getD_some] at hvw
            obtain ⟨ty, hty, hall⟩ := hdb o hmem p vs hf
            rw [hot, hi] at hty
            cases hty
            exact hall v hvw
        · cases hvw
      · cases hvw
    · cases hi
  | shape q els ihq _ =>
    intro Γ env τ he hc hi v hv
    simp only [inferType] at hi
    simp only [inCalc, Bool.and_eq_true] at hc
    split at hi
    · rename_i t hq
      split at hi
      · cases hi
        simp only [eval] at hv
        exact ihq Γ env (.obj t) he hc.1 hq v hv
      · cases hi
    · cases hi
  | nil _ h => exact nomatch h
  | cons q qs ihq ihqs q' h => exact List.forall_mem_cons.2 ⟨ihq, ihqs⟩ q' h

theorem soundL (sch : Schema) (db : DB) (hdb : Conforms sch db) (qs : List Q) : SoundL sch db qs :=
  .of_forall fun q _ => sound sch db hdb q

end EdbVerif.Types
