/-
C13: the SQL compiler's `AliasGenerator` subclass shortens long aliases and
thereby loses freshness: re-using a shortened alias as a hint returns it again.
-/
import EdbVerif.Lemmas.Argmap

namespace EdbVerif.Argmap

theorem isPyDecimal_tilde : isPyDecimal '~' = false := by decide

/-- a suffix that still contains the final `~1` is never all digits -/
theorem dropWhile_tilde_one (u : List Char) :
    2 ≤ ((u ++ ['~', '1']).dropWhile isPyDecimal).length := by
  induction u with
  | nil => simp [isPyDecimal_tilde]
  | cons c u ih =>
    simp only [List.cons_append, List.dropWhile_cons]
    split
    · exact ih
    · simp

theorem matchesAt_false_of_inner (c : Char) (u : List Char) :
    matchesAt (c :: u ++ ['~', '1']) = false := by
  unfold matchesAt
  split
  · next rest heq =>
    obtain rfl : u ++ ['~', '1'] = rest := List.tail_eq_of_cons_eq heq
    have h2 := dropWhile_tilde_one u
    generalize (u ++ ['~', '1']).dropWhile isPyDecimal = tl at h2 ⊢
    rcases tl with _ | ⟨_, _ | _⟩
    · cases h2
    · exact absurd h2 (Nat.not_succ_le_self 1)
    · simp
  · rfl

theorem stripSuffix_tilde_one (u : List Char) : stripSuffix (u ++ ['~', '1']) = u := by
  induction u with
  | nil => decide
  | cons c u ih =>
    have h := matchesAt_false_of_inner c u
    simp only [List.cons_append] at h ⊢
    simp only [stripSuffix, h, Bool.false_eq_true, if_false, ih]

theorem hintKey_tilde_one (k : List Char) : hintKey (k ++ ['~', '1']) = k := by
  rw [hintKey, if_neg (by simp), stripSuffix_tilde_one]

theorem aliasGet_unused (cs : Counts) (h : List Char) (h0 : cs.get (hintKey h) = 0) :
    aliasGet cs h = (hintKey h ++ ['~', '1'], cs.set (hintKey h) 1) := by
  rw [aliasGet_eq, h0]
  rfl

theorem lastN_append (k : Nat) (a b : List Char) :
    lastN (k + b.length) (a ++ b) = lastN k a ++ b := by
  rw [lastN, lastN, List.length_append, Nat.add_sub_add_right,
    List.drop_append_of_le_length (Nat.sub_le ..)]

theorem length_lastN {k : Nat} {l : List Char} (hk : k ≤ l.length) : (lastN k l).length = k := by
  rw [lastN, List.length_drop, Nat.sub_sub_self hk]

/-- A first alias that is too long is cut down to digest, `:` and its last 28
    characters (the last 26 of the hint and `~1`), so it still ends in `~1`. -/
theorem pgAliasGet_long (hash : List Char → List Char) (hlen : ∀ s, (hash s).length = 22)
    (cs : Counts) (h : List Char) (hlong : maxNameLength < h.length) (hkey : hintKey h = h)
    (h0 : cs.get h = 0) :
    pgAliasGet hash cs h =
      (hash (h ++ ['~', '1']) ++ ':' :: lastN 26 h ++ ['~', '1'], cs.set h 1) := by
  rw [pgAliasGet, aliasGet_unused cs h (hkey.symm ▸ h0), hkey, pgName,
    if_neg (by simp only [List.length_append]; omega), hlen,
    show maxNameLength - 1 - 22 = 26 + ['~', '1'].length from rfl, lastN_append 26 h,
    List.append_assoc, List.cons_append]

theorem pgAliasGet_short {hash : List Char → List Char} {cs : Counts} {k : List Char}
    (hk : k.length + 2 ≤ maxNameLength) (h0 : cs.get k = 0) :
    (pgAliasGet hash cs (k ++ ['~', '1'])).1 = k ++ ['~', '1'] := by
  rw [pgAliasGet, aliasGet_unused cs _ (by rwa [hintKey_tilde_one]), hintKey_tilde_one, pgName,
    if_pos (by simpa using hk)]

/-- For every 22-character digest function (base64 of an md5) and every hint longer than
    `MAX_NAME_LENGTH` without a `~digits` suffix: the alias obtained for it, used as a hint
    itself (the compiler does: `env.aliases.get(rel.name)`), comes back. -/
theorem pgAlias_collision (hash : List Char → List Char) (hlen : ∀ s, (hash s).length = 22)
    (h : List Char) (hlong : maxNameLength < h.length) (hkey : hintKey h = h) :
    pgAliasRun hash [] [h, (pgAliasRun hash [] [h]).headD []] =
      [(pgAliasRun hash [] [h]).headD [], (pgAliasRun hash [] [h]).headD []] := by
  have hl : 51 < h.length := hlong
  have hk : (hash (h ++ ['~', '1']) ++ ':' :: lastN 26 h).length = 49 := by
    rw [List.length_append, List.length_cons, hlen, length_lastN (by omega)]
  simp only [pgAliasRun, List.headD_cons, pgAliasGet_long hash hlen [] h hlong hkey rfl]
  rw [pgAliasGet_short (by rw [hk]; decide)]
  rw [Counts.get_set, if_neg (fun e => by rw [← e] at hk; omega)]
  rfl

end EdbVerif.Argmap
