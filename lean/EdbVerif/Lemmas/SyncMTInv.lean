/-
C17, remote path: the invariant of the compiler server / worker pair, what `_sync` does to it, what a
request does to one pair (`PairStep`), and the shape of one request (`Rejected` or `Synced`).
-/
import EdbVerif.Lemmas.SyncMTStep

namespace EdbVerif.SyncMT
open EdbVerif.Sync

/-- the version and every stamp in it were made before `clock`: a slot stamped now differs from each of its slots -/
def Older (clock : Nat) (v : CS) : Prop :=
  v.ver < clock ∧ ∀ σ s, v.get σ = some s → s.stamp < clock

/-- a recorded version `v` of a client whose current version is `cs`, and the worker's entry
    `a`: on every slot on which `v` and the current version are the same object the worker
    holds the current content -/
def EntryOK (cs : CS) (clock : Nat) (v : CS) (a : Option WClient) : Prop :=
  Older clock v ∧ (v.ver = cs.ver → ∀ σ, v.get σ = cs.get σ) ∧
  ∃ x, a = some x ∧ (∀ db, v.dbs db ≠ none → x.dbs db ≠ none) ∧
    ∀ σ, v.get σ = cs.get σ → x.get σ = cs.cont σ

/-- a worker has no database of a client that the compiler server does not have -/
def ActOK (cs : CS) (a : Option WClient) : Prop :=
  ∀ x db, a = some x → x.dbs db ≠ none → cs.dbs db ≠ none

structure PairOK (cs : CS) (clock : Nat) (w : MTWorker) (c : Nat) : Prop where
  entry : ∀ v, cacheGet w.cache c = some v → EntryOK cs clock v (w.act c)
  act : ActOK cs (w.act c)

def ClientOK (cs : CS) (clock : Nat) (wk : Nat → MTWorker) (c : Nat) : Prop :=
  Older clock cs ∧ ∀ w, PairOK cs clock (wk w) c

structure Inv (st : MTState) : Prop where
  /-- nothing is pending in `_invalidated_clients` between requests -/
  invalNil : ∀ w, (st.wk w).inval = []
  cli : ∀ c cs, st.cli c = some cs → ClientOK cs st.clock st.wk c

theorem Older.mono {clock : Nat} {v : CS} (h : Older clock v) : Older (clock + 1) v :=
  ⟨Nat.lt_succ_of_lt h.1, fun σ s hs => Nat.lt_succ_of_lt (h.2 σ s hs)⟩

theorem EntryOK.mono {cs v : CS} {clock : Nat} {a : Option WClient}
    (h : EntryOK cs clock v a) : EntryOK cs (clock + 1) v a :=
  ⟨h.1.mono, h.2⟩

theorem ClientOK.mono {cs : CS} {clock : Nat} {wk : Nat → MTWorker} {c : Nat}
    (h : ClientOK cs clock wk c) : ClientOK cs (clock + 1) wk c :=
  ⟨h.1.mono, fun w => ⟨fun v hv => ((h.2 w).entry v hv).mono, (h.2 w).act⟩⟩

section transfer
variable {clock : Nat} {cs cs' : CS} {db : Nat} {p : Parts} {u : Bool}

theorem older_sync2 (ho : Older clock cs) (hs : sync2 cs db p clock = some (cs', u)) :
    Older (clock + 1) cs' := by
  refine ⟨?_, fun σ s hσ => ?_⟩
  · rcases sync2_ver hs with ⟨_, h⟩ | ⟨_, h⟩ <;> rw [h]
    · exact Nat.lt_succ_of_lt ho.1
    · exact Nat.lt_succ_self _
  · rw [sync2_get hs] at hσ
    generalize p.at db σ = o at hσ
    cases o with
    | none => exact Nat.lt_succ_of_lt (ho.2 σ s hσ)
    | some t => cases hσ; exact Nat.lt_succ_self _

theorem entryOK_sync2 (hs : sync2 cs db p clock = some (cs', u)) {v : CS} {a : Option WClient}
    (h : EntryOK cs clock v a) : EntryOK cs' (clock + 1) v a := by
  obtain ⟨ho, h3, x, hx, h4, h5⟩ := h
  refine ⟨ho.mono, fun hver => ?_, x, hx, h4, fun σ hσ => ?_⟩
  · rcases sync2_ver hs with ⟨_, h⟩ | ⟨_, h⟩ <;> rw [h] at hver
    · rw [h]; exact h3 hver
    · exact absurd (hver ▸ ho.1) (Nat.lt_irrefl _)
  · -- a slot `_sync` has just stamped differs from every slot of an older version
    rw [sync2_cont hs]
    rw [sync2_get hs] at hσ
    generalize p.at db σ = o at hσ ⊢
    cases o with
    | none => exact h5 σ hσ
    | some t => exact absurd (ho.2 σ _ hσ) (Nat.lt_irrefl _)

theorem actOK_sync2 (hs : sync2 cs db p clock = some (cs', u)) {a : Option WClient}
    (h : ActOK cs a) : ActOK cs' a :=
  fun x db' ha hx => sync2_dbs_mono hs db' (h x db' ha hx)

theorem clientOK_sync2 (hs : sync2 cs db p clock = some (cs', u)) {wk : Nat → MTWorker} {c : Nat}
    (h : ClientOK cs clock wk c) : ClientOK cs' (clock + 1) wk c :=
  ⟨older_sync2 h.1 hs, fun w => ⟨fun v hv => entryOK_sync2 hs ((h.2 w).entry v hv), actOK_sync2 hs (h.2 w).act⟩⟩

end transfer

/-- the invariant after `_sync` has stored `cs'` for client `c`, old workers against the new
    client table -/
theorem clientOK_after_sync2 {st : MTState} (hI : Inv st) {c db : Nat} {cs cs' : CS} {p : Parts} {u : Bool}
    (hcs : st.cli c = some cs) (hs : sync2 cs db p st.clock = some (cs', u)) (c' : Nat) (v : CS)
    (hv : (if c' = c then some cs' else st.cli c') = some v) : ClientOK v (st.clock + 1) st.wk c' := by
  split at hv
  · rename_i hc; subst hc; cases hv; exact clientOK_sync2 hs (hI.cli c' cs hcs)
  · exact (hI.cli c' v hv).mono

theorem entryOK_new {clock : Nat} {cs' : CS} {x' : WClient} (ho : Older clock cs')
    (hh : Holds x' cs') : EntryOK cs' clock cs' (some x') :=
  ⟨ho, fun _ _ => rfl, x', rfl, fun db hdb => (hh.dbs_iff db).2 hdb, fun σ _ => hh σ⟩

theorem entryOK_ahead {clock : Nat} {v cs' : CS} {a : Option WClient} {x' : WClient}
    (hh : Holds x' cs') (ha : ActOK cs' a) (h : EntryOK cs' clock v a) :
    EntryOK cs' clock v (some x') := by
  obtain ⟨ho, h3, x, hx, h4, _⟩ := h
  exact ⟨ho, h3, x', rfl, fun db hdb => (hh.dbs_iff db).2 (ha x db hx (h4 db hdb)), fun σ _ => hh σ⟩

theorem actOK_none (cs : CS) : ActOK cs none :=
  fun _ _ h => nomatch h

theorem actOK_holds {cs' : CS} {x' : WClient} (hh : Holds x' cs') : ActOK cs' (some x') := by
  rintro x db ⟨rfl⟩ hdb
  exact (hh.dbs_iff db).1 hdb

/-- whatever `prepare` decides to send: if `__sync__` succeeds the worker holds the current version -/
theorem served_holds {env : Env} {clk : Nat} {w0 : MTWorker} {c : Nat} {cs' : CS} {size : Nat}
    {a' : Option WClient} (h : PairOK cs' clk w0 c)
    (hw : wsyncMT env (w0.act c) (prepare w0 c cs' size).2.2.1 = some a') :
    ∃ x', a' = some x' ∧ Holds x' cs' := by
  rw [prepare_diff] at hw
  cases hv : cacheGet w0.cache c with
  | none =>
    rw [hv] at hw
    cases hx : w0.act c with
    | none => rw [hx] at hw; exact holds_full_absent env cs' a' hw
    | some x =>
      rw [hx] at hw
      exact holds_full_present env cs' x a' (fun db hdb => h.act x db hx hdb) hw
  | some v =>
    rw [hv] at hw
    obtain ⟨_, h3, x, hx, h4, h5⟩ := h.entry v hv
    rw [hx] at hw
    dsimp only at hw
    split at hw
    · -- in sync: nothing sent
      rename_i hver
      simp only [wsyncMT, Option.some.injEq] at hw
      exact ⟨x, hw.symm, fun σ => h5 σ (h3 hver σ)⟩
    · exact holds_diff env cs' v x a' h5 (fun db hdb => h.act x db hx hdb) h4 hw

theorem holds_current {x : WClient} {v : CS} (h : Holds x v) (db : Nat) (d3 : Db3)
    (hx : x.dbs db = some d3) :
    currentOf v db = some ⟨d3.schema, x.glob, d3.refl, d3.dbcfg, x.sys⟩ := by
  obtain ⟨hd, hg, hy⟩ := (holds_iff x v).1 h
  rw [hd] at hx
  unfold currentOf
  cases hv : v.dbs db <;> rw [hv] at hx <;> cases hx
  rw [hg, hy]; rfl

/-- What one request does to one (worker, client) pair — the version recorded for the client and the
    entry the worker holds; `cs` is the client's version after the request. -/
inductive PairStep (cs : CS) (out : COut) (w w' : MTWorker) (c : Nat) : Prop
  /-- nothing, or the client is evicted -/
  | keep (hact : w'.act c = w.act c ∨ w'.act c = none)
      (hrec : ∀ v, cacheGet w'.cache c = some v → cacheGet w.cache c = some v ∧ w'.act c = w.act c)
  /-- `__sync__` went through: the worker holds `cs`, and that is recorded unless the reply was status 2 -/
  | served (x : WClient) (hact : w'.act c = some x) (hh : Holds x cs)
      (hrec : cacheGet w'.cache c = some cs ∨
        out = .resultUnpicklable ∧ ∀ v, cacheGet w'.cache c = some v → cacheGet w.cache c = some v)

theorem PairStep.pairOK {cs : CS} {out : COut} {w w' : MTWorker} {c clock : Nat}
    (hs : PairStep cs out w w' c) (ho : Older clock cs) (h : PairOK cs clock w c) :
    PairOK cs clock w' c := by
  cases hs with
  | keep hact hrec =>
    refine ⟨fun v hv => (hrec v hv).2 ▸ h.entry v (hrec v hv).1, ?_⟩
    rcases hact with e | e <;> rw [e]
    · exact h.act
    · exact actOK_none _
  | served x hact hh hrec =>
    refine ⟨fun v hv => ?_, hact ▸ actOK_holds hh⟩
    rw [hact]
    rcases hrec with e | ⟨_, hold⟩
    · cases e.symm.trans hv; exact entryOK_new ho hh
    · exact entryOK_ahead hh h.act (h.entry v (hold v hv))

theorem PairStep.recordExact {cs : CS} {out : COut} {w w' : MTWorker} {c : Nat}
    (hs : PairStep cs out w w' c) (hout : out ≠ .resultUnpicklable)
    (h : ∀ v, cacheGet w.cache c = some v → ∃ x, w.act c = some x ∧ Holds x v) (v : CS)
    (hv : cacheGet w'.cache c = some v) : ∃ x, w'.act c = some x ∧ Holds x v := by
  cases hs with
  | keep _ hrec => rw [(hrec v hv).2]; exact h v (hrec v hv).1
  | served x hact hh hrec =>
    rcases hrec with e | ⟨ho, _⟩
    · cases e.symm.trans hv; exact ⟨x, hact, hh⟩
    · exact absurd ho hout

/-- `request` pair by pair.  `hP`: the served client's pair is in order against the version `cs'` that
    `_sync` has just stored. -/
theorem request_pairs (env : Env) (w0 : MTWorker) (c db : Nat) (cs' : CS) (size : Nat)
    (out : COut) (h0 : w0.inval = []) {clk : Nat} (hP : PairOK cs' clk w0 c) :
    let sv := request env w0 c db cs' size out
    sv.1.inval = [] ∧ (∀ c' v, (c' = c → v = cs') → PairStep v out w0 sv.1 c') ∧
    ∀ u, sv.2.2.1 = some u → currentOf cs' db = some u := by
  intro sv
  unfold sv request
  have hH := fun a' => served_holds (env := env) (size := size) (a' := a') hP
  obtain ⟨hP1, hP2, hP4, hP3⟩ := prepare_spec w0 c cs' size h0
  generalize prepare w0 c cs' size = pr at *
  obtain ⟨⟨cache2, inval2, act2⟩, kind, d, inval⟩ := pr
  dsimp only at hP1 hP2 hP4 hP3 hH ⊢
  subst hP1 hP2
  -- a client whose entry is what the invalidation left of it: kept, or evicted
  have hkeep : ∀ (w' : MTWorker) (c' : Nat) (v : CS),
      w'.act c' = (if inval.contains c' = true then none else w0.act c') →
      (∀ v, cacheGet w'.cache c' = some v → cacheGet cache2 c' = some v) → PairStep v out w0 w' c' := by
    intro w' c' v hact hsub
    refine .keep ?_ fun v' hv' => ?_ <;> rw [hact]
    · by_cases hi : inval.contains c' = true
      · exact .inr (if_pos hi)
      · exact .inl (if_neg hi)
    · have := hP3 c' v' (hsub v' hv')
      exact ⟨this.1, by rw [this.2]; rfl⟩
  rcases serve_spec env ⟨cache2, [], w0.act⟩ inval c db cs' d out with
    hS | ⟨a', cache', res, used, hw, hS, hres, hcache, hu⟩ <;> rw [hS] <;> dsimp only
  · exact ⟨rfl, fun c' v _ => hkeep _ c' v rfl fun _ h => h, nofun⟩
  · rw [hP4] at hw
    obtain ⟨x', rfl, hh⟩ := hH a' hw
    refine ⟨rfl, fun c' v hv => ?_, fun u hu' => ?_⟩
    · by_cases hc' : c' = c
      · cases hv hc'; subst hc'
        refine .served x' (if_pos rfl) hh ?_
        rcases hcache with h | ⟨h, ho⟩ <;> rw [h]
        · exact .inl (by rw [cacheGet_set, if_pos rfl])
        · exact .inr ⟨ho, fun v hv => (hP3 c' v hv).1⟩
      · refine hkeep _ c' v (if_neg hc') fun v' hv' => ?_
        rcases hcache with h | ⟨h, _⟩ <;> rw [h] at hv'
        · rwa [cacheGet_set, if_neg (Ne.symm hc')] at hv'
        · exact hv'
    · obtain ⟨_, d3, ⟨rfl⟩, hd3, rfl⟩ := hu u hu'
      exact holds_current hh db d3 hd3

theorem ack1_fields (st : MTState) (c db : Nat) (p : Parts) (b : Bool) :
    (ack1 st c db p b).cli = st.cli ∧ (ack1 st c db p b).wk = st.wk ∧
    (ack1 st c db p b).clock = st.clock := by
  unfold ack1
  split
  · split <;> exact ⟨rfl, rfl, rfl⟩
  · exact ⟨rfl, rfl, rfl⟩

theorem ack1_bel {st : MTState} {c db : Nat} {p : Parts} {b' : Side}
    (h : withAck (st.bel c) db p = some b') :
    (ack1 st c db p true).bel = fun i => if i = c then b' else st.bel i := by
  unfold ack1
  rw [h]; rfl

/-- A request that fails on the compiler server before anything is stored (`st'`, `o`: state and observation
    afterwards). -/
structure Rejected (st st' : MTState) (o : MObs) : Prop where
  cli : st'.cli = st.cli
  wk : st'.wk = st.wk
  clock : st'.clock = st.clock + 1
  used : o.used = none
  res : o.res = .syncFail

/-- A request that went through `_sync` (`cs` became `cs'`, stored) and then `request` on worker `q.r.w`; the client
    acknowledges unless the reply is a `FailedStateSync`. -/
structure Synced (env : Env) (st : MTState) (q : MReq) (st' : MTState) (o : MObs) (cs cs' : CS) (u : Bool) :
    Prop where
  known : st.cli q.c = some cs
  sync : sync2 cs q.r.db (preargs (st.bel q.c) q.r) st.clock = some (cs', u)
  cli : st'.cli = fun i => if i = q.c then some cs' else st.cli i
  wk : st'.wk = fun i => if i = q.r.w then
    (request env (st.wk q.r.w) q.c q.r.db cs' st.cacheSize q.r.out).1 else st.wk i
  clock : st'.clock = st.clock + 1
  used : o.used = (request env (st.wk q.r.w) q.c q.r.db cs' st.cacheSize q.r.out).2.2.1
  bel : o.res ≠ .syncFail → ∀ b', withAck (st.bel q.c) q.r.db (preargs (st.bel q.c) q.r) = some b' →
    st'.bel = fun i => if i = q.c then b' else st.bel i

theorem stepMT_cases (env : Env) (st : MTState) (q : MReq) :
    Rejected st (stepMT env st q).1 (stepMT env st q).2 ∨
    ∃ cs cs' u, Synced env st q (stepMT env st q).1 (stepMT env st q).2 cs cs' u := by
  unfold stepMT
  by_cases hl : q.r.out = .requestUnreadable
  · rw [if_pos hl]; exact .inl ⟨rfl, rfl, rfl, rfl, rfl⟩
  rw [if_neg hl]
  unfold stepMTRun
  dsimp only
  cases hc : st.cli q.c with
  | none => exact .inl ⟨rfl, rfl, rfl, rfl, rfl⟩
  | some cs =>
    dsimp only
    cases hs : sync2 cs q.r.db (preargs (st.bel q.c) q.r) st.clock with
    | none => exact .inl ⟨rfl, rfl, rfl, rfl, rfl⟩
    | some r =>
      obtain ⟨cs', u⟩ := r
      refine .inr ⟨cs, cs', u, hc, hs, ?_, ?_, ?_, rfl, fun hres b' hb' => ?_⟩ <;> dsimp only
      · rw [(ack1_fields ..).1]; rfl
      · rw [(ack1_fields ..).2.1]; rfl
      · rw [(ack1_fields ..).2.2]; rfl
      · change (ack1 _ _ _ _ (request env (st.wk q.r.w) q.c q.r.db cs' st.cacheSize q.r.out).2.2.2).bel = _
        rw [request_ack hres]
        exact ack1_bel hb'

end EdbVerif.SyncMT
