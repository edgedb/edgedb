/-
C03: replaying the statements that describe a valid schema (modules, shells in
dependency order, children) gives the schema back as a finite map.
-/
import EdbVerif.Lemmas.DescribeSort
import EdbVerif.Lemmas.DescribeNames
import EdbVerif.Lemmas.ListAux

namespace EdbVerif.Describe

theorem travE_map_ok {α β : Type} (f : α → Except Err β) (g : β → α) (l : List β)
    (h : ∀ b ∈ l, f (g b) = .ok b) : travE f (l.map g) = .ok l := by
  induction l with
  | nil => rfl
  | cons b bs ih =>
    simp only [List.map_cons, travE]
    rw [h b (List.mem_cons_self), ih (fun x hx => h x (List.mem_cons_of_mem _ hx))]

theorem atomNames_eq_flatMap {ν : Type} (as : List (Atom ν)) :
    atomNames as = as.flatMap fun a => atomNames [a] := by
  induction as with
  | nil => rfl
  | cons a as ih => cases a <;> simp [atomNames, ← ih]

theorem mem_atomNames_of_mem {ν : Type} (a : Atom ν) (as : List (Atom ν)) (q : ν)
    (ha : a ∈ as) (hq : q ∈ atomNames [a]) : q ∈ atomNames as := by
  rw [atomNames_eq_flatMap]
  exact List.mem_flatMap.2 ⟨a, ha, hq⟩

/-- both kinds of reference to `q`, written fully qualified, resolve to `q` -/
def Self (f : Bool → Ref → Except Err QName) (q : QName) : Prop := ∀ sh, f sh q.toRef = .ok q

theorem Atom.mapE_map (f : Bool → Ref → Except Err QName) (a : Atom QName)
    (h : ∀ q ∈ atomNames [a], Self f q) : (a.map QName.toRef).mapE f = .ok a := by
  cases a with
  | sym s => rfl
  | name n => simp only [Atom.map, Atom.mapE, h n List.mem_cons_self false]
  | tname n => simp only [Atom.map, Atom.mapE, h n List.mem_cons_self true]

theorem fieldMapE_fieldMap (f : Bool → Ref → Except Err QName) (x : String × List (Atom QName))
    (h : ∀ q ∈ atomNames x.2, Self f q) : fieldMapE f (fieldMap QName.toRef x) = .ok x := by
  simp only [fieldMapE, fieldMap, travE_map_ok (Atom.mapE f) (Atom.map QName.toRef) x.2
    fun a ha => Atom.mapE_map f a fun q hq => h q (mem_atomNames_of_mem a x.2 q ha hq)]

theorem fields_mapE_map (f : Bool → Ref → Except Err QName) (fs : Fields QName)
    (h : ∀ q ∈ fieldsNames fs, Self f q) :
    travE (fieldMapE f) (fs.map (fieldMap QName.toRef)) = .ok fs :=
  travE_map_ok _ _ fs fun x hx => fieldMapE_fieldMap f x (List.forall_mem_flatMap.1 h x hx)

theorem Head.mapE_map (f : Bool → Ref → Except Err QName) (hd : Head QName)
    (h : ∀ q ∈ hd.names, Self f q) : (hd.map QName.toRef).mapE f = .ok hd := by
  simp only [Head.mapE, Head.map,
    Atom.mapE_map f hd.name (List.forall_mem_append.1 h).1,
    fields_mapE_map f hd.fields (List.forall_mem_append.1 h).2]

theorem Item.mapE_map (f : Bool → Ref → Except Err QName) (i : Item QName)
    (h : ∀ q ∈ i.names, Self f q) : (i.map QName.toRef).mapE f = .ok i := by
  cases i with
  | leave => rfl
  | enter hd => simp only [Item.map, Item.mapE, Head.mapE_map f hd h]

theorem Kid.mapE_map (f : Bool → Ref → Except Err QName) (k : Kid QName)
    (h : ∀ q ∈ k.names, Self f q) : (k.map QName.toRef).mapE f = .ok k := by
  simp only [Kid.mapE, Kid.map,
    Head.mapE_map f k.head (List.forall_mem_append.1 h).1,
    travE_map_ok (Item.mapE f) (Item.map QName.toRef) k.body fun i hi =>
      Item.mapE_map f i (List.forall_mem_flatMap.1 (List.forall_mem_append.1 h).2 i hi)]

theorem filterFields_covered {ν : Type} (tbl : FieldTable) (cls : String) (fs : Fields ν)
    (h : ∀ f ∈ fs, keepField tbl cls f.1 = true) : filterFields tbl cls fs = fs := by
  unfold filterFields
  exact List.filter_eq_self.2 (fun f hf => h f hf)

theorem Head.printed_covered (tbl : FieldTable) (h : Head QName) (hc : h.Covered tbl) :
    h.printed tbl = h := by
  unfold Head.printed
  rw [filterFields_covered tbl h.cls h.fields hc]

theorem Item.printed_covered (tbl : FieldTable) (i : Item QName) (hc : i.Covered tbl) :
    i.printed tbl = i := by
  cases i with
  | leave => rfl
  | enter h => simp only [Item.printed, Head.printed_covered tbl h hc]

theorem Kid.printed_covered (tbl : FieldTable) (k : Kid QName) (hc : k.Covered tbl) :
    k.printed tbl = k := by
  unfold Kid.printed
  rw [Head.printed_covered tbl k.head hc.1,
    List.map_congr_left fun i hi => Item.printed_covered tbl i (hc.2 i hi), List.map_id']

theorem execStmts_append (std : Env) (c : Ctx) (S : Schema) (a b : List Stmt) :
    execStmts std c S (a ++ b) =
      match execStmts std c S a with
      | .error e => .error e
      | .ok S' => execStmts std c S' b := by
  induction a generalizing S with
  | nil => rfl
  | cons s ss ih =>
    simp only [List.cons_append, execStmts]
    cases step std c S s with
    | error e => rfl
    | ok S' => exact ih S'

/-- when the statements of each item take the state with that item still to do
    to the state with it done, the whole text takes the first state to the last -/
theorem execStmts_flatMap {α : Type} (std : Env) (c : Ctx) (F : α → List Stmt)
    (st : List α → List α → Schema) (l : List α)
    (h : ∀ pre a post, l = pre ++ a :: post →
      execStmts std c (st pre (a :: post)) (F a) = .ok (st (pre ++ [a]) post)) :
    execStmts std c (st [] l) (l.flatMap F) = .ok (st l []) := by
  suffices ∀ todo done, l = done ++ todo →
      execStmts std c (st done todo) (todo.flatMap F) = .ok (st l []) from this l [] rfl
  intro todo
  induction todo with
  | nil =>
    intro done hl
    rw [hl, List.append_nil]
    rfl
  | cons a rest ih =>
    intro done hl
    rw [List.flatMap_cons, execStmts_append, h done a rest hl]
    exact ih (done ++ [a]) (by rw [hl, List.append_assoc, List.singleton_append])

theorem execStmts_map {α : Type} (std : Env) (c : Ctx) (f : α → Stmt) (st : List α → Schema)
    (l : List α)
    (h : ∀ pre a post, l = pre ++ a :: post → step std c (st pre) (f a) = .ok (st (pre ++ [a]))) :
    execStmts std c (st []) (l.map f) = .ok (st l) := by
  rw [List.map_eq_flatMap]
  exact execStmts_flatMap std c _ (fun pre _ => st pre) l fun pre a post hl => by
    simp only [execStmts, h pre a post hl]

theorem envOf_has (std : Env) (S : Schema) (q : QName) :
    (envOf std S).has q = true ↔ std.has q = true ∨ q ∈ S.names := by
  simp only [envOf, Env.has, List.contains_iff_mem, List.mem_append]

theorem envOf_hasModule (std : Env) (S : Schema) (m : ModName) :
    (envOf std S).hasModule m = true ↔ std.hasModule m = true ∨ m ∈ S.modules := by
  simp only [envOf, Env.hasModule, List.contains_iff_mem, List.mem_append]

theorem envOf_has_false (std : Env) (S : Schema) (q : QName) (h : std.has q = false)
    (h' : q ∉ S.names) : (envOf std S).has q = false := by
  rw [Bool.eq_false_iff, Ne, envOf_has, h]
  exact fun hh => hh.elim Bool.noConfusion h'

theorem resolveE_envOf (std : Env) (c : Ctx) (S : Schema) (q : QName) (hs : ModSafe c q.mod)
    (hex : std.has q = true ∨ q ∈ S.names) : Self (resolveE (envOf std S) c) q :=
  fun sh => resolveE_safe _ c sh q hs ((envOf_has std S q).2 hex)

theorem mem_mentioned_name {S : Schema} {o : Top QName} (ho : o ∈ S.objs) : o.name ∈ S.mentioned :=
  List.mem_flatMap.2 ⟨o, ho, List.mem_cons_self⟩

theorem mem_kidNames {o : Top QName} {k : Kid QName} (hk : k ∈ o.kids) {q : QName}
    (hq : q ∈ k.names) : q ∈ o.kidNames :=
  List.mem_flatMap.2 ⟨k, hk, hq⟩

theorem mem_mentioned_ref {S : Schema} {o : Top QName} (ho : o ∈ S.objs) {q : QName}
    (hq : q ∈ o.shellNames ++ o.kidNames) : q ∈ S.mentioned :=
  List.mem_flatMap.2 ⟨o, ho, List.mem_cons_of_mem _ hq⟩

theorem insertMod_perm (m : ModName) (l : List ModName) : (insertMod m l).Perm (m :: l) :=
  ListAux.ins_perm (ins := insertMod) (lt := fun a b : ModName => a.length < b.length)
    (fun _ => rfl) (fun _ _ _ => rfl) m l

theorem sortMods_perm (l : List ModName) : (sortMods l).Perm l :=
  ListAux.sort_perm (ins := insertMod) (lt := fun a b : ModName => a.length < b.length)
    (fun _ => rfl) (fun _ _ _ => rfl) rfl (fun _ _ => rfl) l

def ByLen (a b : ModName) : Prop := a.length ≤ b.length

theorem insertMod_sorted (m : ModName) (l : List ModName) (h : l.Pairwise ByLen) :
    (insertMod m l).Pairwise ByLen := by
  induction l with
  | nil => simp [insertMod]
  | cons x xs ih =>
    simp only [insertMod]
    obtain ⟨hx, hxs⟩ := List.pairwise_cons.1 h
    split
    · next hlt =>
      refine List.pairwise_cons.2 ⟨?_, h⟩
      intro y hy
      rcases List.mem_cons.1 hy with rfl | hy
      · exact Nat.le_of_lt hlt
      · exact Nat.le_trans (Nat.le_of_lt hlt) (hx y hy)
    · next hge =>
      refine List.pairwise_cons.2 ⟨?_, ih hxs⟩
      intro y hy
      rcases List.mem_cons.1 ((insertMod_perm m xs).mem_iff.1 hy) with rfl | hy
      · exact Nat.le_of_not_lt hge
      · exact hx y hy

theorem sortMods_sorted (l : List ModName) : (sortMods l).Pairwise ByLen := by
  induction l with
  | nil => exact List.Pairwise.nil
  | cons m ms ih => exact insertMod_sorted m _ ih

theorem step_createModule (std : Env) (c : Ctx) (S : Schema) (m : ModName)
    (hnew : (envOf std S).hasModule m = false)
    (hpar : m.length ≤ 1 ∨ (envOf std S).hasModule m.dropLast = true) :
    step std c S (.createModule m) = .ok { S with modules := S.modules ++ [m] } := by
  have : (decide (m.length > 1) && !(envOf std S).hasModule m.dropLast) = false := by
    rcases hpar with h | h
    · simp [Nat.not_lt.2 h]
    · simp [h]
  simp only [step, hnew, this, Bool.false_eq_true, ↓reduceIte]

/-- in order of length: the enclosing module is shorter, so it exists already -/
theorem exec_modules {tbl : FieldTable} {std : Env} {S : Schema} (hv : Valid tbl std S) (c : Ctx)
    (objs : List (Top QName)) :
    execStmts std c ⟨[], objs⟩ ((sortMods S.modules).map .createModule) =
      .ok ⟨sortMods S.modules, objs⟩ :=
  execStmts_map std c .createModule (fun pre => ⟨pre, objs⟩) _ fun pre m post hl => by
    have hm : m ∈ S.modules := (sortMods_perm _).mem_iff.1 (hl ▸ List.mem_append_right pre List.mem_cons_self)
    have hnd := (sortMods_perm _).nodup_iff.2 hv.mods_nodup
    have hs := sortMods_sorted S.modules
    rw [hl] at hnd hs
    refine step_createModule std c ⟨pre, objs⟩ m ?_ ?_
    · rw [Bool.eq_false_iff]
      intro hh
      rcases (envOf_hasModule _ _ _).1 hh with hh | hh
      · rw [hv.mods_fresh m hm] at hh
        cases hh
      · exact (List.nodup_append.1 hnd).2.2 m hh m List.mem_cons_self rfl
    · by_cases h1 : m.length ≤ 1
      · exact Or.inl h1
      · refine Or.inr ((envOf_hasModule _ _ _).2 ((hv.mods_closed m hm (by omega)).symm.imp_right ?_))
        intro hp
        rw [← (sortMods_perm _).mem_iff, hl] at hp
        refine (List.mem_append.1 hp).resolve_right fun hp => ?_
        have hlen : m.dropLast.length < m.length := by
          rw [List.length_dropLast]
          omega
        rcases List.mem_cons.1 hp with heq | hp
        · rw [heq] at hlen
          omega
        · have := (List.pairwise_cons.1 (List.pairwise_append.1 hs).2.1).1 _ hp
          unfold ByLen at this
          omega

theorem Valid.name_notMem {tbl : FieldTable} {std : Env} {S : Schema} (hv : Valid tbl std S)
    {l pre post : List (Top QName)} {o : Top QName} (hperm : l.Perm S.objs)
    (hl : l = pre ++ o :: post) : o.name ∉ pre.map (·.name) := by
  have hnd := (hperm.map _ : (l.map (·.name)).Perm S.names).nodup_iff.2 hv.names_nodup
  rw [hl, List.map_append, List.map_cons] at hnd
  exact fun hh => (List.nodup_append.1 hnd).2.2 _ hh _ List.mem_cons_self rfl

def strip (o : Top QName) : Top QName := { o with kids := [] }

@[simp] theorem strip_name (o : Top QName) : (strip o).name = o.name := rfl

theorem map_strip_names (l : List (Top QName)) : (l.map strip).map (·.name) = l.map (·.name) := by
  simp [List.map_map, Function.comp_def]

/-- a shell refers to earlier objects and to the standard library only -/
theorem exec_shells {tbl : FieldTable} {std : Env} {S : Schema} (hv : Valid tbl std S) {c : Ctx}
    (hs : CtxSafe c S) {l : List (Top QName)} (hperm : l.Perm S.objs) (hord : Ordered S.names l)
    (mods : List ModName) (hmods : ∀ m ∈ S.modules, m ∈ mods) :
    execStmts std c ⟨mods, []⟩ (l.map (shellStmt tbl)) = .ok ⟨mods, l.map strip⟩ :=
  execStmts_map std c (shellStmt tbl) (fun pre => ⟨mods, pre.map strip⟩) l fun pre o post hl => by
    have ho : o ∈ S.objs := hperm.mem_iff.1 (hl ▸ List.mem_append_right pre List.mem_cons_self)
    have hnew : o.name ∉ (Schema.mk mods (pre.map strip)).names := by
      rw [Schema.names, map_strip_names]
      exact hv.name_notMem hperm hl
    simp only [step, shellStmt, classname_toRef c o.name (hs _ (mem_mentioned_name ho)),
      (envOf_hasModule std ⟨mods, pre.map strip⟩ _).2 (Or.inr (hmods _ (hv.obj_mods o ho))),
      envOf_has_false std _ _ (hv.names_fresh _ (List.mem_map_of_mem ho)) hnew,
      Bool.false_eq_true, ↓reduceIte]
    rw [filterFields_covered tbl o.cls o.fields (hv.covered o ho).1, fields_mapE_map,
      List.map_append]
    · rfl
    · intro q hq
      have hq2 := List.mem_append_left o.kidNames hq
      refine resolveE_envOf std c _ q (hs q (mem_mentioned_ref ho hq2))
        ((hv.closed o ho q hq2).symm.imp_right fun hqS => ?_)
      have := hord pre o post hl q hq hqS
      simp only [Schema.names, List.map_append, List.mem_append, map_strip_names]
      exact Or.inl this

theorem addKid_mid (cls : String) (k : Kid QName) (pre post : List (Top QName)) (o : Top QName)
    (hcls : o.cls = cls) (hpre : ∀ x ∈ pre, x.name ≠ o.name) :
    addKid cls o.name k (pre ++ o :: post) = some (pre ++ { o with kids := o.kids ++ [k] } :: post) := by
  induction pre with
  | nil => simp [addKid, hcls]
  | cons x xs ih =>
    simp only [List.cons_append, addKid]
    have : x.name ≠ o.name := hpre x List.mem_cons_self
    simp only [this, ↓reduceIte]
    rw [ih (fun y hy => hpre y (List.mem_cons_of_mem _ hy))]
    rfl

theorem exec_kidStmts (tbl : FieldTable) (std : Env) (c : Ctx) (mods : List ModName)
    (pre post : List (Top QName)) (o : Top QName)
    (hpre : ∀ x ∈ pre, x.name ≠ o.name) (hsafe : ModSafe c o.name.mod)
    (hcov : ∀ k ∈ o.kids, k.Covered tbl)
    (hres : ∀ k ∈ o.kids, ∀ q ∈ k.names, ModSafe c q.mod ∧
      (std.has q = true ∨ q ∈ pre.map (·.name) ++ o.name :: post.map (·.name))) :
    execStmts std c ⟨mods, pre ++ strip o :: post⟩ (kidStmts tbl o) = .ok ⟨mods, pre ++ o :: post⟩ :=
  execStmts_map std c (fun k => .alterAdd o.cls o.name.toRef ((k.printed tbl).map QName.toRef))
    (fun ks => ⟨mods, pre ++ { o with kids := ks } :: post⟩) o.kids fun ks k _ hl => by
      have hk : k ∈ o.kids := hl ▸ List.mem_append_right ks List.mem_cons_self
      simp only [step, classname_toRef c o.name hsafe]
      rw [Kid.printed_covered tbl k (hcov k hk), Kid.mapE_map]
      · simp only [addKid_mid o.cls k pre post { o with kids := ks } rfl hpre]
      · intro q hq
        refine resolveE_envOf std c _ q (hres k hk q hq).1 ?_
        simpa only [Schema.names, List.map_append, List.map_cons] using (hres k hk q hq).2

theorem exec_kids {tbl : FieldTable} {std : Env} {S : Schema} (hv : Valid tbl std S) {c : Ctx}
    (hs : CtxSafe c S) {l : List (Top QName)} (hperm : l.Perm S.objs) (mods : List ModName) :
    execStmts std c ⟨mods, l.map strip⟩ (l.flatMap (kidStmts tbl)) = .ok ⟨mods, l⟩ := by
  -- the objects whose children are still to come are bare
  have := execStmts_flatMap std c (kidStmts tbl)
    (fun pre post => ⟨mods, pre ++ post.map strip⟩) l fun pre o post hl => by
      have ho : o ∈ S.objs := hperm.mem_iff.1 (hl ▸ List.mem_append_right pre List.mem_cons_self)
      simp only [List.map_cons, List.append_assoc, List.singleton_append]
      refine exec_kidStmts tbl std c mods pre (post.map strip) o
        (fun x hx heq => hv.name_notMem hperm hl (List.mem_map.2 ⟨x, hx, heq⟩))
        (hs _ (mem_mentioned_name ho)) (hv.covered o ho).2 fun k hk q hq => ?_
      have hq2 := List.mem_append_right o.shellNames (mem_kidNames hk hq)
      refine ⟨hs q (mem_mentioned_ref ho hq2), (hv.closed o ho q hq2).symm.imp_right fun hqS => ?_⟩
      have := (hperm.map _ : (l.map (·.name)).Perm S.names).mem_iff.2 hqS
      rwa [hl, List.map_append, List.map_cons, ← map_strip_names post] at this
  rwa [List.map_nil, List.append_nil] at this

theorem describe_exec (tbl : FieldTable) (std : Env) (c : Ctx) (S : Schema)
    (hv : Valid tbl std S) (hs : CtxSafe c S) :
    ∃ ss S', describeStmts tbl S = .ok ss ∧ execStmts std c {} ss = .ok S' ∧ S'.Equiv S := by
  obtain ⟨l, hsort, hperm, hord⟩ := sortShells_spec S hv.acyclic
  refine ⟨(sortMods S.modules).map .createModule ++ l.map (shellStmt tbl) ++ l.flatMap (kidStmts tbl),
    ⟨sortMods S.modules, l⟩, by simp only [describeStmts, hsort], ?_, ⟨sortMods_perm _, hperm⟩⟩
  rw [List.append_assoc, execStmts_append, show ({} : Schema) = ⟨[], []⟩ from rfl,
    exec_modules hv c []]
  simp only
  rw [execStmts_append,
    exec_shells hv hs hperm hord _ fun m hm => (sortMods_perm _).mem_iff.2 hm]
  exact exec_kids hv hs hperm _

end EdbVerif.Describe
