/-
C01 — what each parser function does on a given leading token, given what the recursive calls
return.  `dsimp only [parseOperand]` unfolds one step by evaluation; `simp only` / `rw` with the name
of a parser function would prove the equation lemmas of its whole `match` again in every proof.
-/
import EdbVerif.Lemmas.QLTable

namespace EdbVerif.QL
open EdbVerif.QLLex EdbVerif.Gen.Prec

variable {f m na : Nat} {ts r r' r'' : List Tok} {e lhs : Expr} {es : List Expr}

abbrev Closer (c : P) : Prop := c = .rparen ∨ c = .rbracket ∨ c = .rbrace

/-- an identifier before `rest` is not a function name -/
def NoCall (rest : List Tok) : Prop := ∀ r, rest ≠ .p .lparen :: r

theorem parseE_of_operand
    (h : parseOperand f ts = some (lhs, r)) : parseE (f + 1) m ts = loop f m 0 lhs r := by
  dsimp only [parseE]
  rw [h]

theorem parseE_closer {c : P} (hc : Closer c) (f m : Nat) (r : List Tok) :
    parseE f m (.p c :: r) = none := by
  rcases hc with rfl | rfl | rfl <;> rcases f with _ | _ | f <;> rfl

theorem ne_closer_of_parseE {c : P} (hc : Closer c) {x : Expr × List Tok}
    (h : parseE f m ts = some x) (r : List Tok) : ts ≠ .p c :: r := by
  intro hr
  rw [hr, parseE_closer hc] at h
  cases h

theorem operand_atom (f : Nat) (t : Tok) (rest : List Tok) (h : isAtomTok t = true) :
    parseOperand (f + 1) (t :: rest) = some (.atom t, rest) := by
  cases t with
  | p x => exact Bool.noConfusion h
  | kw k => cases k <;> first | exact Bool.noConfusion h | rfl
  | id s => exact Bool.noConfusion h
  | lit k s => cases k <;> first | exact Bool.noConfusion h | rfl
  | param s => rfl

theorem operand_name (f : Nat) (s : String) (rest : List Tok) (h : NoCall rest) :
    parseOperand (f + 1) (.id s :: rest) = some (.name s, rest) := by
  cases rest with
  | nil => rfl
  | cons t r =>
    cases t with
    | p x =>
      cases x with
      | lparen => exact absurd rfl (h r)
      | _ => rfl
    | _ => rfl

theorem operand_num0 (f : Nat) (k : LitKind) (s : String) (rest : List Tok) (h : k.isNum = true) :
    parseOperand (f + 1) (.lit k s :: rest) = some (.num 0 k s, rest) :=
  if_pos h

theorem negate_of_not_num (e : Expr) (h : isNumE e = false) : negate e = .unop .minus e := by
  cases e <;> first | rfl | exact Bool.noConfusion h

theorem operand_minus (h : parseE f uminusLvl r = some (e, r')) :
    parseOperand (f + 1) (.p .minus :: r) = some (negate e, r') := by
  dsimp only [parseOperand]
  rw [h]

theorem operand_unop (op : UOp)
    (hn : op = .minus → isNumE e = false) (h : parseE f op.lvl r = some (e, r')) :
    parseOperand (f + 1) (op.tok :: r) = some (.unop op e, r') := by
  cases op
  case minus =>
    rw [← negate_of_not_num e (hn rfl)]
    exact operand_minus h
  all_goals
    dsimp only [UOp.tok, parseOperand]
    simp only [UOp.lvl] at h
    rw [h]

theorem operand_detached (h : parseE f detachedLvl r = some (e, r')) :
    parseOperand (f + 1) (.kw .detached :: r) = some (.detached e, r') := by
  dsimp only [parseOperand]
  rw [h]

theorem operand_cast {ty : String} (h : parseE f typecastLvl r = some (e, r')) :
    parseOperand (f + 1) (.p .langbracket :: .id ty :: .p .rangbracket :: r) = some (.cast ty e, r') := by
  dsimp only [parseOperand]
  rw [h]

theorem operand_if {r1 r2 r3 : List Tok} {c a b : Expr}
    (hc : parseE f 0 r = some (c, .kw .then :: r1))
    (ha : parseE f 0 r1 = some (a, .kw .else :: r2))
    (hb : parseE f ifThenRuleLvl r2 = some (b, r3)) :
    parseOperand (f + 1) (.kw .if :: r) = some (.ifelse false c a b, r3) := by
  dsimp only [parseOperand]
  simp only [hc, ha, hb]

theorem operand_unit (f : Nat) (r : List Tok) :
    parseOperand (f + 1) (.p .lparen :: .p .rparen :: r) = some (.tuple [], r) :=
  rfl

theorem operand_lparen (hh : ∀ r, ts ≠ .p .rparen :: r) :
    parseOperand (f + 1) (.p .lparen :: ts) =
      match parseE f 0 ts with
      | some (e, .p .rparen :: r') => some (e, r')
      | some (e, .p .comma :: r') =>
        match parseArgs f .rparen r' with
        | some (es, r'') => some (.tuple (e :: es), r'')
        | none => none
      | _ => none := by
  cases ts with
  | nil => rfl
  | cons t r =>
    cases t with
    | p x =>
      cases x with
      | rparen => exact absurd rfl (hh r)
      | _ => rfl
    | _ => rfl

theorem operand_paren (h : parseE f 0 ts = some (e, .p .rparen :: r')) :
    parseOperand (f + 1) (.p .lparen :: ts) = some (e, r') := by
  rw [operand_lparen (ne_closer_of_parseE (.inl rfl) h), h]

theorem operand_tuple (h : parseE f 0 ts = some (e, .p .comma :: r'))
    (h2 : parseArgs f .rparen r' = some (es, r'')) :
    parseOperand (f + 1) (.p .lparen :: ts) = some (.tuple (e :: es), r'') := by
  rw [operand_lparen (ne_closer_of_parseE (.inl rfl) h), h]
  simp only [h2]

theorem operand_array (h : parseArgs f .rbracket r = some (es, r')) :
    parseOperand (f + 1) (.p .lbracket :: r) = some (.array es, r') := by
  dsimp only [parseOperand]
  rw [h]

theorem operand_set (h : parseArgs f .rbrace r = some (es, r')) :
    parseOperand (f + 1) (.p .lbrace :: r) = some (.set es, r') := by
  dsimp only [parseOperand]
  rw [h]

theorem operand_call {g : String} (h : parseArgs f .rparen r = some (es, r')) :
    parseOperand (f + 1) (.id g :: .p .lparen :: r) = some (.call g es, r') := by
  dsimp only [parseOperand]
  rw [h]

theorem loop_bin {rhs : Expr} {op : BOp}
    (hmb : matchBin ts = some (op, r)) (h1 : ¬ op.laLvl < m) (h2 : op.laLvl ≠ na)
    (h : parseE f (rhsMin op.ruleLvl op.assoc) r = some (rhs, r')) :
    loop (f + 1) m na lhs ts = loop f m (naOf op.ruleLvl op.assoc) (.binop op lhs rhs) r' := by
  dsimp only [loop]
  simp only [hmb, if_neg h1, if_neg h2, h]

theorem loop_is (neg : Bool) {ty : String} (h1 : ¬ isLaLvl < m) (h2 : isLaLvl ≠ na) :
    loop (f + 1) m na lhs (.kw .is :: ((if neg then [.kw .not] else []) ++ .id ty :: r'))
      = loop f m 0 (.isop neg lhs ty) r' := by
  cases neg <;> exact (if_neg h1).trans (if_neg h2)

theorem loop_if {c b : Expr} {r1 r2 : List Tok} (h1 : ¬ ifLaLvl < m)
    (hc : parseE f 0 r = some (c, .kw .else :: r1))
    (hb : parseE f (rhsMin ifRuleLvl ifAssoc) r1 = some (b, r2)) :
    loop (f + 1) m na lhs (.kw .if :: r) = loop f m 0 (.ifelse true c lhs b) r2 := by
  refine (if_neg h1).trans ?_
  simp only [hc, hb]

theorem loop_index {i : Expr} (h1 : ¬ bracketLvl < m)
    (hi : parseE f 0 r = some (i, .p .rbracket :: r')) :
    loop (f + 1) m na lhs (.p .lbracket :: r) = loop f m 0 (mkIndex lhs i) r' := by
  refine (if_neg h1).trans ?_
  rw [hi]

theorem loop_dot {s : String} (h1 : ¬ dotLvl < m) :
    loop (f + 1) m na lhs (.p .dot :: .id s :: r) = loop f m 0 (mkPath lhs s) r :=
  if_neg h1

theorem parseArgs_close (f : Nat) (close : P) (r : List Tok) :
    parseArgs (f + 1) close (.p close :: r) = some ([], r) :=
  if_pos rfl

theorem parseArgs_more (f : Nat) (close : P) (ts : List Tok) (h : ∀ r, ts ≠ .p close :: r) :
    parseArgs (f + 1) close ts = parseArgs1 f close ts := by
  cases ts with
  | nil => rfl
  | cons t r =>
    cases t with
    | p c => exact if_neg fun hc => h r (by rw [hc])
    | _ => rfl

theorem parseArgs1_last {close : P} (h : parseE f 0 ts = some (e, .p close :: r)) :
    parseArgs1 (f + 1) close ts = some ([e], r) := by
  dsimp only [parseArgs1]
  rw [h]
  exact if_pos rfl

theorem parseArgs1_cons {close : P} (hc : close ≠ .comma)
    (h : parseE f 0 ts = some (e, .p .comma :: r))
    (h2 : parseArgs f close r = some (es, r')) :
    parseArgs1 (f + 1) close ts = some (e :: es, r') := by
  dsimp only [parseArgs1]
  simp only [h, if_neg hc.symm, ↓reduceIte, h2]

theorem parseArgs_last {close : P} (hc : Closer close)
    (h : parseE f 0 ts = some (e, .p close :: r)) : parseArgs (f + 2) close ts = some ([e], r) :=
  (parseArgs_more _ _ _ (ne_closer_of_parseE hc h)).trans (parseArgs1_last h)

theorem parseArgs_cons {close : P} (hc : Closer close)
    (h : parseE f 0 ts = some (e, .p .comma :: r)) (h2 : parseArgs f close r = some (es, r')) :
    parseArgs (f + 2) close ts = some (e :: es, r') :=
  (parseArgs_more _ _ _ (ne_closer_of_parseE hc h)).trans
    (parseArgs1_cons (by rcases hc with rfl | rfl | rfl <;> decide) h h2)

end EdbVerif.QL
