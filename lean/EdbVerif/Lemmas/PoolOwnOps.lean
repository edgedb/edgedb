/-
C15, ownership along the transitions.  A primitive that moves a connection takes it into hand or puts the
one in hand somewhere, most others are `OS` to their argument; so `PO = PQ ∧ InvOwn` satisfies `Prims`
with `Hand` as the form in between (`primsO`).
-/
import EdbVerif.Lemmas.PoolPQ
import EdbVerif.Lemmas.PoolOwn

namespace EdbVerif.Pool

theorem schedNew_os {s : State} {u : Nat} : OS (schedNew s u) s := by
  unfold schedNew
  cases s.find u with
  | none => exact OS.fields rfl rfl rfl
  | some _ =>
    have v1 : OS (({ s with cur := s.cur + 1 } : State).mod u fun b => { b with pending := b.pending + 1 }) s :=
      OS.modOf rfl rfl rfl fun _ _ _ => .of_view rfl
    exact (OS.addTask _ rfl).trans (of_ite (P := fun x => OS x s) (fun _ => (OS.toEnd _ u).trans v1) fun _ => v1)

theorem discDone_os {s : State} {tid : Nat} {ok : Bool} : OS (discDone s tid ok) s := by
  unfold discDone
  split
  · exact (OS.dropTask s tid).via rfl rfl rfl
  · exact (OS.dropTask s tid).via rfl rfl rfl
  · exact (OS.setTask s tid rfl).via rfl rfl rfl
  · exact OS.fields rfl rfl rfl

theorem wakeNext_os (s : State) (u : Nat) : OS (wakeNext s u) s := by
  unfold wakeNext
  split
  · split
    · exact OS.refl _
    · exact OS.modOf rfl rfl rfl fun _ _ _ => .of_view rfl
  · exact OS.refl _

theorem leaveWait_os (s : State) (id u : Nat) : OS (leaveWait s id u) s :=
  OS.modOf rfl rfl rfl fun _ _ _ => .of_view rfl

theorem abortWaiters_os {s : State} {u : Nat} : OS (abortWaiters s u) s := by
  unfold abortWaiters
  cases s.find u with
  | none => exact OS.refl _
  | some b => exact OS.modOf rfl rfl rfl fun _ _ _ => .of_view rfl

theorem steal_own {s : State} (hw : WF s) (h : InvOwn s) {u : Nat} {s1 : State} {c : Nat}
    (heq : steal s u = (s1, some c)) : InvOwn s1 ∧ Hand s1 u c := by
  unfold steal at heq
  split at heq
  · rename_i b hb
    split at heq
    · cases heq
    · rename_i c0 rest hst
      cases heq
      have hnd := h.stackNd b (State.find_some hb).1
      rw [hst] at hnd
      exact take_own hw h hb (fun b => { b with stack := rest }) (fun _ => rfl)
        ⟨rfl, rfl, rfl, hst ▸ List.sublist_cons_self _ _, rfl⟩ (hst ▸ List.mem_cons_self)
        (List.nodup_cons.mp hnd).1
  · cases heq

theorem pop_own {s : State} (hw : WF s) (h : InvOwn s) {u : Nat} {b : Block} {c : Nat}
    (hb : s.find u = some b) (hc : b.stack.getLast? = some c) :
    InvOwn (popTop s u) ∧ Hand (popTop s u) u c := by
  obtain ⟨ys, hys⟩ := List.getLast?_eq_some_iff.mp hc
  have hnd := h.stackNd b (State.find_some hb).1
  rw [hys] at hnd
  refine take_own hw h hb (fun b => { b with stack := b.stack.dropLast }) (fun _ => rfl)
    ⟨rfl, rfl, rfl, List.dropLast_sublist _, rfl⟩ (hys ▸ List.mem_concat_self) ?_
  show c ∉ b.stack.dropLast
  rw [hys, List.dropLast_concat]
  exact (ListAux.nodup_snoc.mp hnd).1

theorem blockRelease_own {s : State} (hw : WF s) (h : InvOwn s) {u c : Nat} (hd : Hand s u c) :
    InvOwn (blockRelease s u c) :=
  (push_own hw h hd).ofOS (wakeNext_os _ u)

theorem schedXfer_own {s : State} (hw : WF s) (h : InvOwn s) {f c : Nat} (hd : Hand s f c) (t : Nat) (bh : Bool) :
    InvOwn (schedXfer s f c t bh) := by
  obtain ⟨b, hb, hc1, hc2, hc3⟩ := hd
  unfold schedXfer
  rw [hb]
  split
  · split
    · have h1 : InvOwn (s.mod f fun b => { b with conns := b.conns.filter (·.1 != c) }) :=
        eraseConn_own hw h hb hc1 hc2 rfl rfl (List.Sublist.refl _) hc3
      refine h1.ofOS ((OS.addTask _ rfl).trans ?_)
      have v2 : OS ((s.mod f fun b => { b with conns := b.conns.filter (·.1 != c) }).mod t
          fun b => { b with pending := b.pending + 1 }) _ :=
        OS.modOf rfl rfl rfl fun _ _ _ => .of_view rfl
      split
      · exact .trans (.ofMem (fun _ => mem_toEnd.trans mem_toEnd) rfl (.refl _)) v2
      · exact v2
    · exact h.fail _
  · exact h.fail _

theorem connOk_own {s : State} {u name : Nat} {b : Block} (hn : InvNum s) (h : InvOwn s)
    (hb : s.find u = some b) : InvOwn (connOk s u name) := by
  have hw := hn.toWF
  have hbm := State.find_some hb
  have o := h.owns hw.uids hbm.1
  have hfresh : ∀ x ∈ s.blocks, s.nextConn ∉ x.ids := by
    intro x hx hmem
    obtain ⟨p, hp, hpe⟩ := List.mem_map.mp hmem
    exact Nat.lt_irrefl _ (hpe ▸ hw.cidsFresh x hx p hp)
  refine blockRelease_own (hn.addConn hb _ _).toWF ?_
    ⟨_, State.find_mod_at hb fun _ => rfl, List.mem_concat_self, ?_, ?_⟩
  · refine h.modAt hw hb rfl (fun _ => rfl) rfl ?_ rfl (fun _ _ => rfl) h.single (.refl _) (Nat.le_refl _)
      ⟨fun c hc => List.mem_append_left _ (o.stackIdle c hc), o.stackNd,
        fun x hx e => List.mem_append_left _ (o.held x hx e), o.acq,
        fun c hc => ⟨List.mem_append_left _ (o.limboIdle c hc).1, (o.limboIdle c hc).2⟩⟩
    rw [Block.ids, List.map_append]
    exact ListAux.forall_mem_snoc (fun _ hc => .inl hc) (.inr hfresh)
  · exact fun hmem => hfresh b hbm.1 (List.mem_map_of_mem (f := (·.1)) (o.stackIdle _ hmem))
  · exact fun hl => hfresh b hbm.1 (List.mem_map_of_mem (f := (·.1)) (o.limboIdle _ (hbm.2 ▸ hl)).1)

theorem getBlock_own {s : State} (hw : WF s) (h : InvOwn s) (name : Nat) : InvOwn (getBlock s name).1 := by
  unfold getBlock
  cases hnone : findName s.blocks name with
  | some _ => exact h
  | none =>
    have hfresh := Keyed.find_eq_none.mp hnone
    -- nobody holds a connection of the new database, and no discard names the fresh uid
    have hno : ∀ y ∈ s.holders, y.name ≠ name := fun y hy e => by
      obtain ⟨b1, hb1, hnm, _⟩ := h.held y hy
      exact hfresh b1 hb1 (hnm.trans e)
    have h1 : InvOwn { s with blocks := s.blocks ++ [({ uid := s.nextUid, name := name } : Block)],
                              nextUid := s.nextUid + 1 } := by
      refine .ofOwns ?_ ?_ ?_ ?_ h.single h.limboNd fun p hp => Nat.lt_succ_of_lt (h.limboUid p hp)
      · exact ListAux.forall_mem_snoc
          (fun b1 h1 => ListAux.forall_mem_snoc (h.nameInj b1 h1) fun e => absurd e (hfresh b1 h1))
          (ListAux.forall_mem_snoc (fun b2 h2 e => absurd e.symm (hfresh b2 h2)) fun _ => rfl)
      · exact ListAux.forall_mem_snoc
          (fun b1 h1 => ListAux.forall_mem_snoc (h.disj b1 h1) fun c _ hc => absurd hc List.not_mem_nil)
          fun b2 _ c hc => absurd hc List.not_mem_nil
      · refine ListAux.forall_mem_snoc (fun x hx => h.owns hw.uids hx)
          ⟨nofun, List.nodup_nil, fun y hy e => absurd e (hno y hy), ?_,
            fun c hc => absurd (h.limboUid _ hc) (Nat.lt_irrefl _)⟩
        rw [List.filter_eq_nil_iff.mpr fun y hy => by simpa using hno y hy]
        rfl
      · intro x hx
        obtain ⟨b1, hb1, hnm, _⟩ := h.held x hx
        exact ⟨b1, List.mem_append_left _ hb1, hnm⟩
    exact of_ite (P := InvOwn) (fun _ => h1.ofOS (OS.toFront _ _)) fun _ => h1

theorem dropBlock_own {s : State} (hw : WF s) (h : InvOwn s) {u : Nat} {b : Block}
    (hb : s.find u = some b) (ha : b.acquired = 0) :
    InvOwn { s with blocks := s.blocks.filter (·.uid != u) } := by
  have hbm := State.find_some hb
  have hm : ∀ {x : Block}, x ∈ s.blocks.filter (·.uid != u) → x ∈ s.blocks := fun hx => (List.mem_filter.mp hx).1
  refine ⟨fun b1 hb1 b2 hb2 => h.nameInj b1 (hm hb1) b2 (hm hb2),
    fun b1 hb1 b2 hb2 => h.disj b1 (hm hb1) b2 (hm hb2), fun x hx => h.stackIdle x (hm hx),
    fun x hx => h.stackNd x (hm hx), ?_, h.single, fun x hx => h.acq x (hm hx),
    fun p hp x hx => h.limboIdle p hp x (hm hx), h.limboNd, h.limboUid⟩
  intro x hx
  obtain ⟨b1, hb1, hn, hc⟩ := h.held x hx
  refine ⟨b1, List.mem_filter.mpr ⟨hb1, ?_⟩, hn, hc⟩
  -- the dropped block lends nothing
  have : b1.uid ≠ u := fun e => by
    have hacq := h.acq b hbm.1
    rw [ha, ← State.eq_of_find hw.uids hb hb1 e, hn] at hacq
    have hmem : x ∈ s.holders.filter (·.name == x.name) := List.mem_filter.mpr ⟨hx, beq_iff_eq.mpr rfl⟩
    have := List.length_pos_of_mem hmem
    omega
  exact bne_iff_ne.mpr this

theorem taskStart_own {s : State} (hw : WF s) (h : InvOwn s) (tid : Nat) : InvOwn (taskStart s tid) := by
  unfold taskStart
  split
  · exact h.ofOS (OS.setTask s tid rfl)
  · rename_i u c hh ht
    have hmem := task_some ht
    have hlim : (u, c) ∈ limbo s := by
      rw [limbo_eq]
      exact List.mem_filterMap.mpr ⟨(tid, .disc u c false hh), hmem, rfl⟩
    split
    · exact (h.ofOS (OS.setTask s tid rfl)).fail _
    · rename_i b hb
      have hbm := State.find_some hb
      have hli := h.limboIdle (u, c) hlim b hbm.1 hbm.2
      split
      · -- the discard starts: its connection leaves limbo and the block together
        exact eraseConn_own hw h hb hli.1 hli.2 rfl rfl (OS.setTask (s.mod u _) tid rfl).l
          (limbo_setTask_gone (s := s.mod u _) hw.tids h.limboNd hmem rfl rfl)
      · exact (h.ofOS (OS.setTask s tid rfl)).fail _
  · exact h.ofOS (OS.setTask s tid rfl)
  · exact h.ofOS (OS.setTask s tid rfl)
  · exact h.fail _

theorem acqFinish_own {s : State} (hn : InvNum s) (h : InvOwn s) (r u : Nat) : InvOwn (acqFinish s r u) := by
  unfold acqFinish
  cases hb : s.find u with
  | none =>
    rw [tryAcq_none hb]
    exact h.fail _
  | some b =>
    cases hc : b.stack.getLast? with
    | some c =>
      rw [tryAcq_pop hb hc]
      obtain ⟨h1, hd⟩ := pop_own hn.toWF h hb hc
      exact lend_own (popTop_inv hn u).toWF h1 hd r
    | none =>
      rw [tryAcq_wait hb hc]
      exact h.ofOS (OS.modOf rfl rfl rfl fun _ _ _ => .of_view rfl)

theorem resume_own {s : State} (hn : InvNum s) (hq : InvQ s) (h : InvOwn s) (id : Nat) :
    InvOwn (resume s id) := by
  unfold resume
  split
  · exact h.fail _
  · rename_i w hfind
    have hnp : w.prune = false := hq.noPrune.2 w (List.mem_of_find?_eq_some hfind)
    simp only [hnp, Bool.false_eq_true, ↓reduceIte]
    split
    · exact h.fail _
    · rename_i b hb
      split
      · exact h.fail _
      · -- aborted: only queues, waiters and counters of waiters change
        refine h.ofOS (((leaveWait_os _ id w.block).trans ?_).via rfl rfl rfl)
        split
        · exact OS.refl _
        · exact wakeNext_os s _
      · have hl : InvOwn (leaveWait s id w.block) := h.ofOS (leaveWait_os s id w.block)
        have hnl := leaveWait_inv hn id w.block
        have hbl := find_leaveWait (id := id) hb
        split
        · rename_i c hc
          obtain ⟨h1, hd⟩ := pop_own hnl.toWF hl hbl hc
          exact lend_own (popTop_inv hnl _).toWF h1 hd id
        · rename_i hc
          rw [tryAcq_wait hbl hc]
          exact hl.ofOS (OS.modOf rfl rfl rfl fun _ _ _ => .of_view rfl)

def PO (s : State) : Prop := PQ s ∧ InvOwn s

theorem primsO : Prims PO (fun s u c => PO s ∧ Hand s u c) Room where
  frame := fun h c => ⟨primsQ.frame h.1 c, h.2.ofOS (OS.ofCore c)⟩
  frameH := fun h c => ⟨⟨primsQ.frame h.1.1 c, h.1.2.ofOS (OS.ofCore c)⟩, h.2.ofCore c⟩
  modInert := fun u f hf h => ⟨primsQ.modInert u f hf h.1, h.2.ofOS (OS.modOf rfl rfl rfl fun b _ _ => hf.ov b)⟩
  mapInert := fun f hf h => ⟨primsQ.mapInert f hf h.1, h.2.ofOS (OS.map _ f hf.ov)⟩
  toEnd := fun u h => ⟨primsQ.toEnd u h.1, h.2.ofOS (OS.toEnd _ u)⟩
  toFront := fun u h => ⟨primsQ.toFront u h.1, h.2.ofOS (OS.toFront _ u)⟩
  gOfLt := fun _ hlt => room_of_lt hlt
  schedNew := fun u h g => ⟨primsQ.schedNew u h.1 g, h.2.ofOS schedNew_os⟩
  stealSome := by
    intro s u s1 c h heq
    obtain ⟨ho, hd⟩ := steal_own h.1.1.toWF h.2 heq
    exact ⟨⟨primsQ.stealSome h.1 heq, ho⟩, hd⟩
  stealNone := fun h heq => steal_none_eq heq ▸ h
  schedXfer := fun t bh h =>
    ⟨primsQ.schedXfer t bh h.1.1, schedXfer_own h.1.1.1.toWF h.1.2 h.2 t bh⟩
  schedDiscard := fun h =>
    ⟨primsQ.schedDiscard h.1.1, schedDiscard_own h.1.1.1.toWF h.1.2 h.2 false⟩
  schedDiscardH := fun h =>
    ⟨⟨(primsQ.schedDiscardH h.1.1).1, schedDiscard_own h.1.1.1.toWF h.1.2 h.2 true⟩,
      (primsQ.schedDiscardH h.1.1).2⟩
  blockRelease := fun h => ⟨primsQ.blockRelease h.1.1, blockRelease_own h.1.1.1.toWF h.1.2 h.2⟩
  getBlock := fun name h => ⟨primsQ.getBlock name h.1, getBlock_own h.1.1.toWF h.2 name⟩
  acqFinish := fun r u h hid => ⟨primsQ.acqFinish r u h.1 hid, acqFinish_own h.1.1 h.2 r u⟩
  unlend := by
    intro s r hd b c' h hfind hb hc
    obtain ⟨ho, hh⟩ := unlend_own h.1.1.toWF h.1.2.hreq h.2 hfind hb hc
    exact ⟨⟨primsQ.unlend h.1 hfind hb hc, ho⟩, hh⟩
  dropConnTask := fun h ht hc => ⟨primsQ.dropConnTask h.1 ht hc, h.2.ofOS (OS.dropTask _ _)⟩
  connOk := fun h hb => ⟨primsQ.connOk h.1 hb, connOk_own h.1.1 h.2 hb⟩
  connFailCore := by
    intro s u b0 g h hb
    obtain ⟨a, r⟩ := primsQ.connFailCore g h.1 hb
    exact ⟨⟨a, h.2.ofOS (OS.modOf rfl rfl rfl fun _ _ _ => .of_view rfl)⟩, r⟩
  abortWaiters := fun u h => ⟨primsQ.abortWaiters u h.1, h.2.ofOS abortWaiters_os⟩
  taskStart := fun tid h => ⟨primsQ.taskStart tid h.1, taskStart_own h.1.1.toWF h.2 tid⟩
  discDone := fun tid ok h => ⟨primsQ.discDone tid ok h.1, h.2.ofOS discDone_os⟩
  resume := fun id h => ⟨primsQ.resume id h.1, resume_own h.1.1 h.1.2 h.2 id⟩
  dropBlock := fun h hb hw hz ha =>
    ⟨primsQ.dropBlock h.1 hb hw hz ha, dropBlock_own h.1.1.toWF h.2 hb ha⟩

theorem init_own (max : Nat) : InvOwn (init max) :=
  have e {α : Type} {p : α → Prop} : ∀ x ∈ ([] : List α), p x := List.forall_mem_nil p
  ⟨e, e, e, e, e, .nil, e, e, .nil, e⟩

theorem runO (max : Nat) (evs : List (Env × Ev)) (hev : ∀ x ∈ evs, Prims.NoPruneEv x.2) :
    PO (run (init max) evs) :=
  primsO.run evs hev _ ⟨⟨init_inv max, init_q max⟩, init_own max⟩

end EdbVerif.Pool
