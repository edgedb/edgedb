/-
Basic facts about the flat schema algebra: `find` / `keys`, `Valid` and `Same`, and
what each command does to the finite map when its checks pass (`Upd`).
-/
import EdbVerif.Model.SchemaSpec
import EdbVerif.Lemmas.SchemaList
import EdbVerif.Lemmas.ListAux

namespace EdbVerif.Schema

theorem find_key {s : Schema} {k : Key} {o : Obj} (h : find s k = some o) : o.key = k :=
  (Keyed.find_some h).2

theorem find_mem {s : Schema} {k : Key} {o : Obj} (h : find s k = some o) : o ∈ s :=
  (Keyed.find_some h).1

theorem find_eq_none_iff {s : Schema} {k : Key} : find s k = none ↔ k ∉ keys s :=
  Keyed.find_eq_none_iff

theorem mem_keys_iff_find {s : Schema} {k : Key} : k ∈ keys s ↔ ∃ o, find s k = some o :=
  Keyed.find_isSome.symm.trans Option.isSome_iff_exists

theorem find_of_mem {s : Schema} (hn : (keys s).Nodup) {o : Obj} (h : o ∈ s) : find s o.key = some o :=
  Keyed.find_of_mem hn h

theorem find_some_iff {s : Schema} (hn : (keys s).Nodup) {k : Key} {o : Obj} :
    find s k = some o ↔ o ∈ s ∧ o.key = k :=
  ⟨Keyed.find_some, fun ⟨h, e⟩ => e ▸ Keyed.find_of_mem hn h⟩

theorem contains_keys {s : Schema} {k : Key} : (keys s).contains k = true ↔ k ∈ keys s :=
  List.contains_iff_mem

theorem firstMissing_none {s : Schema} {rs : List Key} :
    firstMissing s rs = none ↔ ∀ r ∈ rs, r ∈ keys s := by
  unfold firstMissing
  rw [List.find?_eq_none]
  simp only [Bool.not_eq_true', not_contains, not_not]

theorem valid_nil : Valid ([] : Schema) := ⟨List.nodup_nil, fun _ h => by cases h⟩

theorem Same.valid {s t : Schema} (h : Same s t) (ht : Valid t) : Valid s := by
  refine ⟨h.1, fun o ho r hr => ?_⟩
  have h1 : find t o.key = some o := h.2 _ ▸ find_of_mem h.1 ho
  obtain ⟨o', ho'⟩ := mem_keys_iff_find.1 (ht.closed o (find_mem h1) r hr)
  exact mem_keys_iff_find.2 ⟨o', h.2 r ▸ ho'⟩

theorem Same.refl {s : Schema} (h : (keys s).Nodup) : Same s s := ⟨h, fun _ => rfl⟩

theorem Same.trans_symm {r r' t : Schema} (h : Same r t) (h' : Same r' t) : Same r r' :=
  ⟨h.1, fun k => (h.2 k).trans (h'.2 k).symm⟩

theorem Same.nil {s : Schema} (h : Same s []) : s = [] := by
  cases s with
  | nil => rfl
  | cons o os =>
    have h1 : find (o :: os) o.key = some o := List.find?_cons_of_pos (beq_iff_eq.2 rfl)
    cases h1.symm.trans (h.2 o.key)

theorem find_append_single {s : Schema} {o : Obj} (hk : o.key ∉ keys s) (k : Key) :
    find (s ++ [o]) k = if k = o.key then some o else find s k := by
  rw [← Keyed.upsert_of_fresh (Keyed.find_eq_none.1 (find_eq_none_iff.2 hk))]
  exact (Keyed.find_upsert s o k).trans (if_congr eq_comm rfl rfl)

theorem keys_append (s t : Schema) : keys (s ++ t) = keys s ++ keys t :=
  List.map_append

def Upd (s s1 : Schema) (k : Key) (v : Option Obj) : Prop :=
  (keys s1).Nodup ∧ ∀ k', find s1 k' = if k' = k then v else find s k'

theorem apply_create {s : Schema} {o : Obj} (hn : (keys s).Nodup) (hk : o.key ∉ keys s)
    (hr : ∀ r ∈ o.refs, r ∈ keys s) : ∃ s1, apply s (.create o) = .ok s1 ∧ Upd s s1 o.key (some o) := by
  refine ⟨s ++ [o], ?_, keys_append s [o] ▸ ListAux.nodup_snoc.2 ⟨hk, hn⟩, find_append_single hk⟩
  simp only [apply, not_contains.2 hk, Bool.false_eq_true, if_false, firstMissing_none.2 hr]

theorem find_map_key_preserving {s : Schema} (g : Obj → Obj) (hg : ∀ o, (g o).key = o.key) (k : Key) :
    find (s.map g) k = (find s k).map g :=
  Keyed.find_map hg s k

theorem keys_map_key_preserving {s : Schema} {g : Obj → Obj} (hg : ∀ o, (g o).key = o.key) :
    keys (s.map g) = keys s := by
  unfold keys
  rw [List.map_map]
  exact List.map_congr_left fun o _ => hg o

def alterFn (k : Key) (d : Nat) (rs : List Key) (ob : Obj) : Obj :=
  if ob.key == k then { ob with data := d, refs := rs } else ob

theorem alterFn_key (k : Key) (d : Nat) (rs : List Key) (ob : Obj) : (alterFn k d rs ob).key = ob.key := by
  unfold alterFn
  split <;> rfl

theorem Obj.with_data_refs {x y : Obj} (h : y.key = x.key) :
    ({ y with data := x.data, refs := x.refs } : Obj) = x := by
  cases x
  cases y
  cases h
  rfl

theorem find_alter {s : Schema} {k : Key} {x y : Obj} (hy : find s k = some y) (hx : x.key = k) (k' : Key) :
    find (s.map (alterFn k x.data x.refs)) k' = if k' = k then some x else find s k' := by
  refine (Keyed.find_modify (key := Obj.key) (f := fun ob => { ob with data := x.data, refs := x.refs })
    (fun _ h => h) s k').trans ?_
  rw [show s.find? (·.key == k) = some y from hy, Option.map_some,
    Obj.with_data_refs ((find_key hy).trans hx.symm)]
  exact if_congr eq_comm rfl rfl

theorem apply_alter {s : Schema} {c : Nat} {n : String} {x y : Obj} (hn : (keys s).Nodup)
    (hy : find s (c, n) = some y) (hx : x.key = (c, n)) (hr : ∀ r ∈ x.refs, r ∈ keys s) :
    ∃ s1, apply s (.alter c n x.data x.refs) = .ok s1 ∧ Upd s s1 (c, n) (some x) := by
  refine ⟨s.map (alterFn (c, n) x.data x.refs), ?_, ?_, find_alter hy hx⟩
  · simp only [apply, List.contains_iff_mem.2 (mem_keys_iff_find.2 ⟨y, hy⟩), Bool.not_true, Bool.false_eq_true,
      if_false, firstMissing_none.2 hr]
    rfl
  · rwa [keys_map_key_preserving (alterFn_key _ _ _)]

theorem find_delete {s : Schema} (k k' : Key) :
    find (s.filter fun ob => ob.key != k) k' = if k' = k then none else find s k' :=
  (Keyed.find_erase s k k').trans (if_congr eq_comm rfl rfl)

theorem apply_delete {s : Schema} {c : Nat} {n : String} (hn : (keys s).Nodup)
    (hk : (c, n) ∈ keys s) (hr : ∀ o ∈ s, (c, n) ∉ o.refs) :
    ∃ s1, apply s (.delete c n) = .ok s1 ∧ Upd s s1 (c, n) none := by
  refine ⟨s.filter fun ob => ob.key != (c, n), ?_, Keyed.nodup_map_filter hn, find_delete _⟩
  have h2 : s.find? (fun ob => ob.refs.contains (c, n)) = none :=
    List.find?_eq_none.2 fun o ho => List.contains_iff_mem.not.2 (hr o ho)
  simp only [apply, List.contains_iff_mem.2 hk, Bool.not_true, Bool.false_eq_true, if_false, h2]

end EdbVerif.Schema
