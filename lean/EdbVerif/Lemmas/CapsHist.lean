/-
C08 — histories: full propagation re-establishes "stored = closure over the current bodies"
(`propagateFull_consistent`); the three-function chain on which one-level propagation does not.
-/
import EdbVerif.Model.CapsHist

namespace EdbVerif.Caps.Hist

theorem foldl_step_prefix (ys : List Def) (s : List Bool) :
    ∃ t, ys.foldl step s = s ++ t ∧ t.length = ys.length := by
  induction ys generalizing s with
  | nil => exact ⟨[], by simp⟩
  | cons y ys ih =>
    obtain ⟨t, ht, hl⟩ := ih (step s y)
    refine ⟨infer s y :: t, ?_, by simp [hl]⟩
    rw [List.foldl_cons, ht]
    simp [step]

theorem closure_length (ds : List Def) : (closure ds).length = ds.length := by
  obtain ⟨t, ht, hl⟩ := foldl_step_prefix ds []
  simp [closure, ht, hl]

theorem closure_append (xs ys : List Def) : closure (xs ++ ys) = ys.foldl step (closure xs) := by
  simp [closure, List.foldl_append]

theorem closure_take (ds : List Def) (k : Nat) (hk : k ≤ ds.length) :
    (closure ds).take k = closure (ds.take k) := by
  obtain ⟨t, ht, _⟩ := foldl_step_prefix (ds.drop k) (closure (ds.take k))
  rw [← closure_append, List.take_append_drop] at ht
  rw [ht, List.take_left' (by rw [closure_length, List.length_take, Nat.min_eq_left hk])]

theorem alter_take (ds : List Def) (k : Nat) (d : Def) : (alter ds k d).take k = ds.take k :=
  List.take_set_of_le (Nat.le_refl k)

theorem propagateFull_consistent (ds ds' : List Def) (st : List Bool) (k : Nat)
    (hk : k ≤ ds.length) (hpre : ds'.take k = ds.take k)
    (hst : Consistent ds st) : Consistent ds' (propagateFull ds' st k) := by
  unfold Consistent at *
  subst hst
  rw [propagateFull, closure_take ds k hk, ← hpre, ← closure_append, List.take_append_drop]

/-- the chain h → f → g (function 2 calls 1, 1 calls 0), nobody writing -/
def exDs : List Def := [⟨false, []⟩, ⟨false, [0]⟩, ⟨false, [1]⟩]
/-- `g` starts writing.  One-level propagation from `g` recompiles `f` only, so `h` keeps a stale flag
(`C08_history_one_level_counterexample`). -/
def exDs' : List Def := alter exDs 0 ⟨true, []⟩

end EdbVerif.Caps.Hist
