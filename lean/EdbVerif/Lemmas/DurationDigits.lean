/-
Digit-string lemmas for the Duration and Memory round-trip proofs
(`natDigits` is core's `Nat.toDigits 10`, `digitsToNat` its `Nat.ofDigitChars 10`).
-/
import EdbVerif.Model.Duration
import EdbVerif.Lemmas.Digits
namespace EdbVerif.Duration

theorem digitVal_digitChar : ∀ d, d < 10 → digitVal (digitChar d) = d := by decide
theorem isDigit_digitChar : ∀ d, d < 10 → isDigit (digitChar d) = true := by decide

theorem digitsToNat_append_single (l : List Char) (c : Char) :
    digitsToNat (l ++ [c]) = digitsToNat l * 10 + digitVal c := by
  simp [digitsToNat, List.foldl_append]

theorem natDigits_eq (n : Nat) : natDigits n = Nat.toDigits 10 n :=
  Digits.revDigits_eq_of_le (b := 10) (by decide) (dig := digitChar) (by decide) (aux := fun f => natDigitsRev (f + 1))
    rfl (fun _ _ => rfl) n n (Nat.le_refl n)

theorem digitsToNat_eq (l : List Char) : digitsToNat l = Nat.ofDigitChars 10 l 0 := by
  rw [digitsToNat, Nat.ofDigitChars_eq_foldl]
  exact congrArg (List.foldl · 0 l) (funext fun a => funext fun c => Nat.mul_comm a 10 ▸ rfl)

theorem isDigit_eq (c : Char) : isDigit c = c.isDigit := by
  simp only [isDigit, Char.isDigit, Char.le_def, ge_iff_le, UInt32.le_iff_toNat_le]

theorem digitsToNat_natDigits (n : Nat) : digitsToNat (natDigits n) = n := by
  rw [digitsToNat_eq, natDigits_eq]; exact Nat.ofDigitChars_ten_toDigits

theorem natDigits_isDigit (n : Nat) : ∀ c ∈ natDigits n, isDigit c = true :=
  fun c hc => (isDigit_eq c).trans
    (Nat.isDigit_of_mem_toDigits (b := 10) (by decide) (by decide) (natDigits_eq n ▸ hc))

theorem natDigits_ne_nil (n : Nat) : natDigits n ≠ [] := natDigits_eq n ▸ Nat.toDigits_ne_nil

theorem natDigits_isEmpty (n : Nat) : (natDigits n).isEmpty = false := by
  simpa using natDigits_ne_nil n

theorem natDigits_length_le (n k : Nat) (h : n < 10 ^ (k + 1)) : (natDigits n).length ≤ k + 1 :=
  natDigits_eq n ▸ (Nat.length_toDigits_le_iff (by decide) (Nat.succ_pos k)).mpr h

theorem span_digits (ds : List Char) (c : Char) (rest : List Char)
    (hall : ∀ d ∈ ds, isDigit d = true) (hc : isDigit c = false) :
    (ds ++ c :: rest).takeWhile isDigit = ds ∧ (ds ++ c :: rest).dropWhile isDigit = c :: rest := by
  simp [List.takeWhile_append_of_pos hall, List.dropWhile_append_of_pos hall, hc]

theorem span_natDigits (n : Nat) (c : Char) (rest : List Char) (hc : isDigit c = false) :
    (natDigits n ++ c :: rest).takeWhile isDigit = natDigits n ∧
    (natDigits n ++ c :: rest).dropWhile isDigit = c :: rest :=
  span_digits _ c rest (natDigits_isDigit n) hc

theorem digitsToNat_replicate_zero (j : Nat) (l : List Char) :
    digitsToNat (List.replicate j '0' ++ l) = digitsToNat l := by
  rw [digitsToNat_eq, digitsToNat_eq, Nat.ofDigitChars_append, Nat.ofDigitChars_replicate_zero,
    Nat.mul_zero]

theorem digitsToNat_all_zero (l : List Char) (h : ∀ c ∈ l, c = '0') : digitsToNat l = 0 := by
  have : l = List.replicate l.length '0' ++ [] := by
    simp [List.eq_replicate_iff]; exact h
  rw [this, digitsToNat_replicate_zero]; rfl

end EdbVerif.Duration
