/-
C17, remote path: what one request does to the worker record that serves it.
-/
import EdbVerif.Lemmas.SyncMTBasic

namespace EdbVerif.SyncMT
open EdbVerif.Sync

theorem invalidateLast_spec (w : MTWorker) (size : Nat) (h0 : w.inval = []) :
    (invalidateLast w size).act = w.act ∧
    (∀ c v, cacheGet (invalidateLast w size).cache c = some v → cacheGet w.cache c = some v) ∧
    ∀ c, cacheGet w.cache c = none → (invalidateLast w size).inval.contains c = false := by
  unfold invalidateLast
  split
  · split
    · rename_i e he
      refine ⟨rfl, fun c v => cacheGet_dropLast _ c v, fun c hc => ?_⟩
      have := cacheGet_none_mem _ c hc e (List.mem_of_getLast? he)
      simp [h0, Ne.symm this]
    · exact ⟨rfl, fun _ _ h => h, fun _ _ => by simp [h0]⟩
  · exact ⟨rfl, fun _ _ h => h, fun _ _ => by simp [h0]⟩

theorem prepare_diff (w0 : MTWorker) (c : Nat) (cs' : CS) (size : Nat) :
    (prepare w0 c cs' size).2.2.1 =
      match cacheGet w0.cache c with
      | none => some cs'.full
      | some v => if v.ver = cs'.ver then none else some (cs'.diff v) := by
  unfold prepare
  cases cacheGet w0.cache c with
  | none => rfl
  | some v => dsimp only; split <;> rfl

/-- `h0`: nothing is pending in `_invalidated_clients` (always the case between requests) -/
theorem prepare_spec (w0 : MTWorker) (c : Nat) (cs' : CS) (size : Nat) (h0 : w0.inval = []) :
    (prepare w0 c cs' size).1.inval = [] ∧ (prepare w0 c cs' size).1.act = w0.act ∧
    (prepare w0 c cs' size).2.2.2.contains c = false ∧
    ∀ c' v', cacheGet (prepare w0 c cs' size).1.cache c' = some v' →
      cacheGet w0.cache c' = some v' ∧ (prepare w0 c cs' size).2.2.2.contains c' = false := by
  suffices h : ∀ w1 : MTWorker,
      (∀ c v, cacheGet w1.cache c = some v → cacheGet w0.cache c = some v) →
      ∀ c' v', cacheGet (w1.cache.filter fun e => !w1.inval.contains e.1) c' = some v' →
        cacheGet w0.cache c' = some v' ∧ w1.inval.contains c' = false by
    unfold prepare
    cases hc : cacheGet w0.cache c with
    | none =>
      obtain ⟨h1, h2, h3⟩ := invalidateLast_spec w0 size h0
      exact ⟨rfl, h1, h3 c hc, h _ h2⟩
    | some v =>
      dsimp only
      split <;> exact ⟨rfl, rfl, by simp [h0], h w0 fun _ _ h => h⟩
  intro w1 h2 c' v' hv
  rw [cacheGet_filter_key w1.cache (fun k => !w1.inval.contains k)] at hv
  split at hv
  · rename_i hk; exact ⟨h2 _ _ hv, by simpa using hk⟩
  · cases hv

theorem serve_spec (env : Env) (w2 : MTWorker) (inval : List Nat) (c db : Nat) (cs' : CS)
    (d : Option Diff) (out : COut) :
    serve env w2 inval c db cs' d out =
      (⟨w2.cache, w2.inval, fun i => if inval.contains i then none else w2.act i⟩,
        .syncFail, none, false) ∨
    ∃ a' cache' res used,
      wsyncMT env (if inval.contains c then none else w2.act c) d = some a' ∧
      serve env w2 inval c db cs' d out =
        (⟨cache', w2.inval, fun i => if i = c then a' else if inval.contains i then none else w2.act i⟩,
          res, used, true) ∧
      res ≠ .syncFail ∧ (cache' = cacheSet w2.cache c cs' ∨ (cache' = w2.cache ∧ out = .resultUnpicklable)) ∧
      ∀ u, used = some u → ∃ x d3, a' = some x ∧ x.dbs db = some d3 ∧
        u = ⟨d3.schema, x.glob, d3.refl, d3.dbcfg, x.sys⟩ := by
  unfold serve
  dsimp only
  cases hw : wsyncMT env (if inval.contains c = true then none else w2.act c) d with
  | none => exact .inl rfl
  | some a' =>
    cases a' with
    | none => exact .inr ⟨_, _, _, _, rfl, rfl, nofun, .inl rfl, nofun⟩
    | some x =>
      dsimp only
      cases hx : x.dbs db with
      | none => exact .inr ⟨_, _, _, _, rfl, rfl, nofun, .inl rfl, nofun⟩
      | some d3 =>
        have hu : ∀ (u : Used), some (⟨d3.schema, x.glob, d3.refl, d3.dbcfg, x.sys⟩ : Used) = some u →
            ∃ x' d3', some x = some x' ∧ x'.dbs db = some d3' ∧
              u = ⟨d3'.schema, x'.glob, d3'.refl, d3'.dbcfg, x'.sys⟩ :=
          fun u hu => ⟨x, d3, rfl, hx, by cases hu; rfl⟩
        cases out
        case resultUnpicklable => exact .inr ⟨_, _, _, _, rfl, rfl, nofun, .inr ⟨rfl, rfl⟩, hu⟩
        all_goals exact .inr ⟨_, _, _, _, rfl, rfl, nofun, .inl rfl, hu⟩

/-- the worker-record part of `stepMTRun` -/
def request (env : Env) (w0 : MTWorker) (c db : Nat) (cs' : CS) (size : Nat) (out : COut) :
    MTWorker × Res × Option Used × Bool :=
  serve env (prepare w0 c cs' size).1 (prepare w0 c cs' size).2.2.2 c db cs'
    (prepare w0 c cs' size).2.2.1 out

theorem request_ack {env : Env} {w0 : MTWorker} {c db : Nat} {cs' : CS} {size : Nat} {out : COut}
    (h : (request env w0 c db cs' size out).2.1 ≠ .syncFail) :
    (request env w0 c db cs' size out).2.2.2 = true := by
  unfold request at h ⊢
  rcases serve_spec env (prepare w0 c cs' size).1 (prepare w0 c cs' size).2.2.2 c db cs'
    (prepare w0 c cs' size).2.2.1 out with hf | ⟨_, _, _, _, _, hs, _⟩
  · rw [hf] at h; exact absurd rfl h
  · rw [hs]

end EdbVerif.SyncMT
