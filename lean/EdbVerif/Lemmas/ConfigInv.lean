/-
C19: what `coerce_value` / `from_pyvalue` build is admissible (JSON round-trips),
except a negative `int` for a memory slot; hence `apply` keeps `MapOK`.
-/
import EdbVerif.Lemmas.ConfigJsonObj
namespace EdbVerif.Config

theorem mkDuration_ok (s : String) (x : Scalar) (h : mkDuration s = .ok x) : ∃ us, x = .dur us := by
  unfold mkDuration at h
  split at h <;> cases h
  exact ⟨_, rfl⟩

theorem mkMemory_str_ok (s : String) (x : Scalar) (h : mkMemory (.str s) = .ok x) :
    ∃ n : Nat, x = .mem n := by
  simp only [mkMemory] at h
  split at h <;> cases h
  exact ⟨_, rfl⟩

theorem mkEnum_ok (vals : List String) (s : String) (x : Scalar) (h : mkEnum vals s = .ok x) :
    x = .enum s ∧ s ∈ vals := by
  unfold mkEnum at h
  split at h <;> cases h
  exact ⟨rfl, by simpa using ‹vals.contains s = true›⟩

theorem coerceSingle_ok (t : STy) (v : JV) (x : Scalar) (h : coerceSingle t v = .ok x)
    (hneg : ∀ i, t = .mem → v = .int i → 0 ≤ i) : ScalarOK t x := by
  unfold coerceSingle at h
  split at h
  · -- already an instance of the setting's type: bool / int / str
    rename_i s hi
    cases h
    unfold instOfSetting at hi
    split at hi <;> cases hi <;> trivial
  · split at h
    · -- Duration(str)
      obtain ⟨us, rfl⟩ := mkDuration_ok _ _ h; trivial
    · -- ConfigMemory(str)
      obtain ⟨n, rfl⟩ := mkMemory_str_ok _ _ h; exact Int.natCast_nonneg n
    · -- ConfigMemory(int): stored unchecked
      cases h; exact hneg _ rfl rfl
    · cases h
    · -- enum member
      obtain ⟨rfl, hm⟩ := mkEnum_ok _ _ _ h; exact hm
    · cases h

theorem coerce_scalar_ValOK (sp : Spec) (s : Setting) (t : STy) (v : JV) (val : Val)
    (hty : s.ty = .sc t) (hset : s.setOf = true → t = .bool ∨ t = .int ∨ t = .str)
    (h : coerceValue sp s .set v false = .ok val)
    (hneg : ∀ i, t = .mem → v = .int i → 0 ≤ i) : ValOK sp s val := by
  unfold coerceValue at h
  unfold ValOK
  simp only [hty] at h ⊢
  cases hso : s.setOf with
  | true =>
    simp only [hso, if_true] at h
    split at h
    · cases h  -- not a container
    · -- a container: items coerced, frozenset built, size checked
      split at h
      · cases h
      · rename_i ss hss
        split at h <;> cases h
        refine ⟨fun x hx => ?_, mkSet_PD ss⟩
        obtain ⟨j, _, hj⟩ := mapE_mem hss x (mkSet_subset ss x hx)
        rcases hset hso with rfl | rfl | rfl <;> exact coerceSingle_ok _ j x hj nofun
  | false =>
    simp only [hso, Bool.false_eq_true, if_false] at h
    split at h
    · cases h; exact coerceSingle_ok t v _ ‹_› hneg
    · cases h  -- `ConfigurationError`: only `None` with allow_missing passes, and SET has none
    · cases h

theorem instOf_elemOK (t : STy) (v : JV) (x : Scalar) (h : instOf t v = some x) : ElemOK t x := by
  unfold instOf at h
  split at h <;> cases h <;> exact ⟨_, rfl, rfl⟩

theorem mkDurationIso_ok (s : String) (x : Scalar) (h : mkDurationIso s = .ok x) : ∃ us, x = .dur us := by
  unfold mkDurationIso at h
  split at h <;> cases h
  exact ⟨_, rfl⟩

theorem fieldOK_of_elemOK (f : Field) (t : STy) (x : Scalar) (hty : f.ty = .sc t) (he : ElemOK t x) :
    FieldOK f (.sc x) := by
  obtain ⟨ht, hn, _⟩ := elemOK_cases t x he
  unfold FieldOK
  rw [hty]
  rcases ht with rfl | rfl | rfl <;> cases x <;> first | exact he | exact absurd rfl hn

theorem coerceField_ok (f : Field) (j : JV) (v : FVal) (h : coerceField f j = .ok v)
    (hneg : ∀ i, f.ty = .sc .mem → j = .int i → 0 ≤ i) : FieldOK f v := by
  unfold coerceField at h
  split at h
  · -- frozenset[t]: a single instance, or a container of instances
    rename_i t hty
    unfold FieldOK
    rw [hty]
    split at h
    · rename_i s hi
      cases h
      exact ⟨by simpa using instOf_elemOK t j s hi, by simp [PD]⟩
    · split at h
      · split at h <;> cases h
        rename_i ss hm
        refine ⟨fun x hx => ?_, mkSet_PD ss⟩
        obtain ⟨jv, _, hjv⟩ := mapO_mem hm x (mkSet_subset ss x hx)
        exact instOf_elemOK t jv x hjv
      · cases h
  · -- duration
    rename_i hty
    unfold FieldOK
    rw [hty]
    split at h
    · obtain ⟨x, hd, rfl⟩ := map_eq_ok h
      obtain ⟨us, rfl⟩ := mkDurationIso_ok _ x hd
      trivial
    · cases h
  · -- memory: text, or an int stored unchecked
    rename_i hty
    unfold FieldOK
    rw [hty]
    split at h
    · obtain ⟨x, hd, rfl⟩ := map_eq_ok h
      obtain ⟨n, rfl⟩ := mkMemory_str_ok _ x hd
      exact Int.natCast_nonneg n
    · cases h; exact hneg _ hty rfl
    · cases h
    · cases h
  · -- enum: always rejected
    cases h
  · -- bool / int / str
    rename_i t _ _ _ hty
    split at h <;> cases h
    exact fieldOK_of_elemOK f t _ hty (instOf_elemOK t j _ ‹_›)

theorem collectItems_fieldOK (t : TSpec) : ∀ (kvs : List (String × JV)) (items : List (String × FVal)) (inv : Bool),
    collectItems t kvs = .ok (items, inv) → NoNegMem t kvs →
    ∀ kv ∈ items, ∃ f ∈ t.fields, f.name = kv.1 ∧ FieldOK f kv.2 := by
  intro kvs
  induction kvs with
  | nil => intro items inv h _ kv hkv; cases h; cases hkv
  | cons e r ih =>
    intro items inv h hneg kv hkv
    obtain ⟨k, v⟩ := e
    have hneg' : NoNegMem t r := fun k' i hm => hneg k' i (List.mem_cons_of_mem _ hm)
    unfold collectItems at h
    split at h
    · -- unknown key: nothing collected
      split at h
      · cases h
      · cases h; exact ih _ _ ‹_› hneg' kv hkv
    · rename_i f hfind
      split at h
      · -- null: skipped
        exact ih _ _ h hneg' kv hkv
      · split at h
        · cases h
        · split at h
          · cases h
          · cases h
            rename_i fv hco _ _ hr
            obtain ⟨hfm, hfn⟩ := Keyed.find_some hfind
            rcases List.mem_cons.mp hkv with rfl | hkv'
            · exact ⟨f, hfm, hfn, coerceField_ok f v fv hco fun i hty hji =>
                hneg k i (by simp [hji]) f hfm hfn hty⟩
            · exact ih _ _ hr hneg' kv hkv'

theorem buildVals_aligned (t : TSpec) (ht : TSpecOK t) (items : List (String × FVal))
    (H : ∀ kv ∈ items, ∃ f ∈ t.fields, f.name = kv.1 ∧ FieldOK f kv.2) :
    ∀ (fs : List Field) (vs : List (String × FVal)), (∀ f ∈ fs, f ∈ t.fields) →
    buildVals false items fs = .ok vs → Aligned fs vs := by
  intro fs
  induction fs with
  | nil => intro vs _ h; cases h; exact Aligned.nil
  | cons f r ih =>
    intro vs hsub h
    have hfm := hsub f (by simp)
    unfold buildVals at h
    have hrest : ∀ fv, FieldOK f fv → (match buildVals false items r with
        | .error e => Except.error e
        | .ok vs => Except.ok ((f.name, fv) :: vs)) = .ok vs → Aligned (f :: r) vs := by
      intro fv hok h
      split at h <;> cases h
      exact Aligned.cons rfl hok (ih _ (fun g hg => hsub g (by simp [hg])) ‹_›)
    split at h
    · -- given: the item of that name belongs to this very field
      rename_i fv hl
      refine hrest fv ?_ h
      obtain ⟨kv, hfi, rfl⟩ := Option.map_eq_some_iff.mp hl
      obtain ⟨hkv, hk⟩ := Keyed.find_some hfi
      obtain ⟨g, hg, hgn, hok⟩ := H kv hkv
      cases Keyed.eq_of_key ht.nodup hg hfm (hgn.trans hk)
      exact hok
    · -- missing: the default, which the schema loader has checked
      split at h
      · exact hrest _ (ht.defaults f hfm _ ‹_›) h
      · cases h

/-- `_types_by_name` is keyed by the types' own names -/
theorem getType_name (sp : Spec) (n : String) (t : TSpec) (h : sp.getType n = some t) :
    sp.getType t.name = some t := by
  rw [(Keyed.find_some h).2]; exact h

theorem resolveType_reg (sp : Spec) (t t' : TSpec) (kvs : List (String × JV))
    (hreg : sp.getType t.name = some t) (h : resolveType sp t kvs = .ok t') :
    sp.getType t'.name = some t' := by
  simp only [resolveType] at h
  split at h
  · cases h; exact hreg
  · cases h; exact hreg
  · split at h <;> cases h
    exact getType_name sp _ t' ‹_›
  · cases h

theorem fromPyValue_ObjOK (sp : Spec) (hsp : TypesOK sp) (t : TSpec) (hreg : sp.getType t.name = some t)
    (j : JV) (o : Obj) (h : fromPyValue sp t false j = .ok (some o))
    (hneg : ∀ kvs, j = .obj kvs → ∀ t', NoNegMem t' kvs) : ObjOK sp o := by
  unfold fromPyValue at h
  split at h
  · cases h
  · -- a dict: built with the type `_tname` names, else the setting's
    rename_i kvs
    split at h
    · cases h
    · rename_i t' hres
      have hreg' := resolveType_reg sp t t' kvs hreg hres
      have htok := hsp _ _ hreg'
      split at h <;> cases h
      rename_i hb
      unfold buildObj at hb
      split at hb
      · cases hb
      · -- the field loop succeeded, with no unknown key; then the attributes were built
        rename_i items inv hcol
        split at hb
        · cases hb
        · split at hb <;> cases hb
          rename_i hinv _ vs hvs
          rw [Bool.not_eq_true] at hinv
          subst hinv
          exact ⟨hreg', htok.nodup, htok.noTname, buildVals_aligned t' htok items
            (collectItems_fieldOK t' _ items false hcol fun k i hm =>
              hneg kvs rfl t' k i (List.mem_filter.mp hm).1) _ vs (fun _ h => h) hvs⟩
  · cases h

theorem MapOK_setValue (sp : Spec) (m : SMap) (name : String) (s : Setting) (val : Val) (sc : Scope)
    (hm : MapOK sp m) (hs : sp.get name = some s) (hv : ValOK sp s val) :
    MapOK sp (setValue m name val sc) := by
  refine ⟨SMap.WF_set m _ _ hm.wf, ?_⟩
  intro kv hkv
  rcases SMap.mem_set m name _ kv hkv with h | h
  · subst h; exact ⟨s, hs, rfl, hv⟩
  · exact hm.entries kv h

theorem MapOK_delete (sp : Spec) (m : SMap) (name : String) (hm : MapOK sp m) :
    MapOK sp (m.delete name) :=
  ⟨SMap.WF_delete m _ hm.wf, fun kv hkv => hm.entries kv ((SMap.delete_sublist m name).subset hkv)⟩

theorem objOfJson_ok (sp : Spec) (t : TSpec) (jv : JV) (o : Obj) (h : objOfJson sp t jv = .ok o) :
    fromPyValue sp t false jv = .ok (some o) := by
  unfold objOfJson at h
  split at h <;> simp_all

theorem ValOK_objs (sp : Spec) (s : Setting) (t : TSpec) (l : List Obj) (hty : s.ty = .obj t) :
    ValOK sp s (.objs l) ↔
      s.setOf = true ∧ (∀ o ∈ l, ObjOK sp o) ∧ l.Pairwise (fun a b => a.pyEq b = false) := by
  unfold ValOK
  cases s.setOf <;> simp [hty]

theorem coerceObjectSet_ValOK (sp : Spec) (hsp : TypesOK sp) (s : Setting) (t : TSpec) (v : JV)
    (l : List Obj) (hty : s.ty = .obj t) (hso : s.setOf = true)
    (hreg : sp.getType t.name = some t)
    (h : coerceObjectSet sp t s.setOf v = .ok l)
    (hneg : ∀ kvs, (∃ l, v = .list l ∧ JV.obj kvs ∈ l) → ∀ t', NoNegMem t' kvs) :
    ValOK sp s (.objs l) := by
  obtain ⟨items, hsi, h1, h3, _⟩ := coerceObjectSet_ok sp t _ v l h
  refine (ValOK_objs sp s t l hty).2 ⟨hso, fun o ho => ?_, h3⟩
  obtain ⟨jv, hjv, hoj⟩ := mapE_mem h1 o ho
  apply fromPyValue_ObjOK sp hsp t hreg jv o (objOfJson_ok sp t jv o hoj)
  rintro kvs rfl t'
  cases v <;> simp [sizedItems] at hsi <;> subst hsi
  · simp at hjv
  · exact hneg kvs ⟨_, rfl, hjv⟩ t'
  · simp at hjv

theorem existValue_ValOK (sp : Spec) (hsp : SpecOK sp) (m : SMap) (hm : MapOK sp m) (name : String)
    (s : Setting) (t : TSpec) (hs : sp.get name = some s) (hty : s.ty = .obj t) :
    ValOK sp s (existValue m name s) := by
  unfold existValue
  cases hg : m.get name with
  | none => exact hsp.objDefault name s t hs hty
  | some sv =>
    obtain ⟨s', hs', _, hv⟩ := hm.entries _ (SMap.get_mem m name sv hg)
    rw [hs] at hs'; cases hs'
    exact hv

/-- a successful operation that avoids the two known corners (`OpNice`) keeps the storage map
    admissible (hence JSON-round-trippable) -/
theorem apply_MapOK (sp : Spec) (hsp : SpecOK sp) (m m' : SMap) (op : Op) (hm : MapOK sp m)
    (hop : OpNice sp op) (h : apply sp m op = .ok m') : MapOK sp m' := by
  have hA := applied_of_ok sp m m' op h
  generalize hc : op.code = c at hA
  cases hA with
  | reset => exact MapOK_delete sp m _ hm
  | set s value hs hv =>
    apply MapOK_setValue sp m op.name s value op.scope hm hs
    cases hty : s.ty with
    | sc t =>
      exact coerce_scalar_ValOK sp s t op.value value hty
        (fun hso => hsp.scalarSets op.name s t hs hty hso) hv
        (fun i ht hval => hop.mem s i hs (by rw [hty, ht]) hval)
    | obj t =>
      cases hso : s.setOf with
      | false => exact absurd hc (hop.single s t hs hty hso)
      | true =>
        unfold coerceValue at hv
        simp only [hty, if_true] at hv
        obtain ⟨l, hco, rfl⟩ := map_eq_ok hv
        exact coerceObjectSet_ValOK sp hsp.types s t op.value l hty hso (hsp.reg op.name s t hs hty) hco
          (fun kvs hk t' => hop.objMem kvs (Or.inr hk) t')
  | add s t o l hs hty hfp hex hchk =>
    obtain ⟨hso, hall, _⟩ := (ValOK_objs sp s t l hty).1
      (hex ▸ existValue_ValOK sp hsp m hm op.name s t hs hty)
    have ho := fromPyValue_ObjOK sp hsp.types t (hsp.reg op.name s t hs hty) op.value o hfp
      (fun kvs hk t' => hop.objMem kvs (Or.inl hk) t')
    exact MapOK_setValue sp m op.name s _ op.scope hm hs
      ((ValOK_objs sp s t _ hty).2 ⟨hso, ListAux.forall_mem_snoc hall ho, (checkUnique_ok _ _ hchk).2.1⟩)
  | rem s t l r hs hty hex =>
    obtain ⟨hso, hall, hpw⟩ := (ValOK_objs sp s t l hty).1
      (hex ▸ existValue_ValOK sp hsp m hm op.name s t hs hty)
    -- a sublist of the stored set is kept: it is stored, or the map stays as it is
    have hsub := minus_sublist l r
    rcases remStore_shape m op.name op.scope l (minus l r) with e | e <;> rw [e]
    · exact MapOK_setValue sp m op.name s _ op.scope hm hs
        ((ValOK_objs sp s t _ hty).2 ⟨hso, fun x hx => hall x (hsub.subset hx), hpw.sublist hsub⟩)
    · exact hm

theorem run_MapOK (sp : Spec) (hsp : SpecOK sp) (ops : List Op) (st : State)
    (h : ∀ sc, MapOK sp (st.map sc)) (hops : ∀ op ∈ ops, OpNice sp op) :
    ∀ sc, MapOK sp ((run sp st ops).map sc) := by
  rw [run_eq_foldl]
  refine ops.foldlRecOn (motive := fun st : State => ∀ sc, MapOK sp (st.map sc)) _ h fun st h op ho sc => ?_
  cases ha : apply sp (st.map op.scope) op with
  | error e => rw [step_error sp st op e ha]; exact h sc
  | ok m' =>
    rw [step_ok sp st op m' ha, State.map_setMap]
    split
    · exact apply_MapOK sp hsp _ m' op (h op.scope) (hops op ho) ha
    · exact h sc

end EdbVerif.Config
