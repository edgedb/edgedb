/-
C16: single steps on the queue of a block (`connFail_exhausted`, `abortWaiters_spec`, `woken_empty`), and why a
drained pool with one block is dead (`Drained`, `Dead`, `dead_of_drained`).  The two histories that end drained,
`gcRace` and `tickShrink`, are at the end.
-/
import EdbVerif.Lemmas.PoolBasic

namespace EdbVerif.Pool

theorem connFail_exhausted {s : State} {u : Nat} {b : Block} (hb : s.find u = some b) (is3D : Bool)
    (hex : is3D = true ∨ b.failures ≥ RETRIES) :
    connFail s u is3D = abortWaiters (connFailCounters s u fun b =>
      if is3D && b.failures + 1 ≤ RETRIES then RETRIES + 1 else b.failures + 1) u := by
  have hf := find_connFailCounters hb fun b =>
    if is3D && b.failures + 1 ≤ RETRIES then RETRIES + 1 else b.failures + 1
  unfold connFail
  unfold connFailCounters at hf ⊢
  simp only [hf]
  refine if_pos ?_
  split
  · exact Nat.lt_succ_self _
  · rename_i hc
    rcases hex with h3 | hge
    · simp only [h3, Bool.true_and, decide_eq_true_eq] at hc; omega
    · omega

theorem abortWaiters_spec {s : State} (hu : (s.blocks.map (·.uid)).Nodup) (h : InvQ s) {u : Nat} {b : Block}
    (hb : s.find u = some b) :
    (∀ b', (abortWaiters s u).find u = some b' → b'.queue = []) ∧
    (∀ w ∈ s.waiters, w.block = u → w.st = .queued →
      ({ w with st := .aborted } : Waiter) ∈ (abortWaiters s u).waiters) := by
  have hbm := State.find_some hb
  unfold abortWaiters
  rw [hb]
  constructor
  · intro b' hb'
    rw [Option.some.inj (hb'.symm.trans (State.find_mod_at hb fun _ => rfl))]
  · intro w hw hblk hst
    obtain ⟨b1, hb1, hu1, hm1⟩ := h.qall w hw hst
    rw [State.eq_of_find hu hb hb1 (hu1.trans hblk)] at hm1
    have := List.mem_map_of_mem (f := setAborted b.queue) hw
    rwa [setAborted_in hm1] at this

theorem woken_empty {s : State} {id : Nat} {w : Waiter} {b : Block}
    (hfind : s.waiters.find? (·.id == id) = some w) (hb : s.find w.block = some b)
    (hst : w.st = .woken) (hp : w.prune = false) (he : b.stack = []) (ha : 1 ≤ w.attempts) :
    ∃ b', (resume s id).find w.block = some b' ∧ b'.queue = id :: b.queue ∧
      b'.waitersNum = b.waitersNum ∧ b'.stack = [] ∧
      (⟨id, w.block, .queued, w.attempts + 1, false⟩ : Waiter) ∈ (resume s id).waiters := by
  have hbl := find_leaveWait (id := id) hb
  have hc : b.stack.getLast? = none := by rw [he]; rfl
  simp only [resume, hfind, hb, hst, hc, hp, Bool.false_eq_true, ↓reduceIte]
  rw [tryAcq_wait hbl hc]
  refine ⟨_, State.find_mod_at hbl fun _ => rfl, if_pos (by omega), ?_, he, ?_⟩
  · show b.waitersNum - 1 + 1 = b.waitersNum
    omega
  · exact List.mem_concat_self

/-- nothing is in flight, nobody holds a connection, everybody who waits sleeps, and neither
    `_tick` nor `_run_gc` changes anything — whatever the clock and the float arithmetic say -/
def Dead (s : State) : Prop :=
  s.err = none ∧ s.tasks = [] ∧ s.holders = [] ∧ s.prunes = [] ∧ s.waiters ≠ [] ∧
  (∀ w ∈ s.waiters, w.st = .queued) ∧
  (∀ env, step s env .tick = s) ∧ (∀ env, step s env .gc = s)

/-- one database without an idle connection, nothing in flight, tick timer armed, no GC pending -/
def Drained (s : State) : Prop :=
  s.err = none ∧ s.tasks = [] ∧ s.holders = [] ∧ s.prunes = [] ∧ s.waiters ≠ [] ∧
  (∀ w ∈ s.waiters, w.st = .queued) ∧ s.starving = false ∧ s.htick = true ∧ s.nacq ≠ 0 ∧
  s.gcReq = 0 ∧ s.gcTimers = 0 ∧ s.blocks.length = 1 ∧ ∀ b ∈ s.blocks, b.stack = [] ∧ b.quota = s.max

/-- With one block `_tick` only re-arms its timer and sets the quota to `max`; `_run_gc` finds
    nothing to steal on an empty stack. -/
theorem dead_of_drained {s : State} (h : Drained s) : Dead s := by
  obtain ⟨herr, htasks, hhold, hpr, hwne, hwq, hstarv, hhtick, hnacq, hreq, htim, hlen, hbl⟩ := h
  obtain ⟨b, hb⟩ := List.length_eq_one_iff.mp hlen
  obtain ⟨hst, hq⟩ := hbl b (by rw [hb]; exact List.mem_singleton.mpr rfl)
  refine ⟨herr, htasks, hhold, hpr, hwne, hwq, fun env => ?_, fun env => ?_⟩
  · show tick env s = s
    have hne : (s.nacq != 0) = true := bne_iff_ne.mpr hnacq
    have h1 : tickHead s = s := by
      unfold tickHead maybeTick
      simp only [hne, ↓reduceIte, Bool.or_false, beq_eq_false_iff_ne.mpr hnacq, Bool.false_eq_true]
      -- the update writes back what the field holds: structure eta
      rw [← hhtick]
    unfold tick
    simp only [h1, hb, List.map_cons, List.map_nil]
    rw [← hq, ← hstarv, ← hb]
  · show gc env s = s
    have hf : s.find b.uid = some b := by
      show List.find? _ s.blocks = _
      rw [hb]; exact List.find?_cons_of_pos (beq_iff_eq.mpr rfl)
    have key : ∀ n, gcBlock b.uid n s = s := by
      intro n
      cases n with
      | zero => rfl
      | succ n => unfold gcBlock steal; rw [hf]; simp only [hst]
    have e : ({ s with starving := false, gcTimers := s.gcTimers - 1, gcReq := 0 } : State) = s := by
      rw [show s.gcTimers - 1 = s.gcTimers by rw [htim], ← hreq, ← hstarv]
    unfold gc
    simp only [hstarv, Bool.false_eq_true, ↓reduceIte, if_neg (show ¬ s.gcReq > 1 by rw [hreq]; decide)]
    rw [e, hb]
    show (match env.gcOld.find? (·.1 == b.uid) with
      | some (_, n) => gcBlock b.uid n s
      | none => s) = s
    split
    · exact key _
    · rfl

/-- GC race (corpus/C16/hang-2-gc-race.json, notes/C16-repro-2.py): max = 1 -/
def gcRace : List (Env × Ev) :=
  [({}, .acq 0 0), ({}, .start 0), ({}, .cdone 0 true false), ({}, .resume 0),
   ({ heldShort := [0] }, .rel 0 false), ({ heldShort := [0], quotas := [(0, 1)] }, .tick),
   ({}, .acq 1 1), ({ gcOld := [(0, 1)] }, .gc), ({}, .start 1), ({}, .ddone 1 true),
   ({ avgNZ := [1] }, .tick), ({ avgNZ := [1] }, .tick)]

/-- tick-shrink strands a woken waiter (corpus/C16/hang-1-tick-shrink-strands-woken-waiter.json, notes/C16-repro-1.py): max = 3 -/
def tickShrink : List (Env × Ev) :=
  [({}, .acq 0 1), ({}, .start 0), ({}, .cdone 0 true false), ({}, .resume 0),
   ({ heldShort := [0] }, .rel 0 false),
   ({ heldShort := [0] }, .acq 1 0), ({}, .start 1), ({}, .cdone 1 true false), ({}, .resume 1),
   ({ heldShort := [0, 1] }, .acq 2 0), ({}, .start 2), ({}, .cdone 2 true false), ({}, .resume 2),
   ({ heldShort := [0, 1] }, .acq 3 0),
   ({ heldShort := [0, 1] }, .rel 1 false), ({ heldShort := [0, 1] }, .rel 2 false),
   ({ heldShort := [0, 1], avgNZ := [1], quotas := [(0, 0), (1, 1)] }, .tick),
   ({}, .resume 3),
   ({}, .start 3), ({}, .start 4), ({}, .start 5),
   ({}, .ddone 3 true), ({}, .ddone 4 true), ({}, .ddone 5 true),
   ({ avgNZ := [1] }, .tick), ({ avgNZ := [1] }, .tick), ({}, .gc), ({}, .gc)]

end EdbVerif.Pool
