/-
C08 — lemmas about the query part: what `record` (the compiler's `dml_exprs` bookkeeping)
returns versus the syntactic `containsDML` / `containsStmt`, that reaching a DML statement is a case of
containing DML, purity of `run` when no DML statement is reached, and that `declare` keeps the function
environment well-formed.
-/
import EdbVerif.Model.CapsSpec

namespace EdbVerif.Caps

theorem appendR_ok {a b : Except Reject (List Rec)} {l : List Rec} (h : appendR a b = .ok l) :
    ∃ la lb, a = .ok la ∧ b = .ok lb ∧ l = la ++ lb := by
  cases a with
  | error e => cases h
  | ok la =>
    cases b with
    | error e => cases h
    | ok lb => cases h; exact ⟨la, lb, rfl, rfl, rfl⟩

def OkAny (p : Rec → Bool) (r : Except Reject (List Rec)) (b : Bool) : Prop :=
  ∀ l, r = .ok l → l.any p = b

theorem OkAny.append {p : Rec → Bool} {a b : Except Reject (List Rec)} {x y : Bool}
    (ha : OkAny p a x) (hb : OkAny p b y) : OkAny p (appendR a b) (x || y) := by
  intro l h
  obtain ⟨la, lb, ea, eb, el⟩ := appendR_ok h
  subst el
  rw [List.any_append, ha la ea, hb lb eb]

theorem OkAny.nil {p : Rec → Bool} : OkAny p (.ok []) false := by
  intro l h; cases h; rfl

theorem OkAny.error {p : Rec → Bool} {e : Reject} {b : Bool} : OkAny p (.error e) b := by
  intro l h; cases h

theorem OkAny.single {p : Rec → Bool} {r : Rec} : OkAny p (.ok [r]) (p r) := by
  intro l h; cases h; simp

/-- the two readings of the recorded list: "anything recorded" (`has_dml`) and "a DML statement
reached" (volatility inference) -/
structure Reading (p : Rec → Bool) (g : FnDecl → Bool) : Prop where
  stmt : ∀ k, p (.stmt k) = true
  call : ∀ f (d : FnDecl), p (.call f d.dmlStmt) = g d

theorem reading_all : Reading (fun _ => true) (fun _ => true) := ⟨fun _ => rfl, fun _ _ => rfl⟩
theorem reading_stmt : Reading Rec.isStmt (·.dmlStmt) := ⟨fun _ => rfl, fun _ _ => rfl⟩

theorem OkAny.dmlNode {p : Rec → Bool} {g : FnDecl → Bool} (hr : Reading p g) {cx : Cx}
    {k : DmlKind} {r : Except Reject (List Rec)} {b : Bool} (h : OkAny p r b) :
    OkAny p (match dmlGuard cx with
      | .error e => .error e
      | .ok () => appendR (.ok [.stmt k]) r) true := by
  cases dmlGuard cx with
  | error e => exact OkAny.error
  | ok u =>
    have := (OkAny.single (p := p) (r := .stmt k)).append h
    rwa [hr.stmt, Bool.true_or] at this

theorem okAny_callRec {p : Rec → Bool} {g : FnDecl → Bool} (hr : Reading p g)
    (cx : Cx) (f : Nat) (d : FnDecl) : OkAny p (callRec cx f d) (d.modifying && g d) := by
  rw [← hr.call f d]
  unfold callRec
  cases d.modifying with
  | false => exact OkAny.nil
  | true =>
    rw [if_pos rfl, Bool.true_and]
    split
    · exact OkAny.error
    · split
      · exact OkAny.error
      · split
        · exact OkAny.error
        · exact OkAny.single
      · exact OkAny.single

theorem okAny_callee {p : Rec → Bool} {g : FnDecl → Bool} (hr : Reading p g)
    (fe : FnEnv) (cx : Cx) (f : Nat) :
    OkAny p (match fe[f]? with
       | none => .error .unknownFn
       | some d => callRec cx f d) (fnFlag g fe f) := by
  unfold fnFlag
  cases hf : fe[f]? with
  | none => exact OkAny.error
  | some d => exact okAny_callRec hr cx f d

/- A clause slot is the operand list of an operator node: `recordL fe cx qs` is by definition
`record fe cx (.op qs)`, likewise `containsGL` and the database component of `runL`.  So in the inductions over
queries the statement about lists is the motive for `QList`, and afterwards the instance at `.op qs`.
Each arm is the arm of the modelled function read through the statement.  Here `appendR` becomes `OkAny.append`
(which puts `||` on the `containsG` side), the `dmlGuard` match `OkAny.dmlNode`, the callee look-up
`okAny_callee`; the compilation contexts are left to unification, the claim being about every context. -/
theorem record_charG {p : Rec → Bool} {g : FnDecl → Bool} (hr : Reading p g) (fe : FnEnv) (q : Q) :
    ∀ cx : Cx, OkAny p (record fe cx q) (containsG g fe q) := by
  induction q using Q.rec
    (motive_2 := fun qs => ∀ cx : Cx, OkAny p (recordL fe cx qs) (containsGL g fe qs)) with
  | lit _ => exact fun _ => OkAny.nil
  | var _ => exact fun _ => OkAny.nil
  | objs _ => exact fun _ => OkAny.nil
  | op args ih => exact ih
  | call f args ih => exact fun cx => (ih cx).append (okAny_callee hr fe cx f)
  | ifElse c t e hc ht he => exact fun cx => (hc cx).append ((ht cx).append (he cx))
  | select subj shape filter order offlim hsubj hshape hfilter horder hofflim =>
    exact fun _ => (hsubj _).append ((hshape _).append ((hfilter _).append ((horder _).append (hofflim _))))
  | withB _ b body hb hbody => exact fun cx => (hb _).append (hbody cx)
  | forQ _ iter body hiter hbody => exact fun cx => (hiter _).append (hbody cx)
  | insert _ shape onC els hshape honC hels =>
    exact fun cx => OkAny.dmlNode hr ((hshape _).append ((honC cx).append (hels cx)))
  | update subj filter shape hsubj hfilter hshape =>
    exact fun _ => OkAny.dmlNode hr ((hsubj _).append ((hfilter _).append (hshape _)))
  | delete subj filter order offlim hsubj hfilter horder hofflim =>
    exact fun _ => OkAny.dmlNode hr ((hsubj _).append ((hfilter _).append ((horder _).append (hofflim _))))
  | free shape ih => exact fun _ => ih _
  | nil _ => exact OkAny.nil
  | cons q qs hq hqs cx => exact (hq cx).append (hqs cx)

theorem recordL_charG {p : Rec → Bool} {g : FnDecl → Bool} (hr : Reading p g) (fe : FnEnv) :
    ∀ (qs : QList) (cx : Cx), OkAny p (recordL fe cx qs) (containsGL g fe qs) :=
  fun qs => record_charG hr fe (.op qs)

theorem hasDml_eq_any (l : List Rec) : hasDml l = l.any fun _ => true := by
  cases l <;> rfl

theorem record_hasDml {fe : FnEnv} {cx : Cx} {q : Q} {l : List Rec}
    (h : record fe cx q = .ok l) : hasDml l = containsDML fe q := by
  rw [containsDML, ← record_charG reading_all fe q cx l h, hasDml_eq_any]

theorem record_isStmt {fe : FnEnv} {cx : Cx} {q : Q} {l : List Rec}
    (h : record fe cx q = .ok l) : l.any Rec.isStmt = containsStmt fe q :=
  record_charG reading_stmt fe q cx l h

theorem or_mono {a b a' b' : Bool} (ha : a = true → a' = true) (hb : b = true → b' = true)
    (h : (a || b) = true) : (a' || b') = true :=
  Bool.or_eq_true_iff.mpr ((Bool.or_eq_true_iff.mp h).imp ha hb)

theorem fnFlag_mono {g g' : FnDecl → Bool} (hg : ∀ d, g d = true → g' d = true) (fe : FnEnv)
    (f : Nat) : fnFlag g fe f = true → fnFlag g' fe f = true := by
  unfold fnFlag
  cases fe[f]? with
  | none => exact id
  | some d => simp only [Bool.and_eq_true]; exact And.imp_right (hg d)

/- `containsG` is a disjunction over the sub-queries: `||` becomes `or_mono`, and `id` serves where the value
does not depend on `g`. -/
theorem containsG_mono {g g' : FnDecl → Bool} (hg : ∀ d, g d = true → g' d = true) (fe : FnEnv) (q : Q) :
    containsG g fe q = true → containsG g' fe q = true := by
  induction q using Q.rec
    (motive_2 := fun qs => containsGL g fe qs = true → containsGL g' fe qs = true) with
  | lit _ => exact id
  | var _ => exact id
  | objs _ => exact id
  | op args ih => exact ih
  | call f args ih => exact or_mono ih (fnFlag_mono hg fe f)
  | ifElse c t e hc ht he => exact or_mono hc (or_mono ht he)
  | select subj shape filter order offlim hsubj hshape hfilter horder hofflim =>
    exact or_mono hsubj (or_mono hshape (or_mono hfilter (or_mono horder hofflim)))
  | withB _ b body hb hbody => exact or_mono hb hbody
  | forQ _ iter body hiter hbody => exact or_mono hiter hbody
  | insert => exact id
  | update => exact id
  | delete => exact id
  | free shape ih => exact ih
  | nil h => exact h
  | cons q qs hq hqs h => exact or_mono hq hqs h

theorem containsGL_mono (g : FnDecl → Bool) (fe : FnEnv) :
    ∀ qs : QList, containsGL g fe qs = true → containsGL (fun _ => true) fe qs = true :=
  fun qs => containsG_mono (fun _ _ => rfl) fe (.op qs)

theorem containsStmt_containsDML {fe : FnEnv} {q : Q} (h : containsStmt fe q = true) :
    containsDML fe q = true := containsG_mono (fun _ _ => rfl) fe q h

theorem foldl_fst (g : DB → Nat → DB × Val) (hg : ∀ db v, (g db v).1 = db) :
    ∀ (vs : List Nat) (db : DB) (acc : Val),
      (vs.foldl (fun (a : DB × Val) v => let s := g a.1 v; (s.1, a.2 ++ s.2)) (db, acc)).1 = db
  | [], _, _ => rfl
  | v :: vs, db, acc => by
    rw [List.foldl_cons, foldl_fst g hg vs, hg]

/-- sequencing in `run`: a step that keeps the database unless `x`, then one that keeps it unless `y` -/
theorem seq_pure {x y : Bool} {db db' db'' : DB} (h1 : x = false → db' = db)
    (h2 : y = false → db'' = db') (h : (x || y) = false) : db'' = db :=
  have ⟨hx, hy⟩ := Bool.or_eq_false_iff.mp h
  (h2 hy).trans (h1 hx)

theorem ite_pure {α : Type} {x y c : Bool} {db : DB} {a b : DB × α} (h1 : x = false → a.1 = db)
    (h2 : y = false → b.1 = db) (h : (x || y) = false) : (if c then a else b).1 = db := by
  have ⟨hx, hy⟩ := Bool.or_eq_false_iff.mp h
  cases c
  · exact h2 hy
  · exact h1 hx

theorem callee_pure {fe : FnEnv} (hwf : fe.WF) (f : Nat) (r : DB × List Val)
    (h : fnFlag (·.dmlStmt) fe f = false) :
    (match fe[f]? with
      | none => (r.1, [])
      | some d => d.sem r.1 r.2).1 = r.1 := by
  cases hd : fe[f]? with
  | none => rfl
  | some d =>
    have hw := hwf f d hd
    simp only [fnFlag, hd] at h
    cases hm : d.modifying with
    | false => exact hw.2 (hw.1 hm) _ _
    | true => rw [hm, Bool.true_and] at h; exact hw.2 h _ _

/-- a query that reaches no DML statement (in itself or through the functions it calls) leaves the
stored data as it is -/
theorem run_pure (fe : FnEnv) (hwf : fe.WF) (q : Q) :
    ∀ (ρ : VEnv) (db : DB), containsG (·.dmlStmt) fe q = false → (run fe ρ db q).1 = db := by
  induction q using Q.rec (motive_2 := fun qs => ∀ (ρ : VEnv) (db : DB),
    containsGL (·.dmlStmt) fe qs = false → (runL fe ρ db qs).1 = db) with
  | lit _ => exact fun _ _ _ => rfl
  | var _ => exact fun _ _ _ => rfl
  | objs _ => exact fun _ _ _ => rfl
  | op args ih => exact ih
  | call f args ih => exact fun ρ db => seq_pure (ih ρ db) (callee_pure hwf f _)
  | ifElse c t e hc ht he => exact fun ρ db => seq_pure (hc ρ db) (ite_pure (ht ρ _) (he ρ _))
  | select subj shape filter order offlim hsubj hshape hfilter horder hofflim =>
    exact fun ρ db => seq_pure (hsubj ρ db) (seq_pure (hshape ρ _) (seq_pure (hfilter ρ _)
      (seq_pure (horder ρ _) (hofflim ρ _))))
  | withB x b body hb hbody => exact fun ρ db => seq_pure (hb ρ db) (hbody _ _)
  | forQ x iter body hiter hbody =>
    exact fun ρ db => seq_pure (hiter ρ db) fun h =>
      foldl_fst (fun d v => run fe ((x, [v]) :: ρ) d body) (fun d v => hbody _ d h) _ _ []
  | insert => exact fun _ _ h => nomatch h
  | update => exact fun _ _ h => nomatch h
  | delete => exact fun _ _ h => nomatch h
  | free shape ih => exact ih
  | nil _ _ _ => rfl
  | cons q qs hq hqs ρ db h => exact seq_pure (hq ρ db) (hqs ρ _) h

/-- purity read off the compiler's own record: no entry of `recordL` is or inlines a DML statement
(`Rec.isStmt`, the `S`) -/
theorem runL_pureS (fe : FnEnv) (hwf : fe.WF) :
    ∀ (qs : QList) (cx : Cx) (l : List Rec) (ρ : VEnv) (db : DB), recordL fe cx qs = .ok l →
      l.any Rec.isStmt = false → (runL fe ρ db qs).1 = db :=
  fun qs cx l ρ db h hs =>
    run_pure fe hwf (.op qs) ρ db ((recordL_charG reading_stmt fe qs cx l h).symm.trans hs)

theorem wf_iff_mem {fe : FnEnv} : fe.WF ↔ ∀ d ∈ fe, (d.modifying = false → d.dmlStmt = false) ∧
    (d.dmlStmt = false → ∀ db vs, (d.sem db vs).1 = db) := by
  simp only [FnEnv.WF, List.mem_iff_getElem?]
  exact ⟨fun h d ⟨f, hf⟩ => h f d hf, fun h f d hf => h d ⟨f, hf⟩⟩

theorem wf_nil : FnEnv.WF [] := by
  intro f d h; simp at h

theorem declare_ok {fe fe' : FnEnv} {decl : Option Bool} {params : List Nat} {body : Q}
    (h : declare fe decl params body = .ok fe') :
    ∃ l, record fe Cx.top body = .ok l ∧
      fe' = fe ++ [{ modifying := decl == some true || l.any Rec.isStmt
                     dmlStmt := l.any Rec.isStmt
                     sem := fun db vs => run fe (params.zip vs) db body }] := by
  unfold declare at h
  split at h
  · cases h
  · next l hr =>
    dsimp only at h
    split at h
    · cases h
    · cases h; exact ⟨l, hr, rfl⟩

theorem declare_wf {fe fe' : FnEnv} {decl : Option Bool} {params : List Nat} {body : Q}
    (hwf : fe.WF) (h : declare fe decl params body = .ok fe') : fe'.WF := by
  obtain ⟨l, hr, rfl⟩ := declare_ok h
  rw [wf_iff_mem]
  intro d hd
  rcases List.mem_append.mp hd with hd | hd
  · exact wf_iff_mem.mp hwf d hd
  · cases List.mem_singleton.mp hd
    exact ⟨fun hm => (Bool.or_eq_false_iff.mp hm).2,
      fun hs db vs => run_pure fe hwf body _ db ((record_isStmt hr).symm.trans hs)⟩

theorem declare_modifying {fe fe' : FnEnv} {decl : Option Bool} {params : List Nat} {body : Q}
    (h : declare fe decl params body = .ok fe') (hb : containsStmt fe body = true) :
    fnModifying fe' fe.length = true ∧ fnDmlStmt fe' fe.length = true := by
  obtain ⟨l, hr, rfl⟩ := declare_ok h
  simp only [fnModifying, fnDmlStmt, fnFlag, List.getElem?_concat_length,
    (record_isStmt hr).trans hb, Bool.or_true, Bool.and_true, and_self]

end EdbVerif.Caps
