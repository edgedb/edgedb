/-
An induction principle for the pool model: a predicate `P` kept by the primitive operations, and by the
three transitions `taskStart`, `discDone`, `resume` taken whole (`Prims`), is kept by every transition
except the two pruning entry points (`Prims.step`, `Prims.run`).  `H s u c` is the form `P` takes while
connection `c` of block `u` is in hand (off the stack or back from its holder, not yet put anywhere);
`G s` is the guard under which one more connection may be promised.
-/
import EdbVerif.Lemmas.PoolBasic

namespace EdbVerif.Pool

/-- equality of every field except the inert ones
    (`starving`, `waitlist`, `overQuota`, `nacq`, `htick`, `gcReq`, `gcTimers`, `err`) -/
def SameCore (s' s : State) : Prop :=
  s'.max = s.max ∧ s'.cur = s.cur ∧ s'.blocks = s.blocks ∧ s'.nextUid = s.nextUid ∧
  s'.nextConn = s.nextConn ∧ s'.nextTask = s.nextTask ∧ s'.tasks = s.tasks ∧
  s'.waiters = s.waiters ∧ s'.holders = s.holders ∧ s'.prunes = s.prunes ∧
  s'.home = s.home ∧ s'.live = s.live

/-- `.inert rfl` proves `SameCore { s with … } s` for every update that sets only inert fields: by structure
    eta the updated state is `s` with its own inert fields written back. -/
theorem SameCore.inert {s' s : State}
    (h : s' = { s with starving := s'.starving, waitlist := s'.waitlist, overQuota := s'.overQuota,
                       nacq := s'.nacq, htick := s'.htick, gcReq := s'.gcReq, gcTimers := s'.gcTimers,
                       err := s'.err }) : SameCore s' s := by
  rw [h]; exact ⟨rfl, rfl, rfl, rfl, rfl, rfl, rfl, rfl, rfl, rfl, rfl, rfl⟩

/-- `f` only touches `quota`, `suppressed`, `failures` -/
def Inert (f : Block → Block) : Prop :=
  ∀ b, f b = { b with quota := (f b).quota, suppressed := (f b).suppressed, failures := (f b).failures }

def NoWaiter (s : State) (id : Nat) : Prop := ∀ w ∈ s.waiters, w.id ≠ id

structure Prims (P : State → Prop) (H : State → Nat → Nat → Prop) (G : State → Prop) : Prop where
  -- changes that `P` cannot see: inert fields of the state or of blocks, the order of the blocks
  frame : ∀ {s s'}, P s → SameCore s' s → P s'
  frameH : ∀ {s s' u c}, H s u c → SameCore s' s → H s' u c
  modInert : ∀ {s} u f, Inert f → P s → P (s.mod u f)
  mapInert : ∀ {s} f, Inert f → P s → P { s with blocks := s.blocks.map f }
  toEnd : ∀ {s} u, P s → P { s with blocks := Pool.toEnd s.blocks u }
  toFront : ∀ {s} u, P s → P { s with blocks := Pool.toFront s.blocks u }
  -- a connection is promised (under `G`), taken in hand, and the one in hand put somewhere;
  -- `schedDiscardH` is `release(discard=True)`, which goes on with `schedNew` and so needs `G` back
  gOfLt : ∀ {s}, P s → s.cur < s.max → G s
  schedNew : ∀ {s} u, P s → G s → P (Pool.schedNew s u)
  stealSome : ∀ {s u s1 c}, P s → Pool.steal s u = (s1, some c) → H s1 u c
  stealNone : ∀ {s u s1}, P s → Pool.steal s u = (s1, none) → P s1
  schedXfer : ∀ {s f c} t bh, H s f c → P (Pool.schedXfer s f c t bh)
  schedDiscard : ∀ {s u c}, H s u c → P (Pool.schedDiscard s u c false)
  schedDiscardH : ∀ {s u c}, H s u c → P (Pool.schedDiscard s u c true) ∧ G (Pool.schedDiscard s u c true)
  blockRelease : ∀ {s u c}, H s u c → P (Pool.blockRelease s u c)
  -- `acquire` / `release`; the hypotheses of `unlend` are the three lookups `Pool.release` has made
  getBlock : ∀ {s} name, P s → P (Pool.getBlock s name).1
  acqFinish : ∀ {s} r u, P s → idInUse s r = false → P (Pool.acqFinish s r u)
  unlend : ∀ {s r h b c'}, P s → s.holders.find? (·.req == r) = some h →
    findName s.blocks h.name = some b → b.conns.find? (·.1 == h.conn) = some (c', true) →
    H (Pool.unlend s r b.uid h.conn) b.uid h.conn
  -- `_connect` finishes: its task goes; the connection joins the block, or the counters are taken back and
  -- the waiters aborted (or `schedNew` again)
  dropConnTask : ∀ {s tid t}, P s → s.task tid = some t →
    (t.closing = false ∧ t.byHolder = false ∧ ∀ u c st h, t ≠ .disc u c st h) → P (s.dropTask tid)
  connOk : ∀ {s u b0}, P s → s.find u = some b0 → P (Pool.connOk s u b0.name)
  connFailCore : ∀ {s u b0} (g : Block → Nat), P s → s.find u = some b0 →
    P (({ s with cur := s.cur - 1 } : State).mod u fun b => { b with pending := b.pending - 1, failures := g b }) ∧
    G (({ s with cur := s.cur - 1 } : State).mod u fun b => { b with pending := b.pending - 1, failures := g b })
  abortWaiters : ∀ {s} u, P s → P (Pool.abortWaiters s u)
  -- transitions taken whole
  taskStart : ∀ {s} tid, P s → P (Pool.taskStart s tid)
  discDone : ∀ {s} tid ok, P s → P (Pool.discDone s tid ok)
  resume : ∀ {s} id, P s → P (Pool.resume s id)
  -- `_drop_block`, with what its assertions and the quota `_tick` has just set give (`Prims.dropLoop`)
  dropBlock : ∀ {s u b}, P s → s.find u = some b → b.waitersNum = 0 → b.size = 0 → b.acquired = 0 →
    P { s with blocks := s.blocks.filter (·.uid != u) }

variable {P : State → Prop} {H : State → Nat → Nat → Prop} {G : State → Prop}

namespace Prims

theorem fail (X : Prims P H G) {s : State} (h : P s) (m : String) : P (s.fail m) := X.frame h (.inert rfl)

theorem maybeTick (X : Prims P H G) {s : State} (h : P s) : P (Pool.maybeTick s) :=
  of_ite (fun _ => h) fun _ => X.frame h (.inert rfl)

theorem maybeTickH (X : Prims P H G) {s : State} {u c : Nat} (h : H s u c) :
    H (Pool.maybeTick s) u c :=
  of_ite (P := fun s => H s u c) (fun _ => h) fun _ => X.frameH h (.inert rfl)

theorem releaseUnused (X : Prims P H G) {s : State} {u c : Nat} (h : H s u c) :
    P (Pool.releaseUnused s u c) :=
  of_ite (fun _ => X.frame (X.blockRelease h) (.inert rfl)) fun _ => X.frame (X.blockRelease h) (.inert rfl)

theorem findStarving (X : Prims P H G) {s : State} (h : P s) : P (Pool.findStarving s).1 := by
  rw [findStarving_frame]; exact X.frame h (.inert rfl)

theorem findStarvingH (X : Prims P H G) {s : State} {u c : Nat} (h : H s u c) :
    H (Pool.findStarving s).1 u c := by
  rw [findStarving_frame]; exact X.frameH h (.inert rfl)

theorem freeInto (X : Prims P H G) {s : State} {f c : Nat} (bh : Bool) (h : H s f c) :
    match Pool.freeInto s f c bh with
    | (s', true) => P s'
    | (s', false) => H s' f c := by
  have hf := X.findStarvingH h
  unfold Pool.freeInto
  generalize Pool.findStarving s = r at hf ⊢
  obtain ⟨s1, _ | t⟩ := r
  · exact hf
  · exact of_ite (P := fun r : State × Bool => match r with | (s', true) => P s' | (s', false) => H s' f c)
      (fun _ => hf) fun _ => X.schedXfer _ _ hf

theorem tryShrink (X : Prims P H G) (env : Env) (u : Nat) :
    ∀ n s, P s → P (Pool.tryShrink env u n s)
  | 0, _, h => h
  | n + 1, s, h => by
    unfold Pool.tryShrink
    cases s.find u with
    | none => exact h
    | some b =>
      refine of_ite (fun _ => ?_) fun _ => h
      rcases hst : Pool.steal s u with ⟨s1, _ | c⟩
      · exact X.stealNone h hst
      · have h1 := X.findStarvingH (X.stealSome h hst)
        dsimp only
        generalize Pool.findStarving s1 = r at h1 ⊢
        obtain ⟨s2, _ | t⟩ := r
        · exact tryShrink X env u n _ (X.schedDiscard h1)
        · exact tryShrink X env u n _ (X.schedXfer _ _ h1)

theorem tryStealConn (X : Prims P H G) (env : Env) (forU : Nat) :
    ∀ l s, P s → P (Pool.tryStealConn env forU l s).1
  | [], _, h => h
  | u :: rest, s, h => by
    unfold Pool.tryStealConn
    refine of_ite (P := fun r : State × Bool => P r.1) (fun _ => tryStealConn X env forU rest s h) fun _ => ?_
    rcases hst : Pool.steal s u with ⟨s1, _ | c⟩
    · exact tryStealConn X env forU rest s1 (X.stealNone h hst)
    · exact X.schedXfer _ _ (X.stealSome h hst)

theorem growTo (X : Prims P H G) (u : Nat) (q : Int) : ∀ n s, P s → P (Pool.growTo u q n s)
  | 0, _, h => h
  | n + 1, s, h => by
    unfold Pool.growTo
    cases s.find u with
    | none => exact h
    | some b =>
      refine of_ite (fun hc => ?_) fun _ => h
      have hlt : s.cur < s.max := by
        simp only [Bool.and_eq_true, decide_eq_true_eq] at hc; exact hc.2
      exact growTo X u q n _ (X.schedNew u h (X.gOfLt h hlt))

theorem rebalanceOne (X : Prims P H G) (env : Env) {s : State} (h : P s) (u : Nat) :
    P (Pool.rebalanceOne env s u) := by
  unfold Pool.rebalanceOne
  cases s.find u with
  | none => exact h
  | some b =>
    refine of_ite (fun _ => ?_) fun _ => of_ite (fun _ => X.growTo _ _ _ _ h) fun _ => h
    have h1 := X.tryShrink env u (b.stack.length + 1) s h
    dsimp only
    generalize Pool.tryShrink env u (b.stack.length + 1) s = s1 at h1 ⊢
    cases s1.find u with
    | none => exact h1
    | some b' => exact of_ite (fun _ => X.frame h1 (.inert rfl)) fun _ => h1

theorem rebalance (X : Prims P H G) (env : Env) {s : State} (h : P s) : P (Pool.rebalance env s) := by
  refine of_ite (fun _ => h) fun _ => ?_
  have h1 := (s.blocks.map (·.uid)).foldlRecOn (motive := P) (Pool.rebalanceOne env)
    (b := { s with overQuota := [] }) (X.frame h (.inert rfl)) fun _ hs a _ => X.rebalanceOne env hs a
  exact X.frame h1 (.inert rfl)

theorem acqSched (X : Prims P H G) (env : Env) {s : State} (h : P s) (u : Nat) (b : Block) :
    P (Pool.acqSched env s u b) := by
  unfold Pool.acqSched
  refine of_ite (fun hlt => ?_) fun _ => of_ite (fun _ => ?_) fun _ =>
    of_ite (fun _ => X.tryStealConn env u s.overQuota s h) fun _ => h
  · have hn := X.schedNew u h (X.gOfLt h hlt)
    exact of_ite (fun _ => of_ite (fun _ => hn) fun _ => h) fun _ => of_ite (fun _ => hn) fun _ => h
  · have ht := X.tryStealConn env u s.overQuota s h
    generalize Pool.tryStealConn env u s.overQuota s = r at ht ⊢
    obtain ⟨s3, _ | _⟩ := r
    · exact of_ite (fun _ => ht) fun _ => X.frame ht (.inert rfl)
    · exact ht

theorem acquire (X : Prims P H G) (env : Env) {s : State} (h : P s) (r name : Nat) :
    P (Pool.acquire env s r name) := by
  unfold Pool.acquire
  dsimp only
  generalize (Pool.getBlock (Pool.maybeTick { s with nacq := s.nacq + 1 }) name).2 = u
  generalize hs2 : State.mod _ u _ = s2
  have h2 : P s2 := by
    rw [← hs2]
    exact X.modInert _ _ (fun _ => rfl) (X.getBlock name (X.maybeTick (X.frame h (.inert rfl))))
  cases s2.find u with
  | none => exact X.fail h2 _
  | some b =>
    exact of_ite (fun _ => X.fail (X.acqSched env h2 u b) _)
      fun hid => X.acqFinish _ _ (X.acqSched env h2 u b) (by simpa using hid)

theorem relTail (X : Prims P H G) {s : State} {u c : Nat} (h : H s u c) (d : Bool) :
    P (Pool.relTail s u c d) :=
  of_ite (fun _ => X.schedNew _ (X.schedDiscardH h).1 (X.schedDiscardH h).2) fun _ => X.releaseUnused h

theorem relRoute (X : Prims P H G) (env : Env) {s : State} {u c : Nat} (h : H s u c) (d : Bool) :
    P (Pool.relRoute env s u c d) := by
  refine of_ite (fun _ => ?_) fun _ => X.relTail h _
  have hf := X.freeInto d h
  generalize Pool.freeInto s u c d = r at hf ⊢
  obtain ⟨s2, _ | _⟩ := r
  · exact X.relTail hf _
  · exact hf

theorem release (X : Prims P H G) (env : Env) {s : State} (h : P s) (r : Nat) (d : Bool) :
    P (Pool.release env s r d) := by
  unfold Pool.release
  split
  · exact X.fail h _
  · rename_i hd hfind
    split
    · exact X.fail h _
    · rename_i b hb
      split
      · exact X.fail h _
      · exact X.fail h _
      · rename_i c' hc
        exact X.relRoute env (X.maybeTickH (X.unlend h hfind hb hc)) _

theorem connFail (X : Prims P H G) {s : State} (h : P s) {u : Nat} {b0 : Block}
    (hb : s.find u = some b0) (is3D : Bool) : P (Pool.connFail s u is3D) := by
  obtain ⟨h1, hr⟩ := X.connFailCore
    (fun b => if is3D && b.failures + 1 ≤ RETRIES then RETRIES + 1 else b.failures + 1) h hb
  unfold Pool.connFail
  dsimp only
  generalize State.mod _ u _ = s1 at h1 hr ⊢
  cases s1.find u with
  | none => exact h1
  | some b => exact of_ite (fun _ => X.abortWaiters _ h1) fun _ => X.schedNew _ h1 hr

theorem connFin (X : Prims P H G) {s : State} (h : P s) (u : Nat) (ok is3D : Bool) :
    P (Pool.connFin s u ok is3D) := by
  unfold Pool.connFin
  cases hb : s.find u with
  | none => exact X.fail h _
  | some b0 => exact of_ite (fun _ => X.connOk h hb) fun _ => X.connFail h hb _

theorem connDone (X : Prims P H G) {s : State} (h : P s) (tid : Nat) (ok is3D : Bool) :
    P (Pool.connDone s tid ok is3D) := by
  unfold Pool.connDone
  split
  · rename_i u ht
    exact X.connFin (X.dropConnTask h ht ⟨rfl, rfl, by intros; simp⟩) u ok is3D
  · rename_i u _ ht
    exact X.connFin (X.dropConnTask h ht ⟨rfl, rfl, by intros; simp⟩) u ok is3D
  · exact X.fail h _

/-- what `_tick` has just set when it drops blocks -/
def QuotaOK (s : State) : Prop := ∀ b ∈ s.blocks, b.quota = b.waitersNum + b.acquired

theorem dropLoop (X : Prims P H G) : ∀ l s, P s → QuotaOK s → P (Pool.dropLoop l s).1
  | [], _, h, _ => h
  | u :: rest, s, h, hq => by
    unfold Pool.dropLoop
    cases hb : s.find u with
    | none => exact dropLoop X rest s h hq
    | some b =>
      refine of_ite (P := fun r : State × Bool => P r.1) (fun _ => h) fun hc => ?_
      simp only [Bool.or_eq_true, bne_iff_ne, ne_eq, not_or, Decidable.not_not] at hc
      -- quota = waiters + acquired and `_drop_block` asserts quota = waiters = 0: nothing is lent
      have hbq := hq b (State.find_some hb).1
      exact dropLoop X rest _ (X.dropBlock h hb hc.1.1 hc.1.2 (by omega))
        fun x hx => hq x (List.mem_filter.mp hx).1

theorem modeDOne (X : Prims P H G) (env : Env) {s : State} (h : P s) (u : Nat) :
    P (Pool.modeDOne env s u) := by
  unfold Pool.modeDOne
  cases s.find u with
  | none => exact h
  | some b =>
    have hq := fun q : Int => X.modInert u (fun b => { b with quota := q }) (fun _ => rfl) h
    exact of_ite (fun _ => of_ite (fun _ => hq 1) fun _ => X.toEnd u (hq 0))
      fun _ => of_ite (fun _ => X.toEnd u (hq 0)) fun _ => X.toEnd u (hq 1)

theorem rescueBlock (X : Prims P H G) (env : Env) (u : Nat) :
    ∀ n s, P s → P (Pool.rescueBlock env u n s).1
  | 0, _, h => h
  | n + 1, s, h => by
    unfold Pool.rescueBlock
    refine of_ite (P := fun r : State × Bool => P r.1) (fun _ => ?_) fun _ => h
    rcases hst : Pool.steal s u with ⟨s1, _ | c⟩
    · exact X.stealNone h hst
    · have hf := X.freeInto false (X.stealSome h hst)
      dsimp only
      generalize Pool.freeInto s1 u c = r at hf ⊢
      obtain ⟨s2, _ | _⟩ := r
      · exact X.releaseUnused hf
      · exact rescueBlock X env u n s2 hf

theorem rescue (X : Prims P H G) (env : Env) : ∀ l s, P s → P (Pool.rescue env l s)
  | [], _, h => h
  | u :: rest, s, h => by
    have hr := X.rescueBlock env u (stackFuel s u) s h
    unfold Pool.rescue
    generalize Pool.rescueBlock env u (stackFuel s u) s = r at hr ⊢
    obtain ⟨s1, _ | _⟩ := r
    · exact rescue X env rest s1 hr
    · exact hr

theorem setQuotas (X : Prims P H G) (env : Env) {s : State} (h : P s) : P (Pool.setQuotas env s) := by
  refine X.mapInert _ (fun b => ?_) h
  cases env.quotas.find? (·.1 == b.uid) <;> rfl

theorem tickModes (X : Prims P H G) (env : Env) (was : Bool) (total : Int) {s : State} (h : P s) :
    P (Pool.tickModes env was total s) :=
  have hm := (s.blocks.map (·.uid)).foldlRecOn (motive := P) (Pool.modeDOne env) h fun _ hs a _ => X.modeDOne env hs a
  have hq := X.setQuotas env h
  of_ite (fun _ => h) fun _ =>
    of_ite (fun _ => of_ite (fun _ => X.rebalance env h) fun _ => h) fun _ =>
      of_ite (fun _ => of_ite (fun _ => X.rescue env _ _ hm) fun _ => hm) fun _ =>
        of_ite (fun _ => X.fail hq _) fun _ => X.rebalance env hq

theorem tickHead (X : Prims P H G) {s : State} (h : P s) : P (Pool.tickHead s) :=
  of_ite (fun _ => X.maybeTick (X.frame h (.inert rfl))) fun _ => X.frame h (.inert rfl)

theorem tick (X : Prims P H G) (env : Env) {s : State} (h : P s) : P (Pool.tick env s) := by
  have h0 := X.tickHead h
  unfold Pool.tick
  generalize Pool.tickHead s = s0 at h0 ⊢
  have hq := fun f : Block → Int => X.mapInert (s := s0) (fun b => { b with quota := f b }) (fun _ => rfl) h0
  dsimp only
  split
  · exact X.frame h0 (.inert rfl)
  · exact X.frame (hq _) (.inert rfl)
  · have hd := X.dropLoop
      ((s0.blocks.filter fun b => !(env.avgNZ.contains b.uid && !b.suppressed) && b.size == 0).map (·.uid))
      { s0 with
        blocks := s0.blocks.map fun b => { b with quota := b.waitersNum + b.acquired },
        starving := decide ((s0.blocks.filter fun b => env.avgNZ.contains b.uid && !b.suppressed).length ≥ s0.max) }
      (X.frame (hq _) (.inert rfl)) fun b hb => by
        obtain ⟨b0, _, rfl⟩ := List.mem_map.mp hb
        rfl
    generalize Pool.dropLoop _ _ = r at hd ⊢
    obtain ⟨s1, _ | _⟩ := r
    · exact X.fail hd _
    · exact X.tickModes env _ _ hd

theorem gcBlock (X : Prims P H G) (u : Nat) : ∀ n s, P s → P (Pool.gcBlock u n s)
  | 0, _, h => h
  | n + 1, s, h => by
    unfold Pool.gcBlock
    rcases hst : Pool.steal s u with ⟨s1, _ | c⟩
    · exact X.stealNone h hst
    · exact gcBlock X u n _ (X.schedDiscard (X.stealSome h hst))

theorem gc (X : Prims P H G) (env : Env) {s : State} (h : P s) : P (Pool.gc env s) := by
  have h0 : P { s with gcTimers := s.gcTimers - 1 } := X.frame h (.inert rfl)
  refine of_ite (fun _ => X.frame h0 (.inert rfl)) fun _ => List.foldlRecOn (motive := P) _ _
    (of_ite (fun _ => X.frame h0 (.inert rfl)) fun _ => X.frame h0 (.inert rfl)) fun s' hs' u _ => ?_
  cases env.gcOld.find? (·.1 == u) with
  | none => exact hs'
  | some p => exact X.gcBlock _ _ _ hs'

theorem step (X : Prims P H G) {s : State} (h : P s) (env : Env) (e : Ev)
    (he1 : ∀ p n, e ≠ .prune p n) (he2 : e ≠ .pall) : P (Pool.step s env e) := by
  cases e with
  | acq r n => exact X.acquire env h r n
  | resume id => exact X.resume id h
  | start t => exact X.taskStart t h
  | cdone t ok d => exact X.connDone h t ok d
  | ddone t ok => exact X.discDone t ok h
  | rel r d => exact X.release env h r d
  | tick => exact X.tick env h
  | gc => exact X.gc env h
  | prune p n => exact absurd rfl (he1 p n)
  | pall => exact absurd rfl he2

/-- events other than `prune_inactive_connections` / `prune_all_connections` -/
def NoPruneEv (e : Ev) : Prop := (∀ p n, e ≠ .prune p n) ∧ e ≠ .pall

theorem run (X : Prims P H G) (evs : List (Env × Ev)) (hev : ∀ x ∈ evs, NoPruneEv x.2) :
    ∀ s, P s → P (Pool.run s evs) := by
  induction evs with
  | nil => intro s h; exact h
  | cons x xs ih =>
    intro s h
    have hx := hev x (by simp)
    exact ih (fun y hy => hev y (by simp [hy])) _ (X.step h x.1 x.2 hx.1 hx.2)

/-- executable form of `NoPruneEv` (for concrete histories) -/
def okEv : Ev → Bool
  | .prune _ _ => false
  | .pall => false
  | _ => true

theorem noPrune_of_ok {e : Ev} (h : okEv e = true) : NoPruneEv e :=
  ⟨fun _ _ he => (by subst he; cases h), fun he => (by subst he; cases h)⟩

theorem noPrune_all {evs : List (Env × Ev)} (h : evs.all (fun x => okEv x.2) = true) :
    ∀ x ∈ evs, NoPruneEv x.2 :=
  fun x hx => noPrune_of_ok (List.all_eq_true.mp h x hx)

end Prims

end EdbVerif.Pool
