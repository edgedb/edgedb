/-
`query_ok`: one induction over the query proves cardinality, typing and multiplicity together
(`QueryOK`); each case applies the rule lemmas of `MiniQLCard` and `MiniQLMult`.
-/
import EdbVerif.Lemmas.MiniQLMult

namespace EdbVerif.MiniQL
open EdbVerif.Card

def QueryOK (sch : Schema) (db : DB) (Γ : VCtx) (env : List Val) (q : Q) : Prop :=
  CardOK sch db Γ env q ∧ ∀ dist, multSafe sch Γ dist q = true →
    γm (inferMult sch Γ dist q).info.own (eval sch db env q)

def Sound (sch : Schema) (db : DB) (q : Q) : Prop :=
  ∀ (Γ : VCtx) (env : List Val), accepts sch Γ q = true → noExclRule sch Γ q = true →
    EnvOK sch db Γ env → QueryOK sch db Γ env q

def SoundList (sch : Schema) (db : DB) (qs : List Q) : Prop :=
  ∀ (Γ : VCtx) (env : List Val), acceptsList sch Γ qs = true → noExclRuleList sch Γ qs = true →
    EnvOK sch db Γ env →
    All2 γ (inferCardList sch Γ qs) ((evalList sch db env qs).map List.length) ∧
      ∀ dist, multSafeList sch Γ dist qs = true →
        All2 (fun (m : MI) l => γm m.info.own l) (inferMultList sch Γ dist qs) (evalList sch db env qs)

section
-- `γm` and `γ` match on the inferred value: kept folded in this section, so that a goal about
-- `inferMult … q` does not make the elaborator evaluate it
attribute [local irreducible] γm γ

/-- LIMIT, OFFSET: a sub-bag of the operand, reported with the operand's type and multiplicity -/
theorem QueryOK.sublist {sch : Schema} {db : DB} {Γ : VCtx} {env : List Val} {a : Q}
    (h : QueryOK sch db Γ env a) {l : List Val} (hsub : l.Sublist (eval sch db env a)) {c : Card}
    (hc : γ c l.length) :
    (γ c l.length ∧ ∀ v ∈ l, HasTy sch db (tyOf sch (Γ.map (·.ty)) a) v) ∧
      ∀ dist, multSafe sch Γ dist a = true → γm (overrideSingle c (inferMult sch Γ dist a)).info.own l :=
  ⟨⟨hc, fun v hv => h.1.2 v (hsub.subset hv)⟩,
    fun dist hsafe => override_ok hc (γm_sublist (h.2 dist hsafe) hsub)⟩

theorem SoundList.of_forall {sch : Schema} {db : DB} :
    ∀ {qs : List Q}, (∀ q ∈ qs, Sound sch db q) → SoundList sch db qs
  | [], _ => fun _ _ _ _ _ => ⟨.nil, fun _ _ => .nil⟩
  | q :: qs, h => fun Γ env ha hn he => by
    obtain ⟨hq, hqs⟩ := List.forall_mem_cons.1 h
    obtain ⟨⟨ih, _⟩, ihm⟩ := hq Γ env (Bool.and_eq_true_iff.1 ha).1 (Bool.and_eq_true_iff.1 hn).1 he
    obtain ⟨ihs, ihms⟩ := SoundList.of_forall hqs Γ env (Bool.and_eq_true_iff.1 ha).2
      (Bool.and_eq_true_iff.1 hn).2 he
    exact ⟨.cons ih ihs, fun dist hsafe =>
      .cons (ihm dist (Bool.and_eq_true_iff.1 hsafe).1) (ihms dist (Bool.and_eq_true_iff.1 hsafe).2)⟩

theorem query_ok (sch : Schema) (db : DB) (hc : Conforms sch db) (hs : SigOK sch) (q : Q) :
    Sound sch db q := by
  induction q using Q.rec (motive_2 := fun qs => ∀ q ∈ qs, Sound sch db q) with
  | lit _ => exact fun _ _ _ _ _ =>
    ⟨⟨γ_one, fun _ _ => trivial⟩, fun _ _ => γm_unique (List.pairwise_singleton _ _)⟩
  | empty => exact fun _ _ _ _ _ =>
    ⟨⟨γ_zero, fun _ h => absurd h List.not_mem_nil⟩, fun _ _ => γm_empty_iff.2 rfl⟩
  | constSet es => exact fun _ _ _ _ _ =>
    ⟨⟨constSet_sound hc es, fun _ _ => trivial⟩,
      fun _ _ => override_ok (constSet_sound hc es) (constSetMult_sound db es)⟩
  | param i => exact fun _ _ _ _ _ =>
    ⟨⟨param_sound hc i, fun _ _ => trivial⟩,
      fun _ _ => γm_unique (nodup_of_length_le_one _ (param_len_le db i))⟩
  | var i =>
    intro _ env ha _ he
    have hv := var_ok he (of_decide_eq_true ha)
    exact ⟨hv, fun _ hsafe => γm_nodup (bne_iff_ne.1 hsafe) (nodup_of_length_le_one _ (γ_single hv.1 rfl))⟩
  | root t => exact fun _ _ _ _ _ =>
    ⟨⟨γ_many _, fun _ hv => mem_extent hv⟩, fun _ _ => γm_unique (extent_nodup hc (sch.lineage t))⟩
  | path src p isrc =>
    intro Γ env ha hn he
    obtain ⟨ih, ihm⟩ := isrc Γ env (Bool.and_eq_true_iff.1 ha).1 hn he
    have hcard := path_ok hc ha ih
    refine ⟨hcard, fun dist hsafe => ?_⟩
    obtain ⟨hs1, hs2⟩ := Bool.and_eq_true_iff.1 hsafe
    refine override_ok hcard.1 ?_
    rw [markDisjoint_ite_own]
    exact path_mult_ok hc ha hs1 ih.2 (ihm dist hs2)
  | tuple es ies =>
    intro Γ env ha hn he
    obtain ⟨ih, ihm⟩ := SoundList.of_forall ies Γ env ha hn he
    exact ⟨⟨tuple_sound ih, fun _ _ => trivial⟩,
      fun dist hsafe => override_ok (tuple_sound ih) (tuple_mult_sound (ihm dist hsafe))⟩
  | union a b iha ihb =>
    intro Γ env ha hn he
    obtain ⟨hab, hty⟩ := Bool.and_eq_true_iff.1 ha
    obtain ⟨ha1, ha2⟩ := Bool.and_eq_true_iff.1 hab
    obtain ⟨hn1, hn2⟩ := Bool.and_eq_true_iff.1 hn
    obtain ⟨⟨ia1, ia2⟩, iam⟩ := iha Γ env ha1 hn1 he
    obtain ⟨⟨ib1, ib2⟩, ibm⟩ := ihb Γ env ha2 hn2 he
    have hcard := union2_sound ia1 ib1
    refine ⟨⟨hcard, fun v hv => ?_⟩, fun dist hsafe => ?_⟩
    · rcases List.mem_append.1 hv with h | h
      · exact (hasTy_unionTy hty).1 (ia2 v h)
      · exact (hasTy_unionTy hty).2 (ib2 v h)
    · obtain ⟨hsab, hs3⟩ := Bool.and_eq_true_iff.1 hsafe
      obtain ⟨hs1, hs2⟩ := Bool.and_eq_true_iff.1 hsab
      obtain ⟨hflag, htys⟩ := Bool.and_eq_true_iff.1 hs1
      exact override_ok hcard (unionMult_ok (iam dist hs2) (ibm dist hs3) ((Bool.not_eq_true' _).mp hflag)
        fun htd v hva hvb => union_disjoint hc htys htd (ia2 v hva) (ib2 v hvb))
  | distinct a iha =>
    intro Γ env ha hn he
    obtain ⟨⟨ia1, ia2⟩, iam⟩ := iha Γ env ha hn he
    have hcard := distinct_sound ia1 (dedup_length_le _) (dedup_length_pos _)
    exact ⟨⟨hcard, fun v hv => ia2 v ((mem_dedup _ v).1 hv)⟩,
      fun dist hsafe => override_ok hcard (distinct_mult_sound (iam dist hsafe))⟩
  | coalesce a b iha ihb =>
    intro Γ env ha hn he
    obtain ⟨hab, hty⟩ := Bool.and_eq_true_iff.1 ha
    obtain ⟨ha1, ha2⟩ := Bool.and_eq_true_iff.1 hab
    obtain ⟨hn1, hn2⟩ := Bool.and_eq_true_iff.1 hn
    obtain ⟨⟨ia1, ia2⟩, iam⟩ := iha Γ env ha1 hn1 he
    obtain ⟨⟨ib1, ib2⟩, ibm⟩ := ihb Γ env ha2 hn2 he
    have hcard := coalesce2_sound ia1 ib1
    refine ⟨⟨hcard, fun v hv => ?_⟩, fun dist hsafe => ?_⟩
    · change v ∈ (if _ then _ else _) at hv
      split at hv
      · exact (of_decide_eq_true hty : tyOf _ _ a = tyOf _ _ b) ▸ ib2 v hv
      · exact ia2 v hv
    · obtain ⟨hs1, hs2⟩ := Bool.and_eq_true_iff.1 hsafe
      refine override_ok hcard (γm_max2 (iam dist hs1) (ibm dist hs2) ?_)
      by_cases h : (eval sch db env a).isEmpty = true
      · exact Or.inr (Or.inl (if_pos h))
      · exact Or.inl (if_neg h)
  | ifElse a c b iha ihc ihb =>
    intro Γ env ha hn he
    obtain ⟨habc, hty⟩ := Bool.and_eq_true_iff.1 ha
    obtain ⟨hac, ha3⟩ := Bool.and_eq_true_iff.1 habc
    obtain ⟨ha1, ha2⟩ := Bool.and_eq_true_iff.1 hac
    obtain ⟨hnac, hn3⟩ := Bool.and_eq_true_iff.1 hn
    obtain ⟨hn1, hn2⟩ := Bool.and_eq_true_iff.1 hnac
    obtain ⟨⟨ia1, ia2⟩, iam⟩ := iha Γ env ha1 hn1 he
    obtain ⟨⟨ic1, _⟩, _⟩ := ihc Γ env ha2 hn2 he
    obtain ⟨⟨ib1, ib2⟩, ibm⟩ := ihb Γ env ha3 hn3 he
    have hcard := ifElse_eval_sound Val.truthy ia1 ib1 ic1
    refine ⟨⟨hcard, fun v hv => ?_⟩, fun dist hsafe => override_ok hcard ?_⟩
    · obtain ⟨w, _, hw⟩ := List.mem_flatMap.1 hv
      split at hw
      · exact ia2 v hw
      · exact (of_decide_eq_true hty : tyOf _ _ a = tyOf _ _ b) ▸ ib2 v hw
    · obtain ⟨hs1, hs2⟩ := Bool.and_eq_true_iff.1 hsafe
      split
      · rename_i hsingle
        exact γm_max2 (iam dist hs1) (ibm dist hs2) (flatMap_ite_le_one (γ_single ic1 hsingle))
      · exact γm_duplicate _
  | call f args iargs =>
    intro Γ env ha hn he
    obtain ⟨ha1, ha2⟩ := Bool.and_eq_true_iff.1 ha
    obtain ⟨ih, _⟩ := SoundList.of_forall iargs Γ env ha1 hn he
    -- every component of the claim is a `match` on the declaration of `f`
    show (γ (match sch.fn? f with
        | some d => _
        | none => _) (List.length (match sch.fn? f with
        | some d => _
        | none => _)) ∧ _) ∧ ∀ dist, (match sch.fn? f with
        | some d => _
        | none => _) = true → γm (MI.info (match sch.fn? f with
        | some d => _
        | none => _)).own (match sch.fn? f with
        | some d => _
        | none => _)
    cases hf : sch.fn? f with
    | none =>
      rw [hf] at ha2
      exact absurd ha2 Bool.false_ne_true
    | some d =>
      have hcard := stdCall_sound d _ _ ih (hs.ret f d hf)
      exact ⟨⟨hcard, fun _ _ => trivial⟩, fun dist hsafe => call_mult_sound hcard hsafe⟩
  | filter a w iha _ =>
    intro Γ env ha hn he
    obtain ⟨⟨ia1, ia2⟩, iam⟩ := iha Γ env (Bool.and_eq_true_iff.1 ha).1
      (Bool.and_eq_true_iff.1 (Bool.and_eq_true_iff.1 hn).1).1 he
    have hcard : γ (inferCard sch Γ (.filter a w)) (eval sch db env (.filter a w)).length := by
      rw [inferCard_filter hn]
      exact filter_sound ia1 (List.length_filter_le _ _)
    refine ⟨⟨hcard, fun v hv => ia2 v (List.mem_filter.1 hv).1⟩, fun dist hsafe => ?_⟩
    obtain ⟨hs1, hs2⟩ := Bool.and_eq_true_iff.1 hsafe
    -- the equation first: letting `exact` unfold `inferMult` at a FILTER is an order of magnitude slower
    simp only [inferMult]
    exact override_ok hcard (filter_mult_sound hs1 (γm_sublist (iam dist hs2) List.filter_sublist))
  | limit a k iha _ =>
    intro Γ env ha hn he
    have ih := iha Γ env
      (Bool.and_eq_true_iff.1 (Bool.and_eq_true_iff.1 ha).1).1 (Bool.and_eq_true_iff.1 hn).1 he
    have hsub := limit_sublist sch db env a k
    exact ih.sublist hsub (zero_lower_sound ih.1.1 hsub.length_le)
  | limitC a n iha =>
    intro Γ env ha hn he
    have ih := iha Γ env ha hn he
    exact ih.sublist (List.take_sublist n _) (List.length_take ▸ limitConstCard_sound n ih.1.1)
  | offset a k iha _ =>
    intro Γ env ha hn he
    have ih := iha Γ env
      (Bool.and_eq_true_iff.1 (Bool.and_eq_true_iff.1 ha).1).1 (Bool.and_eq_true_iff.1 hn).1 he
    have hsub := offset_sublist sch db env a k
    exact ih.sublist hsub (zero_lower_sound ih.1.1 hsub.length_le)
  | for_ it body iit ibody =>
    intro Γ env ha hn he
    obtain ⟨ha1, ha2⟩ := Bool.and_eq_true_iff.1 ha
    obtain ⟨hn1, hn2⟩ := Bool.and_eq_true_iff.1 hn
    obtain ⟨⟨ii1, ii2⟩, _⟩ := iit Γ env ha1 hn1 he
    have hbody := fun v hv => (ibody _ (v :: env) ha2 hn2 (.cons (ii2 v hv) he)).1
    have hcard := flatMap_sound ii1 fun v hv => (hbody v hv).1
    refine ⟨⟨hcard, fun v hv => ?_⟩, fun dist hsafe => ?_⟩
    · obtain ⟨x, hx, hvx⟩ := List.mem_flatMap.1 hv
      exact (hbody x hx).2 v hvx
    · -- `safeHere` at a FOR: the iterator is DUPLICATE or the body is not flagged disjoint; either way the rule
      -- claims DUPLICATE, which holds of any bag, so nothing is needed of the body's multiplicity
      exact override_ok hcard (for_mult_sound hsafe)
  | nil _ h => exact nomatch h
  | cons q qs ihq ihqs q' h => exact List.forall_mem_cons.2 ⟨ihq, ihqs⟩ q' h

theorem query_ok_list (sch : Schema) (db : DB) (hc : Conforms sch db) (hs : SigOK sch) (qs : List Q) :
    SoundList sch db qs :=
  .of_forall fun q _ => query_ok sch db hc hs q

end

theorem card_ok_list (sch : Schema) (db : DB) (hc : Conforms sch db) (hs : SigOK sch) :
    (qs : List Q) → ∀ (Γ : VCtx) (env : List Val), acceptsList sch Γ qs = true →
      noExclRuleList sch Γ qs = true → EnvOK sch db Γ env →
      All2 γ (inferCardList sch Γ qs) ((evalList sch db env qs).map List.length) :=
  fun qs Γ env ha hn he => (query_ok_list sch db hc hs qs Γ env ha hn he).1

theorem mult_ok_list (sch : Schema) (db : DB) (hc : Conforms sch db) (hs : SigOK sch) :
    (qs : List Q) → ∀ (Γ : VCtx) (env : List Val) (dist : Option Nat), acceptsList sch Γ qs = true →
      noExclRuleList sch Γ qs = true → multSafeList sch Γ dist qs = true → EnvOK sch db Γ env →
      ∀ l ∈ evalList sch db env qs, ∃ m ∈ inferMultList sch Γ dist qs, γm m.info.own l :=
  fun qs Γ env dist ha hn hsafe he _ hl =>
    ((query_ok_list sch db hc hs qs Γ env ha hn he).2 dist hsafe).mem_right hl

end EdbVerif.MiniQL
