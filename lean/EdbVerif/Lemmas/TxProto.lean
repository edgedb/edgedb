/-
Level 2 of C09: server (dbview model) × compiler state with the pickle transport refines the
session `PSpec` on every history inside the envelope `PSpec.coversAll` (`runAll_refines`).
The coupling is `Rel`: `InTx` inside a block, `NTx` once `compile_in_tx` has synchronised.
`Server.step` is read as compile call + `afterCompile`; `Sim` is what a statement lemma shows of
the compile result, and gives `StepOk`, the step of the refinement.
-/
import EdbVerif.Lemmas.Tx

namespace EdbVerif.Tx

/-- a payload as the compiler sees it once the request's aliases / config are applied -/
def withView (pl : Payload) (a v : Nat) : Payload := { pl with aliases := a, config := v }

/-- Inside a transaction: server `S`, its `_last_comp_state` `c` with current transaction `t`,
    and the spec state `p`.
    * `inv1 expl curKey curBound`: level 1's invariant; `t` is explicit, stored under the key
      `c.cur`, and that key is not above the counter (so a transaction created later, as by
      COMMIT / ROLLBACK, gets another key and `t` stays in the heap).
    * `sorted spsLog`: `_savepoints` is in order of creation and every entry is in the log under
      its id, pointing back to `t`.
    * `stSorted stLog`: likewise the server's stack `_in_tx_savepoints`; each entry's log record has
      its name and session view.  The stack keeps released savepoints (the server never pops on
      RELEASE), so it is `live` that says every compiler savepoint has a stack entry, and `shadow`
      that a stack entry above a live one of the same name is live too: the server's topmost `n` is
      then the compiler's last `n` (`InTx.topmost`).
    * `state0 frames base pin sin pfail`: the spec state read off both sides.
    * `sync`: either the compiler is at the server's id and, unless the block is aborted, its
      current payload under the server's view is the spec's; or (after ROLLBACK TO) a
      `sync_to_savepoint(S.txid)` is pending: the target is in the log, belongs to `t`, nothing
      live or stacked is above it, and it carries the view and the spec's payload. -/
structure InTx (S : Server) (c : ConState) (t : Txn) (p : PSpec) : Prop where
  inv1     : Inv1 c t
  expl     : t.implicit = false
  sorted   : (t.sps.map (·.id)).Pairwise (· < ·)
  spsLog   : ∀ x ∈ t.sps, dictGet c.log x.id = some x ∧ x.tx = c.cur
  curKey   : t.current.tx = c.cur
  curBound : c.cur ≤ c.count
  stSorted : (S.sps.map (·.spid)).Pairwise (· < ·)
  stLog    : ∀ q ∈ S.sps, q.spid ≤ c.count ∧ ∃ sp, dictGet c.log q.spid = some sp ∧
               sp.name = some q.name ∧ sp.tx = c.cur ∧ sp.pl.aliases = q.aliases ∧ sp.pl.config = q.config
  live     : ∀ x ∈ t.sps, ∃ q ∈ S.sps, q.spid = x.id
  shadow   : ∀ q1 ∈ S.sps, ∀ q2 ∈ S.sps, q1.spid < q2.spid → q1.name = q2.name →
               (∃ x ∈ t.sps, x.id = q1.spid) → ∃ x ∈ t.sps, x.id = q2.spid
  state0   : t.state0.pl.uschema = S.uschema ∧ t.state0.pl.gschema = S.gschema
  frames   : t.sps.reverse.map frameOf = p.frames
  base     : p.base = ⟨S.uschema, S.gschema, S.aliases, S.config⟩
  pin      : p.inTx = true
  sin      : S.inTx = true
  pfail    : p.failed = S.txErr
  sync     : (t.id = S.txid ∧ (p.failed = false → withView t.current.pl S.txAliases S.txConfig = p.cur)) ∨
             (t.id ≠ S.txid ∧ ∃ sp, dictGet c.log S.txid = some sp ∧ sp.tx = c.cur ∧
                (∀ x ∈ t.sps, x.id ≤ S.txid) ∧ (∀ q ∈ S.sps, q.spid ≤ S.txid) ∧
                sp.pl.aliases = S.txAliases ∧ sp.pl.config = S.txConfig ∧
                (p.failed = false → sp.pl = p.cur))

/-- … after `compile_in_tx` has applied the session view and synchronised to `txid`. -/
structure NTx (S : Server) (c : ConState) (t : Txn) (p : PSpec) : Prop extends InTx S c t p where
  idEq   : t.id = S.txid
  viewA  : p.failed = false → t.current.pl.aliases = S.txAliases
  viewC  : p.failed = false → t.current.pl.config = S.txConfig
  curPl  : p.failed = false → t.current.pl = p.cur

def Rel (S : Server) (p : PSpec) : Prop :=
  if S.inTx then ∃ c t, S.last = some c ∧ InTx S c t p
  else S.txErr = false ∧ S.sps = [] ∧ p = PSpec.out ⟨S.uschema, S.gschema, S.aliases, S.config⟩

/-- what a statement outside a block is compiled against: the database's schemas and the session's
    aliases and config as the server holds them -/
abbrev Server.base (S : Server) : Payload := ⟨S.uschema, S.gschema, S.aliases, S.config⟩

variable {S : Server} {c c2 : ConState} {t t2 : Txn} {p : PSpec}

theorem withView_self (pl : Payload) : withView pl pl.aliases pl.config = pl := rfl

theorem Rel.of_inTx (hl : S.last = some c)
    (h : InTx S c t p) : Rel S p := by
  unfold Rel; rw [if_pos h.sin]; exact ⟨c, t, hl, h⟩

theorem Rel.of_out (S : Server) (hin : S.inTx = false) (he : S.txErr = false) (hsps : S.sps = []) :
    Rel S (PSpec.out S.base) := by
  unfold Rel; rw [if_neg (by simp [hin])]; exact ⟨he, hsps, rfl⟩

theorem Rel.inTx (hR : Rel S p) (hin : S.inTx = true) :
    ∃ c t, S.last = some c ∧ InTx S c t p := by
  rwa [Rel, if_pos hin] at hR

theorem Rel.out (hR : Rel S p) (hin : S.inTx = false) :
    S.txErr = false ∧ S.sps = [] ∧ p = PSpec.out S.base := by
  rwa [Rel, if_neg (by simp [hin])] at hR

/-- what the coupling says to someone who does not open `InTx` -/
theorem Rel.observable (hR : Rel S p) :
    S.inTx = p.inTx ∧ (S.inTx = true → S.txErr = p.failed) ∧ p.base = S.base := by
  cases hin : S.inTx with
  | true =>
    obtain ⟨c, t, _, h⟩ := hR.inTx hin
    exact ⟨h.pin.symm, fun _ => h.pfail.symm, h.base⟩
  | false =>
    obtain ⟨_, _, rfl⟩ := hR.out hin
    exact ⟨rfl, nofun, rfl⟩

/-- the type of `InTx.sync`, for lemmas that take that clause as a hypothesis -/
def SyncOk (S : Server) (c : ConState) (t : Txn) (p : PSpec) : Prop :=
  (t.id = S.txid ∧ (p.failed = false → withView t.current.pl S.txAliases S.txConfig = p.cur)) ∨
  (t.id ≠ S.txid ∧ ∃ sp, dictGet c.log S.txid = some sp ∧ sp.tx = c.cur ∧
    (∀ x ∈ t.sps, x.id ≤ S.txid) ∧ (∀ q ∈ S.sps, q.spid ≤ S.txid) ∧
    sp.pl.aliases = S.txAliases ∧ sp.pl.config = S.txConfig ∧
    (p.failed = false → sp.pl = p.cur))

/-- `InTx` after savepoints have been dropped on either side: `live`, `shadow`, `sync` of the new
    state are the caller's; the order and log clauses follow. -/
theorem InTx.mono (h : InTx S c t p)
    {S' : Server} {c' : ConState} {t' : Txn} {p' : PSpec}
    (hcur : curTx c' = some t') (hcount : c.count ≤ c'.count) (hk : c'.cur = c.cur)
    (hlog : ∀ i x, dictGet c.log i = some x →
      ((∃ y ∈ t'.sps, y.id = i) ∨ (∃ q ∈ S'.sps, q.spid = i)) → dictGet c'.log i = some x)
    (hsps : t'.sps.Sublist t.sps) (himp : t'.implicit = t.implicit) (hs0 : t'.state0 = t.state0)
    (hck : t'.current.tx = c.cur) (hSsps : S'.sps.Sublist S.sps)
    (hS : S'.uschema = S.uschema ∧ S'.gschema = S.gschema ∧
      S'.aliases = S.aliases ∧ S'.config = S.config ∧ S'.inTx = S.inTx)
    (hp : p'.base = p.base ∧ p'.inTx = p.inTx) (hframes : t'.sps.reverse.map frameOf = p'.frames)
    (hf : p'.failed = S'.txErr)
    (hlive : ∀ x ∈ t'.sps, ∃ q ∈ S'.sps, q.spid = x.id)
    (hshadow : ∀ q1 ∈ S'.sps, ∀ q2 ∈ S'.sps, q1.spid < q2.spid → q1.name = q2.name →
      (∃ x ∈ t'.sps, x.id = q1.spid) → ∃ x ∈ t'.sps, x.id = q2.spid)
    (hsync : SyncOk S' c' t' p') : InTx S' c' t' p' := by
  obtain ⟨hS2, hS3, hS4, hS5, hS6⟩ := hS
  exact
    { inv1 := h.inv1.sublist hcur hsps hcount
      expl := by rw [himp]; exact h.expl
      sorted := h.sorted.sublist (hsps.map _)
      spsLog := fun x hx =>
        have ⟨h1, h2⟩ := h.spsLog x (hsps.subset hx)
        ⟨hlog _ _ h1 (.inl ⟨x, hx, rfl⟩), by rw [hk]; exact h2⟩
      curKey := by rw [hck, hk]
      curBound := by rw [hk]; exact Nat.le_trans h.curBound hcount
      stSorted := h.stSorted.sublist (hSsps.map _)
      stLog := fun q hq =>
        have ⟨h1, sp, h2, h3, h4, h5⟩ := h.stLog q (hSsps.subset hq)
        ⟨Nat.le_trans h1 hcount, sp, hlog _ _ h2 (.inr ⟨q, hq, rfl⟩), h3, by rw [hk]; exact h4, h5⟩
      live := hlive
      shadow := hshadow
      state0 := by rw [hs0, hS2, hS3]; exact h.state0
      frames := hframes
      base := by rw [hp.1, hS2, hS3, hS4, hS5]; exact h.base
      pin := by rw [hp.2]; exact h.pin
      sin := by rw [hS6]; exact h.sin
      pfail := hf
      sync := hsync }

theorem InTx.transport {S : Server} {c : ConState} {t : Txn} {p : PSpec} (h : InTx S c t p)
    {S' : Server} {c' : ConState} {t' : Txn} {p' : PSpec}
    (hcur : curTx c' = some t') (hcount : c.count ≤ c'.count) (hk : c'.cur = c.cur)
    (hlog : ∀ i x, dictGet c.log i = some x →
      ((∃ y ∈ t.sps, y.id = i) ∨ (∃ q ∈ S.sps, q.spid = i)) → dictGet c'.log i = some x)
    (hsps : t'.sps = t.sps) (himp : t'.implicit = t.implicit) (hs0 : t'.state0 = t.state0)
    (hck : t'.current.tx = c.cur)
    (hS : S'.sps = S.sps ∧ S'.uschema = S.uschema ∧ S'.gschema = S.gschema ∧
      S'.aliases = S.aliases ∧ S'.config = S.config ∧ S'.inTx = S.inTx)
    (hp : p'.base = p.base ∧ p'.frames = p.frames ∧ p'.inTx = p.inTx)
    (hf : p'.failed = S'.txErr)
    (hsync : SyncOk S' c' t' p') : InTx S' c' t' p' :=
  h.mono hcur hcount hk (by rw [hsps, hS.1]; exact hlog) (hsps ▸ .refl _) himp hs0 hck (hS.1 ▸ .refl _)
    hS.2 ⟨hp.1, hp.2.2⟩ (by rw [hsps, hp.2.1]; exact h.frames) hf (by rw [hsps, hS.1]; exact h.live)
    (by rw [hsps, hS.1]; exact h.shadow) hsync

/-- `hS`, `hp`: one equation each names the fields that may differ; callers close them by `rfl`. -/
theorem InTx.withCurrent (h : InTx S c t p)
    {c' : ConState} {X : TxState} (hcur : curTx c' = some { t with current := X })
    (hn : c.count ≤ c'.count) (hk : c'.cur = c.cur) (hlog : c'.log = c.log) (hX : X.tx = c.cur)
    {S' : Server} {p' : PSpec}
    (hS : S' = { S with last := S'.last, txErr := S'.txErr, txAliases := S'.txAliases, txConfig := S'.txConfig })
    (hp : p' = { p with failed := p'.failed, cur := p'.cur }) (hf : p'.failed = S'.txErr)
    (hsync : SyncOk S' c' { t with current := X } p') : InTx S' c' { t with current := X } p' :=
  h.transport hcur hn hk (fun i x hx _ => hlog ▸ hx) rfl rfl rfl hX
    (by rw [hS]; exact ⟨rfl, rfl, rfl, rfl, rfl, rfl⟩) (by rw [hp]; exact ⟨rfl, rfl, rfl⟩) hf hsync

theorem withView_withView (pl : Payload) (a v : Nat) : withView (withView pl a v) a v = withView pl a v := rfl

theorem curTx_ite_setTx {c : ConState} {t t' : Txn} (h : curTx c = some t) (b : Bool)
    (hb : b = false → t' = t) :
    curTx (if b then setTx c c.cur t' else c) = some t' ∧
    (if b then setTx c c.cur t' else c).cur = c.cur ∧
    (if b then setTx c c.cur t' else c).log = c.log ∧
    (if b then setTx c c.cur t' else c).count = c.count ∧
    ∀ k, k ≠ c.cur → getTx (if b then setTx c c.cur t' else c) k = getTx c k := by
  cases b
  · exact ⟨by rw [hb rfl]; exact h, rfl, rfl, rfl, fun _ _ => rfl⟩
  · exact ⟨curTx_setTx c t', rfl, rfl, rfl, fun k hk => getTx_setTx_ne c k c.cur t' hk⟩

theorem applySession_eq (c : ConState) (t : Txn) (h : curTx c = some t) (ra rc : Nat) :
    ∃ c1, applySession c ra rc = .ok c1 ∧
      curTx c1 = some { t with current := { t.current with pl := withView t.current.pl ra rc } } ∧
      c1.cur = c.cur ∧ c1.log = c.log ∧ c1.count = c.count ∧
      (∀ k, k ≠ c.cur → getTx c1 k = getTx c k) := by
  obtain ⟨h1, k1, l1, n1, g1⟩ := curTx_ite_setTx h (t.current.pl.aliases != ra)
    (t' := { t with current := { t.current with pl := { t.current.pl with aliases := ra } } })
    (fun hb => by rw [← show t.current.pl.aliases = ra by simpa using hb])
  obtain ⟨h2, k2, l2, n2, g2⟩ := curTx_ite_setTx h1 (t.current.pl.config != rc)
    (t' := { t with current := { t.current with pl := withView t.current.pl ra rc } })
    (fun hb => by rw [withView, ← show t.current.pl.config = rc by simpa using hb])
  refine ⟨_, ?_, h2, k2.trans k1, l2.trans l1, n2.trans n1,
    fun k hk => (g2 k (by rw [k1]; exact hk)).trans (g1 k hk)⟩
  simp only [applySession, h, h1]
  rfl

theorem compileInTxWith_eq {c c1 c2 : ConState} {T : Txn} {txid ra rc : Nat} {er : Bool}
    (hap : applySession c ra rc = .ok c1) (hT : curTx c1 = some T)
    (hesc : (er && T.id != txid && !dictHas c1.log txid) = false) (hs : syncTx c1 txid = .ok c2)
    {α : Type} (body : ConState → ConState × M α) (esc : M α) :
    compileInTxWith c txid ra rc er body esc =
      { st := (body c2).1, against := curPayload c2, res := (body c2).2 } := by
  simp only [compileInTxWith, hap, hT, hesc, Bool.false_eq_true, ↓reduceIte, hs]

/-- `sync_tx → sync_to_savepoint`: the transaction `t` that declared `txid` is current again -/
theorem syncTx_savepoint {c1 : ConState} {T t : Txn} {txid : Nat} {sp : TxState}
    (hT : curTx c1 = some T) (hid : T.id ≠ txid) (hsp : dictGet c1.log txid = some sp)
    (hg : getTx c1 sp.tx = some t) (hle : ∀ x ∈ t.sps, x.id ≤ txid) :
    syncTx c1 txid =
      .ok { setTx c1 sp.tx { t with current := sp, id := txid } with
            cur := sp.tx, log := c1.log.filter (fun x => !(x.id > txid)) } := by
  have hfil : t.sps.filter (fun x => !(x.id > txid)) = t.sps :=
    List.filter_eq_self.2 fun x hx => by have := hle x hx; simp; omega
  simp only [syncTx, hT, beq_false_of_ne hid, Bool.false_eq_true, ↓reduceIte, dictHas_eq, hsp,
    Option.isSome_some, syncToSavepoint, hg, hfil]

theorem InTx.resync (h : InTx S c t p)
    {c1 : ConState} {sp : TxState} (hl1 : c1.log = c.log) (hn1 : c.count ≤ c1.count) (hsptx : sp.tx = c.cur)
    (hle1 : ∀ x ∈ t.sps, x.id ≤ S.txid) (hle2 : ∀ q ∈ S.sps, q.spid ≤ S.txid) {S' : Server} {p' : PSpec}
    (hS : S' = { S with last := S'.last, txErr := S'.txErr })
    (hp : p' = { p with failed := p'.failed, cur := p'.cur }) (hf : p'.failed = S'.txErr)
    (hv : p'.failed = false → withView sp.pl S'.txAliases S'.txConfig = p'.cur) :
    InTx S' { setTx c1 sp.tx { t with current := sp, id := S.txid } with
              cur := sp.tx, log := c1.log.filter (fun x => !(x.id > S.txid)) }
      { t with current := sp, id := S.txid } p' := by
  refine h.transport (by simp [curTx, getTx, setTx]) hn1 hsptx (fun i x hx hor => ?_) rfl rfl rfl hsptx
    (by rw [hS]; exact ⟨rfl, rfl, rfl, rfl, rfl, rfl⟩) (by rw [hp]; exact ⟨rfl, rfl, rfl⟩) hf
    (.inl ⟨by rw [hS], hv⟩)
  have hile : i ≤ S.txid := by
    rcases hor with ⟨y, hy, rfl⟩ | ⟨q, hq, rfl⟩
    · exact hle1 y hy
    · exact hle2 q hq
  show dictGet (c1.log.filter _) i = some x
  rw [dictGet_filter_le, hl1, if_pos hile, hx]

/-- `compile_in_tx` up to the statement: the session view is applied, `sync_tx(txid)` succeeds,
    the `_try_compile_rollback` escape is not taken, and the statement (`body`) runs on a
    normalised state whose current payload is the one the spec exposes. -/
theorem compile_prefix (h : InTx S c t p)
    (er : Bool) {α : Type} (body : ConState → ConState × M α) (esc : M α) :
    ∃ c2 t2, NTx S c2 t2 p ∧
      compileInTxWith c S.txid S.txAliases S.txConfig er body esc =
        { st := (body c2).1, against := some t2.current.pl, res := (body c2).2 } := by
  obtain ⟨c1, hap, hc1, hk1, hl1, hn1, _⟩ := applySession_eq c t h.inv1.cur S.txAliases S.txConfig
  rcases h.sync with ⟨hid, hpl⟩ | ⟨hid, sp, hsp, hsptx, hle1, hle2, hva, hvc, hpl⟩
  · -- already at txid
    refine ⟨c1, _, ⟨h.withCurrent hc1 (Nat.le_of_eq hn1.symm) hk1 hl1 h.curKey rfl rfl h.pfail (.inl ⟨hid, hpl⟩),
      hid, fun _ => rfl, fun _ => rfl, hpl⟩, ?_⟩
    rw [compileInTxWith_eq (c2 := c1) hap hc1 (by simp [hid]) (by simp [syncTx, hc1, hid]), curPayload, hc1]
    rfl
  · -- pending synchronisation to a savepoint
    have hg : getTx c1 sp.tx =
        some { t with current := { t.current with pl := withView t.current.pl S.txAliases S.txConfig } } := by
      rw [hsptx, ← hk1]; exact hc1
    have hs := syncTx_savepoint hc1 hid (hl1 ▸ hsp) hg hle1
    refine ⟨_, _, ⟨h.resync hl1 (Nat.le_of_eq hn1.symm) hsptx hle1 hle2 rfl rfl h.pfail
        (fun hf => by rw [← hva, ← hvc, withView_self]; exact hpl hf),
      rfl, fun _ => hva, fun _ => hvc, hpl⟩, ?_⟩
    rw [compileInTxWith_eq hap hc1 (by simp [dictHas_eq, hl1, hsp]) hs]
    simp [curPayload, curTx, getTx, setTx]

theorem Server.compileFailed_last (s : Server) : s.compileFailed.last = s.last := by
  unfold Server.compileFailed
  split <;> rfl

/-- `Server.step` after the compile call (`ag`: the payload compiled against) -/
def afterCompile (S : Server) (e : SEv) (ag : Option Payload) (r : ConState × M QUnit) : Server × SOut :=
  match r with
  | (_, .error err) => (S.compileFailed, { outcome := .rejected (S.relabel err), against := ag })
  | (c3, .ok u) =>
    let keep := if S.inTx then some c3 else if u.txId.isSome then some c3 else none
    let r := ({ S with last := keep } : Server).run u e.bf e.stay
    (r.1, { outcome := r.2, against := ag, unit := some u })

theorem step_eq_afterCompile (S : Server) (e : SEv) :
    S.step e = afterCompile S e (S.compileOn S.last e).against
      ((S.compileOn S.last e).st, (S.compileOn S.last e).res) := by
  unfold Server.step Server.stepOn afterCompile
  cases hr : (S.compileOn S.last e).res <;> simp only [hr]

theorem step_of_prefix (hin : S.inTx = true) (hl : S.last = some c)
    (e : SEv) (c2 : ConState) (ag : Option Payload)
    (heq : compileInTxWith c S.txid S.txAliases S.txConfig S.txErr
        (fun c2 => compileStmt c2 S.txErr e.cf e.stmt) (tryCompileRollback e.stmt) =
      { st := (compileStmt c2 S.txErr e.cf e.stmt).1, against := ag,
        res := (compileStmt c2 S.txErr e.cf e.stmt).2 }) :
    S.step e = afterCompile S e ag (compileStmt c2 S.txErr e.cf e.stmt) := by
  simp only [step_eq_afterCompile, Server.compileOn, hin, ↓reduceIte, hl, compileInTx, heq]

theorem step_inTx_unfold (hl : S.last = some c) (h : InTx S c t p) (e : SEv) :
    ∃ c2 t2, NTx S c2 t2 p ∧
      S.step e = afterCompile S e (some t2.current.pl) (compileStmt c2 S.txErr e.cf e.stmt) := by
  obtain ⟨c2, t2, hN, heq⟩ := compile_prefix h S.txErr
    (fun c2 => compileStmt c2 S.txErr e.cf e.stmt) (tryCompileRollback e.stmt)
  exact ⟨c2, t2, hN, step_of_prefix h.sin hl e c2 _ heq⟩

def StepOk (S : Server) (p : PSpec) (e : SEv) : Prop :=
  Rel (S.step e).1 (p.step e).1 ∧
  (S.step e).2.agrees { cls := (p.step e).2, exposed := p.exposed, healthy := p.healthy }

/-- `_check_in_tx_error`: in an aborted block everything but a rollback is refused -/
theorem serverRun_aborted (he : S.txErr = true) {u : QUnit} (h1 : u.txRollback = false)
    (h2 : u.spRollback = false) (bf stay : Bool) : S.run u bf stay = (S, .rejected .inTxError) := by
  simp [Server.run, he, h1, h2]

theorem serverRun_failed (hin : S.inTx = true) (he : S.txErr = false) {u : QUnit}
    (hid : u.txId = none) (hsp : u.spRollback = false) {bf : Bool} (hbf : bf = true) (stay : Bool) :
    S.run u bf stay =
      (if u.txCommit && !stay then ({ S with txErr := true } : Server).resetTx
       else { S with txErr := true }, .failed) := by
  simp [Server.run, he, hsp, Server.execute, Server.start, hid, hin, hbf]

theorem serverRun_plain_inTx (hin : S.inTx = true) (he : S.txErr = false)
    (oa oc ou og : Option Nat) {bf : Bool} (hbf : bf = false) (stay : Bool) :
    S.run { aliases := oa, config := oc, uschema := ou, gschema := og } bf stay =
      ({ S with txAliases := oa.getD S.txAliases, txConfig := oc.getD S.txConfig }, .ok) := by
  cases S; cases hin; cases he; cases hbf; cases oa <;> cases oc <;> rfl

theorem serverRun_plain_out (hin : S.inTx = false) (he : S.txErr = false)
    (oa oc ou og : Option Nat) (bf stay : Bool) :
    S.run { aliases := oa, config := oc, uschema := ou, gschema := og } bf stay =
      if bf then (S, .failed) else
        ({ S with uschema := ou.getD S.uschema, gschema := og.getD S.gschema,
                  aliases := oa.getD S.aliases, config := oc.getD S.config }, .ok) := by
  cases S; cases hin; cases he; cases bf <;> cases oa <;> cases oc <;> rfl

theorem serverRun_rollback (hin : S.inTx = true) (a : Nat) {bf : Bool}
    (hbf : S.txErr = false → bf = false) (stay : Bool) :
    S.run { txRollback := true, aliases := some a } bf stay = (S.resetTx, .ok) := by
  cases S with | mk _ _ _ _ _ _ txErr =>
  cases hin
  cases txErr
  · cases hbf rfl; rfl
  · rfl

theorem serverRun_commit (hin : S.inTx = true) (he : S.txErr = false) (a : Nat)
    (ou og : Option Nat) {bf : Bool} (hbf : bf = false) (stay : Bool) :
    S.run { txCommit := true, aliases := some a, uschema := ou, gschema := og } bf stay =
      (({ S with config := S.txConfig, aliases := a, uschema := ou.getD S.uschema,
                 gschema := og.getD S.gschema } : Server).resetTx, .ok) := by
  cases S; cases hin; cases he; cases hbf; rfl

theorem InTx.fail (h : InTx S c t p) :
    InTx { S with txErr := true } c t p.abort := by
  refine h.withCurrent h.inv1.cur (Nat.le_refl _) rfl rfl h.curKey rfl rfl rfl ?_
  rcases h.sync with ⟨hid, _⟩ | ⟨hid, sp, h1, h2, h3, h4, h5, h6, _⟩
  · exact .inl ⟨hid, nofun⟩
  · exact .inr ⟨hid, sp, h1, h2, h3, h4, h5, h6, nofun⟩

theorem PSpec.abort_self {p : PSpec} (h : p.failed = true) : p.abort = p := by
  rw [PSpec.abort, ← h]

/-- What a statement lemma shows of the result of the compile call: a refusal is a refusal of the
    spec too, which aborts the block if there is one; a unit, run by the server that keeps the
    state as `Server.stepOn` does, leads to a coupled pair and an outcome of the spec's class. -/
def Sim (S : Server) (p : PSpec) (e : SEv) : ConState × M QUnit → Prop
  | (_, .error _) => p.step e = (if p.inTx then p.abort else p, .rejected)
  | (c3, .ok u) =>
    let r := ({ S with last := if S.inTx then some c3 else if u.txId.isSome then some c3 else none } :
      Server).run u e.bf e.stay
    Rel r.1 (p.step e).1 ∧ r.2.cls = (p.step e).2

theorem Sim.rejected {e : SEv} {c3 : ConState} {err : Err} (hin : p.inTx = true)
    (hspec : p.step e = (p.abort, .rejected)) : Sim S p e (c3, .error err) := by
  show p.step e = _
  rw [if_pos hin, hspec]

theorem Sim.compiled {e : SEv} {c3 : ConState} {u : QUnit} {keep : Option ConState}
    (hkeep : (if S.inTx then some c3 else if u.txId.isSome then some c3 else none) = keep)
    {S3 : Server} {o : Outcome} (hrun : ({ S with last := keep } : Server).run u e.bf e.stay = (S3, o))
    {p' : PSpec} (hspec : p.step e = (p', o.cls)) (hrel : Rel S3 p') : Sim S p e (c3, .ok u) := by
  dsimp only [Sim]
  rw [hkeep, hrun, hspec]
  exact ⟨hrel, rfl⟩

theorem Sim.sound {e : SEv} {ag : Option Payload} {r : ConState × M QUnit}
    (hag : p.healthy = true → ag = some p.exposed) (h : Sim S p e r) :
    (afterCompile S e ag r).2.agrees { cls := (p.step e).2, exposed := p.exposed, healthy := p.healthy } ∧
    ((afterCompile S e ag r).2.outcome = .ok → Rel (afterCompile S e ag r).1 (p.step e).1) := by
  obtain ⟨c3, _ | u⟩ := r
  · rw [show p.step e = _ from h]
    exact ⟨⟨rfl, fun _ hne => absurd rfl hne⟩, nofun⟩
  · exact ⟨⟨h.2, fun hh _ => hag hh⟩, fun _ => h.1⟩

theorem stepOk_of_sim (hR : Rel S p) {e : SEv} {ag : Option Payload} {r : ConState × M QUnit}
    (hstep : S.step e = afterCompile S e ag r) (hag : p.healthy = true → ag = some p.exposed)
    (hsim : Sim S p e r) : StepOk S p e := by
  unfold StepOk
  rw [hstep]
  refine ⟨?_, (hsim.sound hag).1⟩
  obtain ⟨c3, err | u⟩ := r
  · -- the compile call raised: the server keeps the state it had
    rw [show p.step e = _ from hsim]
    show Rel S.compileFailed _
    unfold Server.compileFailed
    rcases Bool.eq_false_or_eq_true S.inTx with hin | hin
    · obtain ⟨c, t, hl, h⟩ := hR.inTx hin
      rw [if_pos hin, if_pos h.pin]
      exact Rel.of_inTx hl h.fail
    · obtain ⟨_, _, rfl⟩ := hR.out hin
      rw [if_neg (by simp [hin])]
      exact hR
  · exact hsim.1

/-- selects the branch of `PSpec.step` for a block that is not aborted -/
theorem ite_healthy {α : Type} {p : PSpec} (hin : p.inTx = true) (hf : p.failed = false) (a b c : α) :
    (if !p.inTx then a else if p.failed then b else c) = c := by
  rw [if_neg (by simp [hin]), if_neg (by simp [hf])]

/-- the statements an aborted block does not refuse outright -/
def Stmt.isRollback : Stmt → Bool
  | .rollback | .rollbackTo _ => true
  | _ => false

theorem PSpec.step_aborted (p : PSpec) (e : SEv) (hin : p.inTx = true) (hf : p.failed = true)
    (hs : e.stmt.isRollback = false) :
    p.step e = (p, .rejected) := by
  rw [PSpec.step, if_neg (by simp [hin]), if_pos hf]
  cases hst : e.stmt <;> rw [hst] at hs <;> first | rfl | cases hs

theorem NTx.view (hN : NTx S c2 t2 p)
    (hf : p.failed = false) : withView t2.current.pl S.txAliases S.txConfig = p.cur := by
  rw [← hN.viewA hf, ← hN.viewC hf, withView_self]; exact hN.curPl hf

theorem NTx.exposed (hN : NTx S c2 t2 p)
    (hh : p.healthy = true) : some t2.current.pl = some p.exposed := by
  have hf : p.failed = false := by simpa [PSpec.healthy, hN.pin] using hh
  rw [PSpec.exposed, if_pos hN.pin, hN.curPl hf]

theorem stepOk_expectRollback (hN : NTx S c2 t2 p) (e : SEv) (hf : p.failed = true)
    (hs : match e.stmt with | .start | .commit | .declare _ | .release _ => True | _ => False) :
    Sim S p e (compileStmt c2 S.txErr e.cf e.stmt) := by
  rw [← hN.pfail, hf]
  obtain ⟨hc, hs'⟩ : compileStmt c2 true e.cf e.stmt = (c2, .error .expectedRollback) ∧
      e.stmt.isRollback = false := by
    cases hst : e.stmt <;> rw [hst] at hs <;> first | exact hs.elim | exact ⟨rfl, rfl⟩
  rw [hc]
  refine Sim.rejected hN.pin ?_
  rw [PSpec.abort_self hf]
  exact PSpec.step_aborted p e hN.pin hf hs'

/-- A payload statement or query: `X` is the new `_current`, its payload `g` of the old one. -/
theorem stepOk_plain (hN : NTx S c2 t2 p) (e : SEv)
    (hs : e.stmt.isRollback = false)
    (hcf : e.cf = true → compileStmt c2 S.txErr e.cf e.stmt = (c2, .error .compileError))
    {c3 : ConState} {X : TxState} {oa oc ou og : Option Nat}
    (hcomp : e.cf = false → compileStmt c2 S.txErr e.cf e.stmt =
      (c3, .ok { aliases := oa, config := oc, uschema := ou, gschema := og }))
    (hc3 : curTx c3 = some { t2 with current := X }) (hk : c3.cur = c2.cur) (hlog : c3.log = c2.log)
    (hn : c2.count ≤ c3.count) (hX : X.tx = c2.cur) {g : Payload → Payload}
    (hXpl : X.pl = g t2.current.pl)
    (hoa : oa.getD t2.current.pl.aliases = (g t2.current.pl).aliases)
    (hoc : oc.getD t2.current.pl.config = (g t2.current.pl).config)
    (hspec : p.failed = false → p.step e =
      if e.cf then (p.abort, .rejected) else if e.bf then (p.abort, .failed)
      else ({ p with cur := g p.cur }, .ok)) : Sim S p e (compileStmt c2 S.txErr e.cf e.stmt) := by
  rcases Bool.eq_false_or_eq_true e.cf with hcfv | hcfv
  · rw [hcf hcfv]
    refine Sim.rejected hN.pin ?_
    cases hf : p.failed with
    | true => rw [PSpec.abort_self hf, PSpec.step_aborted p e hN.pin hf hs]
    | false => rw [hspec hf, if_pos hcfv]
  · rw [hcomp hcfv]
    cases hf : p.failed with
    | true =>
      have her : S.txErr = true := hN.pfail ▸ hf
      exact Sim.compiled (if_pos hN.sin) (serverRun_aborted (S := { S with last := some c3 }) her rfl rfl _ _)
        (PSpec.step_aborted p e hN.pin hf hs)
        (Rel.of_inTx rfl (hN.toInTx.withCurrent hc3 hn hk hlog hX rfl rfl hN.pfail
          (.inl ⟨hN.idEq, fun h' => by rw [hf] at h'; cases h'⟩)))
    | false =>
      have her : S.txErr = false := hN.pfail ▸ hf
      have hspec := hspec hf
      rw [if_neg (by simp [hcfv])] at hspec
      cases hbf : e.bf with
      | true =>
        rw [if_pos hbf] at hspec
        exact Sim.compiled (if_pos hN.sin)
          (serverRun_failed (S := { S with last := some c3 }) hN.sin her rfl rfl hbf _) hspec
          (Rel.of_inTx rfl (hN.toInTx.withCurrent hc3 hn hk hlog hX rfl rfl rfl (.inl ⟨hN.idEq, nofun⟩)))
      | false =>
        rw [if_neg (by simp [hbf])] at hspec
        refine Sim.compiled (if_pos hN.sin)
          (serverRun_plain_inTx (S := { S with last := some c3 }) hN.sin her _ _ _ _ hbf _) hspec
          (Rel.of_inTx rfl (hN.toInTx.withCurrent hc3 hn hk hlog hX rfl rfl hN.pfail (.inl ⟨hN.idEq, fun _ => ?_⟩)))
        show withView X.pl (oa.getD S.txAliases) (oc.getD S.txConfig) = g p.cur
        rw [← hN.viewA hf, ← hN.viewC hf, hoa, hoc, hXpl, withView_self, hN.curPl hf]

/-- the unit `_make_query_unit` builds for a payload update that has led to payload `pl` -/
def updUnit (u : Upd) (pl : Payload) : QUnit :=
  { aliases := match u with | .schema _ _ => none | _ => some pl.aliases
    config := match u with | .config v => some v | _ => none
    uschema := match u with | .schema us _ => some us | _ => none
    gschema := match u with | .schema _ gs => some gs | _ => none }

theorem compileStmt_upd (hcur : curTx c = some t) (er : Bool) (u : Upd) :
    compileStmt c er false (.upd u) =
      (setTx c c.cur { t with current := { t.current with pl := u.apply t.current.pl } },
       .ok (updUnit u (u.apply t.current.pl))) := by
  cases u <;> simp [compileStmt, update_eq hcur, curPayload, updUnit]

theorem updUnit_getD (u : Upd) (pl : Payload) :
    (⟨(updUnit u (u.apply pl)).uschema.getD pl.uschema, (updUnit u (u.apply pl)).gschema.getD pl.gschema,
      (updUnit u (u.apply pl)).aliases.getD pl.aliases, (updUnit u (u.apply pl)).config.getD pl.config⟩ :
      Payload) = u.apply pl := by
  cases u <;> rfl

theorem stepOk_upd_inTx (hN : NTx S c2 t2 p) (e : SEv) (u : Upd) (hs : e.stmt = .upd u) :
    Sim S p e (compileStmt c2 S.txErr e.cf e.stmt) := by
  have hg := updUnit_getD u t2.current.pl
  exact stepOk_plain hN e (by rw [hs]; rfl) (fun hcf => by rw [hs, hcf]; rfl)
    (X := { t2.current with pl := u.apply t2.current.pl })
    (fun hcf => by rw [hs, hcf, compileStmt_upd hN.inv1.cur]; rfl) (curTx_setTx ..) rfl rfl (Nat.le_refl _) hN.curKey
    (g := u.apply) rfl (congrArg Payload.aliases hg) (congrArg Payload.config hg)
    (fun hf => by rw [PSpec.step, ite_healthy hN.pin hf, hs])

theorem stepOk_query_inTx (hN : NTx S c2 t2 p) (e : SEv) (hs : e.stmt = .query) :
    Sim S p e (compileStmt c2 S.txErr e.cf e.stmt) :=
  stepOk_plain hN e (by rw [hs]; rfl) (fun hcf => by rw [hs, hcf]; rfl)
    (oa := none) (oc := none) (ou := none) (og := none)
    (fun hcf => by rw [hs, hcf]; rfl) hN.inv1.cur rfl rfl (Nat.le_refl _) hN.curKey
    (g := id) rfl rfl rfl
    (fun hf => by rw [PSpec.step, ite_healthy hN.pin hf, hs]; rfl)

theorem stepOk_start_inTx (hN : NTx S c2 t2 p) (e : SEv) (hs : e.stmt = .start) (hf : p.failed = false) :
    Sim S p e (compileStmt c2 S.txErr e.cf e.stmt) := by
  have : compileStmt c2 S.txErr e.cf .start = (c2, .error .alreadyInTx) := by
    simp [compileStmt, ← hN.pfail, hf, startTx_eq hN.inv1.cur, hN.expl]
  rw [hs, this]
  refine Sim.rejected hN.pin ?_
  rw [PSpec.step, ite_healthy hN.pin hf, hs]

theorem compileStmt_rollback (hcur : curTx c = some t) (er cf : Bool) :
    compileStmt c er cf .rollback =
      (initCurrentTx c t.state0.pl, .ok { txRollback := true, aliases := some t.state0.pl.aliases }) := by
  simp [compileStmt, rollbackTx_eq hcur]

theorem stepOk_rollback_inTx (hN : NTx S c2 t2 p) (e : SEv) (hs : e.stmt = .rollback)
    (hbf : p.failed = false → e.bf = false) : Sim S p e (compileStmt c2 S.txErr e.cf e.stmt) := by
  rw [hs, compileStmt_rollback hN.inv1.cur]
  refine Sim.compiled (if_pos hN.sin)
    (serverRun_rollback (S := { S with last := some _ }) hN.sin _ (hN.pfail ▸ hbf) _)
    (p' := PSpec.out p.base) ?_ (hN.base ▸ Rel.of_out _ rfl rfl rfl)
  rw [PSpec.step, if_neg (by simp [hN.pin]), hs]
  cases hf : p.failed with
  | true => rfl
  | false => simp [hbf hf, Outcome.cls]

/-- the unit carries the schemas only when they differ from the transaction's `_state0` -/
theorem compileStmt_commit (hcur : curTx c = some t)
    (himp : t.implicit = false) (cf : Bool) :
    ∃ ou og, compileStmt c false cf .commit =
        (initCurrentTx c t.current.pl,
         .ok { txCommit := true, aliases := some t.current.pl.aliases, uschema := ou, gschema := og }) ∧
      ou.getD t.state0.pl.uschema = t.current.pl.uschema ∧
      og.getD t.state0.pl.gschema = t.current.pl.gschema := by
  have key : ∀ a b : Nat, (if a == b then none else some a).getD b = a := fun a b => by
    by_cases h : a = b <;> simp [h]
  exact ⟨_, _, by simp [compileStmt, hcur, commitTx_eq hcur, himp], key _ _, key _ _⟩

theorem stepOk_commit_inTx (hN : NTx S c2 t2 p) (e : SEv) (hs : e.stmt = .commit)
    (hf : p.failed = false) (hcov : p.covers e = true) : Sim S p e (compileStmt c2 S.txErr e.cf e.stmt) := by
  have her : S.txErr = false := hN.pfail ▸ hf
  obtain ⟨ou, og, hc, hou, hog⟩ := compileStmt_commit hN.inv1.cur hN.expl e.cf
  rw [hs, her, hc]
  have hspec : p.step e = if e.bf then (if e.stay then (p.abort, .failed) else (PSpec.out p.base, .failed))
      else (PSpec.out p.cur, .ok) := by
    rw [PSpec.step, ite_healthy hN.pin hf, hs]
  cases hbf : e.bf with
  | true =>
    -- a failed COMMIT ends the transaction: `abort_tx()`
    have hstay : e.stay = false := by simpa [PSpec.covers, hs, hbf] using hcov
    rw [hbf, hstay] at hspec
    exact Sim.compiled (if_pos hN.sin)
      (serverRun_failed (S := { S with last := some _ }) hN.sin her rfl rfl hbf _)
      hspec (by rw [hstay]; exact hN.base ▸ Rel.of_out _ rfl rfl rfl)
  | false =>
    rw [hbf] at hspec
    refine Sim.compiled (if_pos hN.sin)
      (serverRun_commit (S := { S with last := some _ }) hN.sin her _ _ _ hbf _) hspec ?_
    have hcur : p.cur = ⟨ou.getD S.uschema, og.getD S.gschema, t2.current.pl.aliases, S.txConfig⟩ := by
      rw [← hN.state0.1, ← hN.state0.2, hou, hog, ← hN.viewC hf]; exact (hN.curPl hf).symm
    exact hcur ▸ Rel.of_out _ rfl rfl rfl

theorem InTx.live_eq (h : InTx S c t p)
    {x : TxState} (hx : x ∈ t.sps) {q : SrvSp} (hq : q ∈ S.sps) (hid : q.spid = x.id) :
    x.name = some q.name ∧ x.pl.aliases = q.aliases ∧ x.pl.config = q.config := by
  obtain ⟨h1, _⟩ := h.spsLog x hx
  obtain ⟨_, sp, h2, h3, _, h5, h6⟩ := h.stLog q hq
  rw [hid, h1] at h2
  cases h2
  exact ⟨h3, h5, h6⟩

theorem pairwise_lt_snoc {α : Type} (f : α → Nat) {l : List α} {a : α} (h : (l.map f).Pairwise (· < ·))
    (ha : ∀ x ∈ l, f x < f a) : ((l ++ [a]).map f).Pairwise (· < ·) := by
  rw [List.map_append, List.map_singleton, ListAux.pairwise_snoc]
  exact ⟨h, fun b hb => by obtain ⟨x, hx, rfl⟩ := List.mem_map.mp hb; exact ha x hx⟩

theorem stepOk_declare_inTx (hN : NTx S c2 t2 p) (e : SEv) (n : Nat) (hs : e.stmt = .declare n)
    (hf : p.failed = false) (hcov : p.covers e = true) : Sim S p e (compileStmt c2 S.txErr e.cf e.stmt) := by
  have her : S.txErr = false := hN.pfail ▸ hf
  have hbf : e.bf = false := by simpa [PSpec.covers, hs] using hcov
  let sp : TxState := { t2.current with id := c2.count + 1, name := some n }
  let q : SrvSp := ⟨n, c2.count + 1, S.txAliases, S.txConfig⟩
  let t3 : Txn := { t2 with sps := t2.sps ++ [sp] }
  let c3 : ConState := { setTx { c2 with count := c2.count + 1 } c2.cur t3 with log := dictSet c2.log sp }
  have hds : dictSet t2.sps sp = t2.sps ++ [sp] :=
    dictSet_fresh _ _ fun x hx => Nat.ne_of_lt (Nat.lt_succ_of_le (hN.inv1.bound x hx))
  have hc : compileStmt c2 false e.cf (.declare n) =
      (c3, .ok { spDeclare := true, spName := some n, spId := some (c2.count + 1) }) := by
    simp [compileStmt, declareSavepoint_eq hN.inv1.cur, hN.expl, hds, c3, t3, sp]
  rw [hs, her, hc]
  have hrun : ({ S with last := some c3 } : Server).run
      { spDeclare := true, spName := some n, spId := some (c2.count + 1) } e.bf e.stay =
      ({ S with last := some c3, sps := S.sps ++ [q] }, .ok) := by
    simp [Server.run, her, Server.execute, Server.start, Server.onSuccess, Server.viewAliases,
      Server.viewConfig, hN.sin, q, hbf]
  refine Sim.compiled (if_pos hN.sin) hrun (p' := { p with frames := (n, p.cur) :: p.frames })
    (by rw [PSpec.step, ite_healthy hN.pin hf, hs]; simp [hbf, Outcome.cls])
    (Rel.of_inTx (t := t3) rfl ?_)
  have hlog : ∀ i, i ≤ c2.count → dictGet c3.log i = dictGet c2.log i := fun i hi => by
    show dictGet (dictSet c2.log sp) i = _
    rw [dictGet_dictSet, if_neg (Nat.ne_of_gt (Nat.lt_succ_of_le hi))]
  have hlogsp : dictGet c3.log (c2.count + 1) = some sp := by
    show dictGet (dictSet c2.log sp) _ = _
    rw [dictGet_dictSet, if_pos rfl]
  have hsplt : ∀ x ∈ t2.sps, x.id < c2.count + 1 := fun x hx => Nat.lt_succ_of_le (hN.inv1.bound x hx)
  have hqlt : ∀ y ∈ S.sps, y.spid < c2.count + 1 := fun y hy => Nat.lt_succ_of_le (hN.stLog y hy).1
  exact
    { hN.toInTx with
      inv1 := hN.inv1.append (by simp [c3, curTx, getTx, setTx]) rfl rfl rfl ⟨n, rfl⟩
      sorted := pairwise_lt_snoc _ hN.sorted hsplt
      spsLog := ListAux.forall_mem_snoc (fun x hx =>
          ⟨(hlog _ (hN.inv1.bound x hx)).trans (hN.spsLog x hx).1, (hN.spsLog x hx).2⟩)
        ⟨hlogsp, hN.curKey⟩
      curBound := Nat.le_succ_of_le hN.curBound
      stSorted := pairwise_lt_snoc _ hN.stSorted hqlt
      stLog := ListAux.forall_mem_snoc (fun y hy =>
          have ⟨h1, sp', h2, h3⟩ := hN.stLog y hy
          ⟨Nat.le_succ_of_le h1, sp', (hlog _ h1).trans h2, h3⟩)
        ⟨Nat.le_refl _, sp, hlogsp, rfl, hN.curKey, hN.viewA hf, hN.viewC hf⟩
      live := ListAux.forall_mem_snoc (fun x hx =>
          have ⟨y, hy, hyx⟩ := hN.live x hx
          ⟨y, List.mem_append_left _ hy, hyx⟩)
        ⟨q, List.mem_append_right _ (List.mem_singleton_self q), rfl⟩
      shadow := fun q1 hq1 q2 hq2 hlt hnm ⟨x, hx, hxid⟩ => by
        rcases List.mem_append.1 hq2 with hq2 | hq2
        · -- `q1 < q2` are both old entries, and so is the live savepoint of `q1`
          have h2 := hqlt q2 hq2
          rcases List.mem_append.1 hq1 with hq1 | hq1
          · rcases List.mem_append.1 hx with hx | hx
            · obtain ⟨x2, hx2, hx2id⟩ := hN.shadow q1 hq1 q2 hq2 hlt hnm ⟨x, hx, hxid⟩
              exact ⟨x2, List.mem_append_left _ hx2, hx2id⟩
            · rw [List.mem_singleton.1 hx] at hxid
              exact absurd (hqlt q1 hq1) (hxid ▸ Nat.lt_irrefl _)
          · rw [List.mem_singleton.1 hq1] at hlt
            exact absurd hlt (Nat.lt_asymm h2)
        · exact ⟨sp, List.mem_append_right _ (List.mem_singleton_self sp),
            by rw [List.mem_singleton.1 hq2]⟩
      frames := by
        show (t2.sps ++ [sp]).reverse.map frameOf = (n, p.cur) :: p.frames
        rw [List.reverse_append, ← hN.frames, ← hN.curPl hf]
        rfl
      sync := .inl ⟨hN.idEq, fun _ => hN.view hf⟩ }

theorem sorted_split {α : Type} (f : α → Nat) {A B : List α} {x : α}
    (h : ((A ++ x :: B).map f).Pairwise (· < ·)) :
    (∀ a ∈ A ++ [x], f a ≤ f x) ∧ ∀ y ∈ A ++ x :: B, y ∈ A ++ [x] ∨ y ∈ B ∧ f x < f y := by
  rw [List.map_append, List.map_cons, List.pairwise_append, List.pairwise_cons] at h
  refine ⟨ListAux.forall_mem_snoc (fun a ha =>
    Nat.le_of_lt (h.2.2 _ (List.mem_map_of_mem ha) _ List.mem_cons_self)) (Nat.le_refl _), fun y hy => ?_⟩
  rcases List.mem_append.1 hy with hy | hy
  · exact .inl (List.mem_append_left _ hy)
  · rcases List.mem_cons.1 hy with rfl | hy
    · exact .inl (List.mem_append_right _ (List.mem_singleton_self _))
    · exact .inr ⟨hy, h.2.1.1 _ (List.mem_map_of_mem hy)⟩

theorem stepOk_release_inTx (hN : NTx S c2 t2 p) (e : SEv) (n : Nat) (hs : e.stmt = .release n)
    (hf : p.failed = false) (hcov : p.covers e = true) : Sim S p e (compileStmt c2 S.txErr e.cf e.stmt) := by
  have her : S.txErr = false := hN.pfail ▸ hf
  rw [hs, her]
  have hspec : p.step e = match findFrame n p.frames with
      | some (_ :: rest) => if e.bf then (p.abort, .failed) else ({ p with frames := rest }, .ok)
      | _ => (p.abort, .rejected) := by
    rw [PSpec.step, ite_healthy hN.pin hf, hs]
    rfl
  rcases popAll_scanRelease n t2.sps hN.inv1.nodup with
    ⟨hsc, hno⟩ | ⟨A, f, B, ids, hsc, hsps, hfn, hBn, hpop⟩
  · have : compileStmt c2 false e.cf (.release n) = (c2, .error .noSavepoint) := by
      simp [compileStmt, releaseSavepoint_eq hN.inv1.cur, hN.expl, hsc]
    rw [this]
    refine Sim.rejected hN.pin ?_
    rw [hspec, show findFrame n p.frames = none from hN.frames ▸ hN.inv1.frames_none hno]
  · obtain ⟨hcov1, hcov2⟩ := Bool.and_eq_true_iff.1 hcov
    have hbf : e.bf = false := by simpa [hs] using hcov1
    obtain ⟨hff, hrs⟩ := hN.inv1.frames_split hsps hfn hBn
    rw [hN.frames] at hff hrs
    rw [hff, hbf] at hspec
    have hc : compileStmt c2 false e.cf (.release n) =
        (setTx c2 c2.cur { t2 with sps := A }, .ok {}) := by
      simp [compileStmt, releaseSavepoint_eq hN.inv1.cur, hN.expl, hsc, hpop]
    rw [hc]
    -- the envelope: no name that goes away is carried by a savepoint that stays
    have hsafe : ∀ x ∈ f :: B, ∀ y ∈ A, (frameOf y).1 ≠ (frameOf x).1 := by
      simp only [hs, hN.pin, hf, hbf, hrs] at hcov2
      have hall : ∀ g ∈ (B.reverse.map frameOf).map (·.1) ++ [n], ∀ r ∈ A.reverse.map frameOf, r.1 ≠ g :=
        fun g hg r hr => by simpa using List.all_eq_true.1 (List.all_eq_true.1 hcov2 g hg) r hr
      intro x hx y hy
      refine hall _ ?_ _ (List.mem_map_of_mem (List.mem_reverse.2 hy))
      rcases List.mem_cons.1 hx with rfl | hx
      · exact List.mem_append_right _ (by simp [frameOf, hfn])
      · exact List.mem_append_left _ (List.mem_map_of_mem (List.mem_map_of_mem (List.mem_reverse.2 hx)))
    have hsub : A.Sublist t2.sps := hsps ▸ List.sublist_append_left A _
    refine Sim.compiled (if_pos hN.sin)
      (serverRun_plain_inTx (S := { S with last := some _ }) hN.sin her none none none none hbf _) hspec
      (Rel.of_inTx (t := { t2 with sps := A }) rfl ?_)
    refine hN.toInTx.mono (curTx_setTx ..) (Nat.le_refl _) rfl (fun _ _ hx _ => hx) hsub rfl rfl
      hN.curKey (.refl _) ⟨rfl, rfl, rfl, rfl, rfl⟩ ⟨rfl, rfl⟩ rfl hN.pfail
      (fun x hx => hN.live x (hsub.subset hx)) ?shadow (.inl ⟨hN.idEq, fun _ => hN.view hf⟩)
    -- the savepoint `x2` that `shadow` makes live for `q2` is kept, or it is in `f :: B` under the
    -- name of the kept `x1`, which the envelope excludes
    intro q1 hq1 q2 hq2 hlt hnm ⟨x1, hx1, hx1id⟩
    obtain ⟨x2, hx2, hx2id⟩ := hN.shadow q1 hq1 q2 hq2 hlt hnm ⟨x1, hsub.subset hx1, hx1id⟩
    have hx2m := hx2
    rw [hsps] at hx2
    rcases List.mem_append.1 hx2 with hx2 | hx2
    · exact ⟨x2, hx2, hx2id⟩
    · have hn1 := (hN.toInTx.live_eq (hsub.subset hx1) hq1 hx1id.symm).1
      have hn2 := (hN.toInTx.live_eq hx2m hq2 hx2id.symm).1
      exact absurd (by simp [frameOf, hn1, hn2, hnm]) (hsafe x2 hx2 x1 hx1)

theorem popTo_split (n : Nat) (L : List SrvSp) :
    (popTo n L = none ∧ ∀ y ∈ L, y.name ≠ n) ∨
    ∃ pre q post, popTo n L = some (q :: post) ∧ L = pre ++ q :: post ∧ q.name = n ∧
      ∀ y ∈ pre, y.name ≠ n := by
  induction L with
  | nil => exact .inl ⟨rfl, fun _ h => nomatch h⟩
  | cons y L ih =>
    by_cases hy : y.name = n
    · exact .inr ⟨[], y, L, by rw [popTo, if_pos (by simpa using hy)], rfl, hy, fun _ h => nomatch h⟩
    · have hy' : ¬ (y.name == n) = true := by simpa using hy
      rcases ih with ⟨h, hno⟩ | ⟨pre, q, post, h, rfl, hq, hpre⟩
      · exact .inl ⟨by rw [popTo, if_neg hy', h], List.forall_mem_cons.2 ⟨hy, hno⟩⟩
      · exact .inr ⟨y :: pre, q, post, by rw [popTo, if_neg hy', h], rfl, hq,
          List.forall_mem_cons.2 ⟨hy, hpre⟩⟩

/-- The server's topmost entry called `n` is the compiler's last savepoint called `n`: that
    savepoint is live, and a later entry of the same name would, by `shadow`, be live too. -/
theorem InTx.topmost (h : InTx S c t p) {n : Nat} {A B : List TxState} {f : TxState}
    (hsps : t.sps = A ++ f :: B) (hfn : f.name = some n) (hBn : ∀ x ∈ B, x.name ≠ some n) :
    ∃ (pre : List SrvSp) (q : SrvSp) (post : List SrvSp), popTo n S.sps.reverse = some (q :: post) ∧
      S.sps = post.reverse ++ q :: pre.reverse ∧
      q.spid = f.id := by
  have hfmem : f ∈ t.sps := by rw [hsps]; simp
  obtain ⟨hle3, hcases⟩ := sorted_split TxState.id (hsps ▸ h.sorted)
  obtain ⟨qf, hqf, hqfid⟩ := h.live f hfmem
  have hqfn : qf.name = n := by
    have := (h.live_eq hfmem hqf hqfid).1
    rw [hfn] at this; exact (Option.some.inj this).symm
  rcases popTo_split n S.sps.reverse with ⟨_, hno⟩ | ⟨pre, q, post, hpo, hL, hqn, hpre⟩
  · exact absurd hqfn (hno qf (List.mem_reverse.2 hqf))
  have hS := List.reverse_eq_iff.1 hL
  rw [List.reverse_append, List.reverse_cons, List.append_assoc, List.singleton_append] at hS
  have hqmem : q ∈ S.sps := by rw [hS]; simp
  obtain ⟨hleS, hcasesS⟩ := sorted_split SrvSp.spid (hS ▸ h.stSorted)
  refine ⟨pre, q, post, hpo, hS, ?_⟩
  rcases hcasesS qf (hS ▸ hqf) with hqf' | ⟨hqf', _⟩
  · rcases Nat.eq_or_lt_of_le (hleS qf hqf') with heq | hlt
    · rw [← heq, hqfid]
    · obtain ⟨x, hx, hxid⟩ := h.shadow qf hqf q hqmem hlt (by rw [hqfn, hqn]) ⟨f, hfmem, hqfid.symm⟩
      rcases hcases x (hsps ▸ hx) with hx' | ⟨hx', _⟩
      · exact absurd (by rw [← hqfid, hxid]; exact hlt) (Nat.not_lt.2 (hle3 x hx'))
      · exact absurd (by rw [(h.live_eq hx hqmem hxid.symm).1, hqn]) (hBn x hx')
  · exact absurd hqfn (hpre qf (List.mem_reverse.1 hqf'))

theorem stepOk_rollbackTo_inTx (hN : NTx S c2 t2 p) (e : SEv) (n : Nat) (hs : e.stmt = .rollbackTo n) :
    Sim S p e (compileStmt c2 S.txErr e.cf e.stmt) := by
  have hspec : p.step e = match findFrame n p.frames with
      | some (f :: rest) => ({ p with cur := f.2, frames := f :: rest, failed := false }, .ok)
      | _ => (p.abort, .rejected) := by
    rw [PSpec.step, if_neg (by simp [hN.pin]), hs]
    cases hf : p.failed
    · rfl
    · simp only [↓reduceIte]; rw [PSpec.abort_self hf]; rfl
  rw [hs]
  rcases popAll_scanRollback n t2.sps hN.inv1.nodup with
    ⟨hsc, hno⟩ | ⟨A, f, B, ids, hsc, hsps, hfn, hBn, hpop, _⟩
  · have : compileStmt c2 S.txErr e.cf (.rollbackTo n) = (c2, .error .noSavepoint) := by
      simp [compileStmt, rollbackToSavepoint_eq hN.inv1.cur, hN.expl, hsc]
    rw [this]
    refine Sim.rejected hN.pin ?_
    rw [hspec, show findFrame n p.frames = none from hN.frames ▸ hN.inv1.frames_none hno]
  · have hfmem : f ∈ t2.sps := by rw [hsps]; simp
    have hff := (hN.inv1.frames_split hsps hfn hBn).1
    rw [hN.frames] at hff
    rw [hff] at hspec
    obtain ⟨hle3, hcases⟩ := sorted_split TxState.id (hsps ▸ hN.sorted)
    have hsub : (A ++ [f]).Sublist t2.sps :=
      hsps ▸ (List.Sublist.refl A).append (List.Sublist.cons_cons f (List.nil_sublist B))
    have hflog := hN.spsLog f hfmem
    have hc : compileStmt c2 S.txErr e.cf (.rollbackTo n) =
        (setTx c2 c2.cur { t2 with current := f, sps := A ++ [f] },
         .ok { spRollback := true, spName := some n, aliases := some f.pl.aliases }) := by
      simp [compileStmt, rollbackToSavepoint_eq hN.inv1.cur, hN.expl, hsc, hpop]
    rw [hc]
    obtain ⟨pre, q, post, hpo, hS, hqid⟩ := hN.toInTx.topmost hsps hfn hBn
    have hqmem : q ∈ S.sps := by rw [hS]; simp
    obtain ⟨hleS, hcasesS⟩ := sorted_split SrvSp.spid (hS ▸ hN.stSorted)
    have hqa := (hN.toInTx.live_eq hfmem hqmem hqid).2
    have hsubS : (post.reverse ++ [q]).Sublist S.sps :=
      hS ▸ (List.Sublist.refl _).append (List.Sublist.cons_cons q (List.nil_sublist _))
    have hrun : ({ S with last := some (setTx c2 c2.cur { t2 with current := f, sps := A ++ [f] }) } :
          Server).run { spRollback := true, spName := some n, aliases := some f.pl.aliases } e.bf e.stay =
        ({ S with last := some (setTx c2 c2.cur { t2 with current := f, sps := A ++ [f] }),
                  txErr := false, sps := post.reverse ++ [q], txid := q.spid,
                  txAliases := q.aliases, txConfig := q.config }, .ok) := by
      simp [Server.run, Server.rollbackToSp, hpo]
    refine Sim.compiled (if_pos hN.sin) hrun hspec (Rel.of_inTx (t := { t2 with current := f, sps := A ++ [f] }) rfl ?_)
    refine hN.toInTx.mono (curTx_setTx ..) (Nat.le_refl _) rfl (fun _ _ hx _ => hx) hsub rfl rfl
      hflog.2 hsubS ⟨rfl, rfl, rfl, rfl, rfl⟩ ⟨rfl, rfl⟩ (by simp) rfl ?live ?shadow ?sync
    case live =>
      -- the stack entry of a kept savepoint has id ≤ `f.id = q.spid`: it is in the kept stack
      intro x hx
      obtain ⟨y, hy, hyx⟩ := hN.live x (hsub.subset hx)
      rcases hcasesS y (hS ▸ hy) with hy' | ⟨_, hlt⟩
      · exact ⟨y, hy', hyx⟩
      · exact absurd (by rw [← hqid, ← hyx]; exact hlt) (Nat.not_lt.2 (hle3 x hx))
    case shadow =>
      -- the savepoint that `shadow` makes live for `q2` has id `q2.spid ≤ q.spid = f.id`: it is kept
      intro q1 hq1 q2 hq2 hlt hnm ⟨x1, hx1, hx1id⟩
      obtain ⟨x2, hx2, hx2id⟩ := hN.shadow q1 (hsubS.subset hq1) q2 (hsubS.subset hq2) hlt hnm
        ⟨x1, hsub.subset hx1, hx1id⟩
      rcases hcases x2 (hsps ▸ hx2) with hx2' | ⟨_, hgt⟩
      · exact ⟨x2, hx2', hx2id⟩
      · exact absurd hgt (Nat.not_lt.2 (by rw [hx2id, ← hqid]; exact hleS q2 hq2))
    case sync =>
      -- the server now expects the compiler to be at savepoint `q.spid = f.id`
      by_cases hid : t2.id = q.spid
      · exact .inl ⟨hid, fun _ => by
          show withView f.pl q.aliases q.config = f.pl
          rw [← hqa.1, ← hqa.2, withView_self]⟩
      · exact .inr ⟨hid, f, hqid ▸ hflog.1, hflog.2, fun x hx => hqid ▸ hle3 x hx, hleS, hqa.1, hqa.2,
          fun _ => rfl⟩

theorem step_out_unfold (S : Server) (hin : S.inTx = false) (e : SEv) :
    S.step e =
      afterCompile S e (some S.base) (compileStmt (ConState.init e.t0 S.base) false e.cf e.stmt) := by
  simp only [step_eq_afterCompile, Server.compileOn, hin, Bool.false_eq_true, ↓reduceIte, compileFresh]

theorem inTx_start (S : Server) (he : S.txErr = false) (hsps : S.sps = []) (t0 : Nat) :
    ∃ c3 t3, compileStmt (ConState.init t0 S.base) false false .start =
        (c3, .ok { txId := some (t0 + 1) }) ∧
      InTx { S with last := some c3, txid := t0 + 1, inTx := true, txAliases := S.aliases, txConfig := S.config }
        c3 t3 { base := S.base, inTx := true, failed := false, cur := S.base, frames := [] } := by
  have hcur : curTx (ConState.init t0 S.base) = _ := curTx_initCurrentTx _ _
  refine ⟨?c3, ⟨t0 + 1, false, ⟨t0 + 1, none, S.base, t0 + 1⟩, ⟨t0 + 1, none, S.base, t0 + 1⟩, []⟩, ?hc, ?hI⟩
  case hc =>
    simp only [compileStmt, startTx_eq hcur, curTx_setTx, Bool.false_eq_true, ↓reduceIte]
    rfl
  case hI =>
  exact
    { inv1 := ⟨curTx_setTx .., List.nodup_nil, List.forall_mem_nil _, List.forall_mem_nil _⟩
      expl := rfl
      sorted := List.Pairwise.nil
      spsLog := List.forall_mem_nil _
      curKey := rfl
      curBound := Nat.le_refl _
      stSorted := by rw [hsps]; exact List.Pairwise.nil
      stLog := by rw [hsps]; exact List.forall_mem_nil _
      live := List.forall_mem_nil _
      shadow := by rw [hsps]; exact List.forall_mem_nil _
      state0 := ⟨rfl, rfl⟩
      frames := rfl
      base := rfl
      pin := rfl
      sin := rfl
      pfail := he.symm
      sync := .inl ⟨rfl, fun _ => rfl⟩ }

/-- Outside a block the statement is compiled on a fresh state built from the server's view.
    Savepoint commands and COMMIT are refused by the compiler and the spec (`rejected`); payload
    statements and queries change the view or nothing (`plain`); START is the one statement whose
    state the server keeps (`inTx_start`); ROLLBACK is a no-op. -/
theorem stepOk_out (hR : Rel S p) (hin : S.inTx = false) (e : SEv) (hcov : p.covers e = true) :
    Sim S p e (compileStmt (ConState.init e.t0 S.base) false e.cf e.stmt) := by
  obtain ⟨her, hsps, rfl⟩ := hR.out hin
  have hcur : curTx (ConState.init e.t0 S.base) = _ := curTx_initCurrentTx _ _
  -- the fresh state as a variable, so that no `simp` or `rw` below opens it (START alone needs it back)
  obtain ⟨c0, hc0⟩ : ∃ c0, c0 = ConState.init e.t0 S.base := ⟨_, rfl⟩
  rw [← hc0] at hcur ⊢
  have hpin : (!(PSpec.out S.base).inTx) = true := rfl
  have hkeep : ∀ {x y : Option ConState}, (if S.inTx then x else y) = y := by rw [hin]; exact rfl
  have hbf : e.stmt = .start ∨ e.stmt = .rollback → e.bf = false := fun hs => by
    cases hb : e.bf
    · rfl
    · rcases hs with hs | hs <;> simp [PSpec.covers, hb, hs] at hcov
  have rejected : ∀ c3 err, compileStmt c0 false e.cf e.stmt = (c3, .error err) →
      (PSpec.out S.base).step e = (PSpec.out S.base, .rejected) →
      Sim S _ e (compileStmt c0 false e.cf e.stmt) :=
    fun c3 err hc hsp => by rw [hc]; exact hsp
  have plain : ∀ c3 oa oc ou og (g : Payload → Payload),
      (e.cf = false → compileStmt c0 false e.cf e.stmt =
        (c3, .ok { aliases := oa, config := oc, uschema := ou, gschema := og })) →
      g S.base = ⟨ou.getD S.uschema, og.getD S.gschema, oa.getD S.aliases, oc.getD S.config⟩ →
      (e.cf = true → compileStmt c0 false e.cf e.stmt = (c0, .error .compileError)) →
      (PSpec.out S.base).step e =
        (if e.cf then (PSpec.out S.base, .rejected)
         else if e.bf then (_, .failed)
         else (PSpec.out (g S.base), .ok)) →
      Sim S _ e (compileStmt c0 false e.cf e.stmt) :=
    fun c3 oa oc ou og g hc hg hcf hsp => by
      rcases Bool.eq_false_or_eq_true e.cf with hcfv | hcfv
      · exact rejected _ _ (hcf hcfv) (by rw [hsp, hcfv]; rfl)
      · rw [hc hcfv]
        have hsp := hsp.trans (if_neg (by simp [hcfv]))
        have hrun := serverRun_plain_out (S := { S with last := none }) hin her oa oc ou og e.bf e.stay
        cases hbfv : e.bf
        · have hnb : ¬ e.bf = true := by simp [hbfv]
          refine Sim.compiled hkeep (hrun.trans (if_neg hnb)) (hsp.trans (if_neg hnb)) ?_
          rw [hg]
          exact Rel.of_out _ hin her hsps
        · exact Sim.compiled hkeep (hrun.trans (if_pos hbfv)) (hsp.trans (if_pos hbfv))
            (Rel.of_out _ hin her hsps)
  cases hs : e.stmt with
  | start =>
    cases hcf : e.cf
    · have hbf := hbf (.inl hs)
      obtain ⟨c3, t3, hc, hI⟩ := inTx_start S her hsps e.t0
      rw [hc0, hc]
      exact Sim.compiled hkeep (o := .ok)
        (S3 := { S with last := some c3, txid := e.t0 + 1, inTx := true, txAliases := S.aliases, txConfig := S.config })
        (by simp [Server.run, her, Server.execute, Server.start, hbf, Server.onSuccess])
        (by rw [PSpec.step, if_pos hpin, hs, hcf, hbf]; rfl) (Rel.of_inTx rfl hI)
    · rw [← hcf, ← hs]
      exact rejected (setTx c0 c0.cur _) .compileError (by simp [hs, compileStmt, startTx_eq hcur, hcf]; rfl)
        (by rw [PSpec.step, if_pos hpin, hs, hcf]; rfl)
  | commit =>
    exact hs ▸ rejected c0 .notInTx (by simp [hs, compileStmt, hcur, commitTx_eq hcur])
      (by rw [PSpec.step, if_pos hpin, hs])
  | declare n =>
    exact hs ▸ rejected c0 .spOutsideBlock (by simp [hs, compileStmt, declareSavepoint_eq hcur])
      (by rw [PSpec.step, if_pos hpin, hs])
  | release n =>
    exact hs ▸ rejected c0 .spOutsideBlock (by simp [hs, compileStmt, releaseSavepoint_eq hcur])
      (by rw [PSpec.step, if_pos hpin, hs])
  | rollbackTo n =>
    exact hs ▸ rejected c0 .spOutsideBlock (by simp [hs, compileStmt, rollbackToSavepoint_eq hcur])
      (by rw [PSpec.step, if_pos hpin, hs])
  | rollback =>
    have hbf := hbf (.inr hs)
    rw [compileStmt_rollback hcur]
    exact Sim.compiled hkeep (S3 := ({ S with last := none } : Server).resetTx) (o := .ok)
      (by simp [Server.run, her, Server.execute, Server.start, hbf, Server.onSuccess, hin, Server.setAliases])
      (by rw [PSpec.step, if_pos hpin, hs, hbf]; rfl) (Rel.of_out _ rfl rfl rfl)
  | query =>
    exact hs ▸ plain c0 none none none none id (fun hcf => by rw [hs, hcf]; rfl) rfl
      (fun hcf => by rw [hs, hcf]; rfl) (by rw [PSpec.step, if_pos hpin, hs]; rfl)
  | upd u =>
    exact hs ▸ plain _ _ _ _ _ u.apply (fun hcf => by rw [hs, hcf, compileStmt_upd hcur]; rfl)
      (updUnit_getD u S.base).symm (fun hcf => by rw [hs, hcf]; rfl)
      (by rw [PSpec.step, if_pos hpin, hs]; rfl)

theorem stepOk_inTx (hN : NTx S c2 t2 p) (e : SEv) (hcov : p.covers e = true) :
    Sim S p e (compileStmt c2 S.txErr e.cf e.stmt) := by
  have haborted := fun hf hs => stepOk_expectRollback hN e (hf : p.failed = true) hs
  cases hs : e.stmt with
  | rollback => exact hs ▸ stepOk_rollback_inTx hN e hs fun _ => by simpa [PSpec.covers, hs] using hcov
  | rollbackTo n => exact hs ▸ stepOk_rollbackTo_inTx hN e n hs
  | upd u => exact hs ▸ stepOk_upd_inTx hN e u hs
  | query => exact hs ▸ stepOk_query_inTx hN e hs
  | start =>
    cases hf : p.failed with
    | true => exact hs ▸ haborted hf (by rw [hs]; trivial)
    | false => exact hs ▸ stepOk_start_inTx hN e hs hf
  | commit =>
    cases hf : p.failed with
    | true => exact hs ▸ haborted hf (by rw [hs]; trivial)
    | false => exact hs ▸ stepOk_commit_inTx hN e hs hf hcov
  | declare n =>
    cases hf : p.failed with
    | true => exact hs ▸ haborted hf (by rw [hs]; trivial)
    | false => exact hs ▸ stepOk_declare_inTx hN e n hs hf hcov
  | release n =>
    cases hf : p.failed with
    | true => exact hs ▸ haborted hf (by rw [hs]; trivial)
    | false => exact hs ▸ stepOk_release_inTx hN e n hs hf hcov

theorem stepOk_all (hR : Rel S p) (e : SEv) (hcov : p.covers e = true) :
    StepOk S p e := by
  cases hin : S.inTx with
  | true =>
    obtain ⟨c, t, hl, h⟩ := hR.inTx hin
    obtain ⟨c2, t2, hN, hstep⟩ := step_inTx_unfold hl h e
    exact stepOk_of_sim hR hstep hN.exposed (stepOk_inTx hN e hcov)
  | false =>
    refine stepOk_of_sim hR (step_out_unfold S hin e) (fun _ => ?_) (stepOk_out hR hin e hcov)
    rw [(hR.out hin).2.2]
    rfl

theorem Rel.init (pl : Payload) : Rel (Server.init pl) (PSpec.init pl) :=
  Rel.of_out (Server.init pl) rfl rfl rfl

theorem runAll_refines (hR : Rel S p) (h : List SEv)
    (hcov : p.coversAll h = true) :
    Rel (Server.runAll S h).1 (p.run h).1 ∧
    agreesAll (Server.runAll S h).2 (p.run h).2 := by
  induction h generalizing S p with
  | nil => exact ⟨hR, trivial⟩
  | cons e es ih =>
    simp only [PSpec.coversAll, Bool.and_eq_true] at hcov
    obtain ⟨h1, h2⟩ := stepOk_all hR e hcov.1
    obtain ⟨h3, h4⟩ := ih h1 hcov.2
    exact ⟨h3, h2, h4⟩

end EdbVerif.Tx
