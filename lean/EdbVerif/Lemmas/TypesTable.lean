/-
C12 — the GENERATED implicit-cast graph on scalars: the table obligation, re-proved by kernel
evaluation whenever `Gen/Types.lean` changes, and its quantified consequences.
-/
import EdbVerif.Model.TypesSpec

namespace EdbVerif.Types
open EdbVerif.Gen.Types

theorem Scalar.mem_all (s : Scalar) : s ∈ Scalar.all := by
  have : Scalar.all[s.ctorIdx]? = some s := by cases s <;> decide +kernel
  exact List.mem_of_getElem? this

theorem Fn.mem_all (f : Fn) : f ∈ Fn.all := by
  have : Fn.all[f.ctorIdx]? = some f := by cases f <;> decide +kernel
  exact List.mem_of_getElem? this

theorem all_imp_and {α} (l : List α) (p : Bool) (q r : α → Bool) :
    (l.all fun c => !(p && q c) || r c) = (!p || l.all fun c => !q c || r c) := by
  cases p <;> simp

theorem all_and_imp {α} (l : List α) (p q r : α → Bool) :
    (l.all fun u => !(p u && q u) || r u) = (l.filter p).all fun u => !q u || r u := by
  simp [List.all_filter, Bool.or_assoc]

theorem all_and_not {α} (l : List α) (p q : α → Bool) :
    (l.all fun u => !(p u && q u)) = (l.filter p).all fun u => !q u := by
  simp [List.all_filter]

/-- generated obligation: the cast graph is a partial order in which `find_common_castable_type`
    returns the least upper bound whatever the iteration order, and casts preserve the value kind -/
theorem scalarTable : scalarTableOK = true := by
  -- transitivity is looked at only below castable pairs, upper bounds of `a`, `b` only among those of `a`
  simp only [scalarTableOK, commonOK, lubB, all_imp_and, all_and_imp, all_and_not]
  decide +kernel

theorem castableS_refl (a : Scalar) : castableS a a = true := by
  have h := scalarTable
  simp only [scalarTableOK, List.all_eq_true, Bool.and_eq_true] at h
  exact (h a (Scalar.mem_all a)).1

theorem scalar_pair (a b : Scalar) :
    (castableS a b = true → castableS b a = true → a = b) ∧ commonOK a b = true ∧
    kindOK a b = true ∧
    ∀ c, castableS a b = true → castableS b c = true → castableS a c = true := by
  have h := scalarTable
  simp only [scalarTableOK, List.all_eq_true, Bool.and_eq_true] at h
  obtain ⟨⟨⟨h1, h2⟩, h3⟩, h4⟩ := (h a (Scalar.mem_all a)).2 b (Scalar.mem_all b)
  refine ⟨?_, h2, h3, ?_⟩
  · intro hab hba
    simp [hab, hba] at h1
    exact h1
  · intro c hab hbc
    have := h4 c (Scalar.mem_all c)
    simp [hab, hbc] at this
    exact this

theorem castableS_trans {a b c : Scalar} (h1 : castableS a b = true) (h2 : castableS b c = true) :
    castableS a c = true := (scalar_pair a b).2.2.2 c h1 h2

theorem castableS_antisymm {a b : Scalar} (h1 : castableS a b = true) (h2 : castableS b a = true) :
    a = b := (scalar_pair a b).1 h1 h2

theorem lubB_iff (a b c : Scalar) :
    lubB a b c = true ↔
      castableS a c = true ∧ castableS b c = true ∧
      ∀ u, castableS a u = true → castableS b u = true → castableS c u = true := by
  simp only [lubB, Bool.and_eq_true, List.all_eq_true, Scalar.mem_all, true_imp_iff, and_assoc]
  refine and_congr_right fun _ => and_congr_right fun _ => forall_congr' fun u => ?_
  cases castableS a u <;> cases castableS b u <;> simp

/-- what the real `find_common_castable_type` can return, on the generated table: nothing when
    the two scalars have no common upper bound, otherwise exactly their least upper bound —
    for every iteration order of the `set`s involved -/
theorem commonS_spec (a b : Scalar) :
    (commonS a b = [] ∧ ∀ u, ¬ (castableS a u = true ∧ castableS b u = true)) ∨
    (∃ c, commonS a b = [c] ∧ castableS a c = true ∧ castableS b c = true ∧
      ∀ u, castableS a u = true → castableS b u = true → castableS c u = true) := by
  have h := (scalar_pair a b).2.1
  unfold commonOK at h
  split at h
  · rename_i heq
    left
    refine ⟨heq, fun u hu => ?_⟩
    simp only [List.all_eq_true, Bool.not_eq_true'] at h
    have := h u (Scalar.mem_all u)
    simp [hu.1, hu.2] at this
  · rename_i c heq
    exact Or.inr ⟨c, heq, (lubB_iff a b c).1 h⟩
  · exact absurd h (by simp)

theorem commonScalar_lub {a b c : Scalar} (h : commonScalar a b = some c) :
    castableS a c = true ∧ castableS b c = true ∧
    ∀ u, castableS a u = true → castableS b u = true → castableS c u = true := by
  rcases commonS_spec a b with ⟨h', _⟩ | ⟨c', h', hl⟩
  · simp [commonScalar, h'] at h
  · cases (show c' = c by simpa [commonScalar, h'] using h)
    exact hl

theorem commonScalar_none {a b : Scalar} (h : commonScalar a b = none) (u : Scalar) :
    ¬ (castableS a u = true ∧ castableS b u = true) := by
  rcases commonS_spec a b with ⟨_, hn⟩ | ⟨c, h', _⟩
  · exact hn u
  · simp [commonScalar, h'] at h

theorem commonScalar_self (x : Scalar) : commonScalar x x = some x := by
  simp [commonScalar, commonS, castableS_refl]

theorem commonScalar_comm (a b : Scalar) : commonScalar a b = commonScalar b a := by
  -- a result for `a`, `b` is the result for `b`, `a`: least upper bounds are unique
  have key : ∀ {a b c}, commonScalar a b = some c → commonScalar b a = some c := by
    intro a b c h
    have hl := commonScalar_lub h
    cases h' : commonScalar b a with
    | none => exact absurd ⟨hl.2.1, hl.1⟩ (commonScalar_none h' c)
    | some c' =>
      have hl' := commonScalar_lub h'
      rw [castableS_antisymm (hl'.2.2 c hl.2.1 hl.1) (hl.2.2 c' hl'.2.1 hl'.1)]
  cases h : commonScalar a b with
  | some c => rw [key h]
  | none =>
    cases h' : commonScalar b a with
    | none => rfl
    | some c => rw [key h'] at h; cases h

structure SameKind (a b : Scalar) : Prop where
  isNumeric : isNumeric a = isNumeric b
  isOpaque : isOpaque a = isOpaque b
  isStr : (a == .str) = (b == .str)
  isBool : (a == .bool) = (b == .bool)

theorem kind_of_castable {a b : Scalar} (h : castableS a b = true) : SameKind a b := by
  have hk := (scalar_pair a b).2.2.1
  simp only [kindOK, h, Bool.not_true, Bool.false_or, Bool.and_eq_true, beq_iff_eq] at hk
  exact ⟨hk.1.1.1, hk.1.1.2, hk.1.2, hk.2⟩

theorem isNumeric_int64 : isNumeric .int64 = true := by decide
theorem isNumeric_float64 : isNumeric .float64 = true := by decide
theorem isNumeric_bigint : isNumeric .bigint = true := by decide
theorem isNumeric_decimal : isNumeric .decimal = true := by decide
theorem isNumeric_str : isNumeric .str = false := by decide
theorem isNumeric_bool : isNumeric .bool = false := by decide

end EdbVerif.Types
