/-
A decidable checker for `Conforms` (used to show that the witness databases of
the counterexamples and of the non-vacuity examples satisfy the schema).
-/
import EdbVerif.Model.MiniQLSpec

namespace EdbVerif.MiniQL
open EdbVerif.Card

/-- the source ids for which pointer `p` has stored data -/
def getKeys (db : DB) (p : Nat) : List Nat :=
  (db.ptrs.filter (fun e => e.1.1 == p)).map (·.1.2)

def checkObj (sch : Schema) (db : DB) (p : Nat) (d : PtrDecl) (o : Nat × Nat) : Bool :=
  !(sch.lineage d.srcTy).contains o.2 ||
    (decide (γ d.card (db.get p o.1).length) &&
      (match d.link with
       | some t => (db.get p o.1).all (fun v => match v with
           | .obj i => db.objs.any (fun o' => o'.1 == i && (sch.lineage t).contains o'.2)
           | _ => false)
       | none => true))

def checkPtr (sch : Schema) (db : DB) (p : Nat) (d : PtrDecl) : Bool :=
  db.objs.all (checkObj sch db p d) &&
  ((!d.link.isSome && !d.exclusive) || (getKeys db p).all (fun id => decide (db.get p id).Nodup)) &&
  (!d.exclusive || (getKeys db p).all (fun id => (getKeys db p).all (fun id' =>
      id == id' || (db.get p id).all (fun v => !(db.get p id').contains v))))

/-- the given descendant lists are transitively closed -/
def checkTrans (sch : Schema) : Bool :=
  (List.range sch.descs.length).all (fun t =>
    ((sch.descs[t]?).getD []).all (fun d =>
      ((sch.descs[d]?).getD []).all (fun e => ((sch.descs[t]?).getD []).contains e)))

/-- required parameters are bound -/
def checkParams (sch : Schema) (db : DB) : Bool :=
  (List.range sch.params.length).all (fun i =>
    !(sch.params[i]?).getD false || (match db.params[i]? with
      | some (some _) => true
      | _ => false))

def checkDB (sch : Schema) (db : DB) : Bool :=
  checkParams sch db &&
  checkTrans sch &&
  decide ((db.objs.map (·.1)).Nodup) &&
  (List.range sch.ptrs.length).all (fun p =>
    match sch.ptr? p with
    | none => true
    | some d => checkPtr sch db p d)

theorem get_ne_nil_mem_keys (db : DB) (p id : Nat) (h : db.get p id ≠ []) : id ∈ getKeys db p := by
  unfold DB.get at h
  split at h
  · rename_i e he
    have hm := List.mem_of_find?_eq_some he
    have hk := List.find?_some he
    simp only [beq_iff_eq] at hk
    unfold getKeys
    refine List.mem_map.2 ⟨e, List.mem_filter.2 ⟨hm, by simp [hk]⟩, by simp [hk]⟩
  · exact absurd rfl h

theorem checkTrans_sound (sch : Schema) (h : checkTrans sch = true) :
    ∀ t d e, d ∈ sch.lineage t → e ∈ sch.lineage d → e ∈ sch.lineage t := by
  intro t d e hd he
  unfold checkTrans at h
  simp only [List.all_eq_true, List.mem_range, List.contains_eq_mem, decide_eq_true_eq] at h
  unfold Schema.lineage at *
  rcases List.mem_cons.1 hd with rfl | hd
  · exact he
  · rcases List.mem_cons.1 he with rfl | he
    · exact List.mem_cons_of_mem _ hd
    · have hlt : t < sch.descs.length := by
        rcases Nat.lt_or_ge t sch.descs.length with hlt | hge
        · exact hlt
        · have : sch.descs[t]? = none := List.getElem?_eq_none hge
          simp [this] at hd
      exact List.mem_cons_of_mem _ (h t hlt d hd e he)

theorem checkObj_sound {sch : Schema} {db : DB} {p : Nat} {d : PtrDecl} {id ty : Nat}
    (h : checkObj sch db p d (id, ty) = true) (hty : ty ∈ sch.lineage d.srcTy) :
    γ d.card (db.get p id).length ∧
      ∀ t, d.link = some t → ∀ v ∈ db.get p id, HasTy sch db (.obj [t]) v := by
  simp only [checkObj, Bool.or_eq_true, Bool.not_eq_eq_eq_not, Bool.not_true, List.contains_eq_mem,
    decide_eq_false_iff_not, Bool.and_eq_true, decide_eq_true_eq] at h
  obtain ⟨hcard, hl⟩ := h.resolve_left (fun h => h hty)
  refine ⟨hcard, fun t ht v hv => ?_⟩
  rw [ht, List.all_eq_true] at hl
  have hv' := hl v hv
  cases v with
  | obj i =>
    simp only [List.any_eq_true, Bool.and_eq_true, beq_iff_eq, decide_eq_true_eq] at hv'
    obtain ⟨o', ho', h1, h2⟩ := hv'
    exact ⟨i, o'.2, t, rfl, h1 ▸ ho', List.mem_singleton.2 rfl, h2⟩
  | _ => cases hv'

theorem checkDB_sound (sch : Schema) (db : DB) (h : checkDB sch db = true) : Conforms sch db := by
  unfold checkDB at h
  simp only [Bool.and_eq_true, decide_eq_true_eq, List.all_eq_true, List.mem_range] at h
  obtain ⟨⟨⟨hpar, htr⟩, hids⟩, hp⟩ := h
  have hptr : ∀ p d, sch.ptr? p = some d →
      (∀ o ∈ db.objs, checkObj sch db p d o = true) ∧
      ((d.link.isSome = true ∨ d.exclusive = true) → ∀ id, (db.get p id).Nodup) ∧
      (d.exclusive = true → ∀ id id' v, id ≠ id' → v ∈ db.get p id → v ∉ db.get p id') := by
    intro p d hpd
    have := hp p (List.getElem?_eq_some_iff.1 hpd).1
    simp only [hpd, checkPtr, Bool.and_eq_true, Bool.or_eq_true, Bool.not_eq_eq_eq_not, Bool.not_true,
      List.all_eq_true, decide_eq_true_eq, beq_iff_eq, List.contains_eq_mem,
      decide_eq_false_iff_not] at this
    obtain ⟨⟨hobj, hnd⟩, hdis⟩ := this
    have hkey : ∀ id v, v ∈ db.get p id → id ∈ getKeys db p := fun id v hv =>
      get_ne_nil_mem_keys db p id (List.ne_nil_of_mem hv)
    refine ⟨hobj, fun hle id => ?_, fun hex id id' v hii hv hv' => ?_⟩
    · cases hg : db.get p id with
      | nil => exact List.nodup_nil
      | cons v vs =>
        refine hg ▸ (hnd.resolve_left fun h => ?_) id (hkey id v (hg ▸ List.mem_cons_self))
        rcases hle with h' | h' <;> simp [h'] at h
    · exact ((hdis.resolve_left (by simp [hex])) id (hkey id v hv) id' (hkey id' v hv')).resolve_left hii v hv hv'
  refine ⟨hids, checkTrans_sound sch htr,
    fun p d id ty hpd hid hty => (checkObj_sound ((hptr p d hpd).1 _ hid) hty).1,
    fun p d t id ty hpd hl hid hty => (checkObj_sound ((hptr p d hpd).1 _ hid) hty).2 t hl,
    fun p d id hpd hl => (hptr p d hpd).2.1 (Or.inl hl) id, ?_,
    fun p d hpd hex => ⟨(hptr p d hpd).2.1 (Or.inr hex), (hptr p d hpd).2.2 hex⟩⟩
  intro i hi
  unfold checkParams at hpar
  simp only [List.all_eq_true, List.mem_range] at hpar
  have := hpar i (List.getElem?_eq_some_iff.1 hi).1
  simp only [hi, Option.getD_some, Bool.not_true, Bool.false_or] at this
  split at this
  · rename_i n hn; exact ⟨n, hn⟩
  · cases this

end EdbVerif.MiniQL
