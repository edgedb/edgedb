/-
Soundness of the cardinality combinators — about the GENERATED definitions (`EdbVerif/Gen/Card.lean`), so every
statement here is re-checked whenever `cardinality.py` changes.  `γ` is read through the two bits `canBeZero` /
`isSingle` (`γ_iff`); each combinator has one table lemma on these bits (the saturating sum of `_union_cardinality`
goes through `LB` / `UB`), and each `*_sound` rule is its table plus a fact about sizes.  Which rule of the compiler
a `*_sound` lemma stands for is said at its twin in `Props/C06.lean` (`cartesian_sum_sound` and `sum_sound`, without
one, are the common form of the FOR, IF and call rules).
-/
import EdbVerif.Model.CardSpec

namespace EdbVerif.Card
open EdbVerif.Gen.Card

theorem bounds_roundtrip (c : Card) :
    boundsToCard (cardToBounds c).lower (cardToBounds c).upper = c := by
  cases c <;> rfl

theorem cardToBounds_boundsToCard (l u : Bound) :
    cardToBounds (boundsToCard l u) =
      { lower := if l = .ZERO then .ZERO else .ONE, upper := if u = .MANY then .MANY else .ONE } := by
  cases l <;> cases u <;> rfl

theorem lower_le_one (c : Card) : (cardToBounds c).lower.toNat ≤ 1 := by
  cases c <;> decide

theorem one_le_upper (c : Card) : 1 ≤ (cardToBounds c).upper.toNat := by
  cases c <;> decide

theorem toNat_sat (k : Nat) : (CardinalityBound.sat k).toNat = min k 2 := by
  unfold CardinalityBound.sat
  split
  · subst_vars; rfl
  · split
    · subst_vars; rfl
    · show 2 = _; omega

theorem sat_ne_many {k : Nat} (h : CardinalityBound.sat k ≠ .MANY) : k ≤ 1 :=
  Decidable.by_contra fun hk =>
    h (by rw [CardinalityBound.sat, if_neg (by omega), if_neg (by omega)])

theorem ne_zero_iff (b : Bound) : b ≠ .ZERO ↔ 1 ≤ b.toNat := by
  cases b <;> decide

theorem ne_many_iff (b : Bound) : b ≠ .MANY ↔ b.toNat ≤ 1 := by
  cases b <;> decide

theorem γ_iff (c : Card) (n : Nat) :
    γ c n ↔ (c.canBeZero = false → 1 ≤ n) ∧ (c.isSingle = true → n ≤ 1) := by
  cases c
  · exact ⟨fun h => ⟨nofun, fun _ => h⟩, fun h => h.2 rfl⟩
  · exact ⟨fun h => ⟨fun _ => Nat.le_of_eq h.symm, fun _ => Nat.le_of_eq h⟩,
      fun h => Nat.le_antisymm (h.2 rfl) (h.1 rfl)⟩
  · exact ⟨fun _ => ⟨nofun, nofun⟩, fun _ => trivial⟩
  · exact ⟨fun h => ⟨fun _ => h, nofun⟩, fun h => h.1 rfl⟩

theorem boundsToCard_canBeZero (l u : Bound) : (boundsToCard l u).canBeZero = false ↔ 1 ≤ l.toNat := by
  cases l <;> cases u <;> decide

theorem boundsToCard_isSingle (l u : Bound) : (boundsToCard l u).isSingle = true ↔ u.toNat ≤ 1 := by
  cases l <;> cases u <;> decide

theorem canBeZero_iff (c : Card) : c.canBeZero = false ↔ 1 ≤ (cardToBounds c).lower.toNat := by
  rw [← boundsToCard_canBeZero _ (cardToBounds c).upper, bounds_roundtrip]

theorem isSingle_iff (c : Card) : c.isSingle = true ↔ (cardToBounds c).upper.toNat ≤ 1 := by
  rw [← boundsToCard_isSingle (cardToBounds c).lower, bounds_roundtrip]

theorem γ_boundsToCard_iff (l u : Bound) (n : Nat) :
    γ (boundsToCard l u) n ↔ (l ≠ .ZERO → 1 ≤ n) ∧ (u ≠ .MANY → n ≤ 1) := by
  rw [γ_iff, boundsToCard_canBeZero, boundsToCard_isSingle, ne_zero_iff, ne_many_iff]

theorem γ_one : γ .ONE 1 := rfl
theorem γ_zero : γ .AT_MOST_ONE 0 := Nat.zero_le 1
theorem γ_many (n : Nat) : γ .MANY n := trivial

theorem γ_required {c : Card} {n : Nat} (h : γ c n) (hz : c.canBeZero = false) : 1 ≤ n :=
  ((γ_iff c n).1 h).1 hz

theorem γ_single {c : Card} {n : Nat} (h : γ c n) (hs : c.isSingle = true) : n ≤ 1 :=
  ((γ_iff c n).1 h).2 hs

theorem γ_subbag {c : Card} {n m : Nat} (h : γ c n) (hm : m ≤ n) (hne : 1 ≤ n → 1 ≤ m) : γ c m := by
  rw [γ_iff] at *
  exact ⟨fun hz => hne (h.1 hz), fun hs => Nat.le_trans hm (h.2 hs)⟩

theorem UB_iff (b : Bound) (n : Nat) : UB b n ↔ (b.toNat < 2 → n ≤ b.toNat) := by
  cases b <;> simp [UB, CardinalityBound.toNat]

theorem γ_boundsToCard_of_LB_UB {l u : Bound} {n : Nat} (hl : LB l n) (hu : UB u n) :
    γ (boundsToCard l u) n := by
  rw [γ_boundsToCard_iff, ne_zero_iff, ne_many_iff]
  rw [UB_iff] at hu
  unfold LB at hl
  omega

theorem γ_iff_bounds (c : Card) (n : Nat) :
    γ c n ↔ LB (cardToBounds c).lower n ∧ UB (cardToBounds c).upper n := by
  refine ⟨fun h => ?_, fun h => bounds_roundtrip c ▸ γ_boundsToCard_of_LB_UB h.1 h.2⟩
  have h1 := γ_required h
  have h2 := γ_single h
  have := lower_le_one c
  have := one_le_upper c
  rw [canBeZero_iff] at h1
  rw [isSingle_iff] at h2
  rw [UB_iff, LB]
  omega

theorem isSubset_iff (c0 c1 : Card) :
    isSubsetCardinality c0 c1 = true ↔ ∀ n, γ c0 n → γ c1 n := by
  -- `γ c` only tells 0, 1 and "two or more" apart, so the sizes 0, 1, 2 refute every inclusion that fails
  constructor
  · intro h n hg
    cases c0 <;> cases c1 <;> first
      | exact absurd h (by decide)
      | (simp only [γ] at hg ⊢ <;> omega)
  · intro h
    cases c0 <;> cases c1 <;> first
      | decide
      | (exfalso; have h0 := h 0; have h1 := h 1; have h2 := h 2; simp [γ] at h0 h1 h2)

theorem LB_add {a x : Bound} {m n : Nat} (ha : LB a m) (hx : LB x n) :
    LB (a.add x.toNat) (m + n) := by
  simp only [LB, CardinalityBound.add, toNat_sat] at *
  omega

theorem UB_add {a x : Bound} {m n : Nat} (ha : UB a m) (hx : UB x n) :
    UB (a.add x.toNat) (m + n) := by
  simp only [UB_iff, CardinalityBound.add, toNat_sat] at *
  omega

theorem union_fold {cs : List Card} {ns : List Nat} (h : Γ cs ns) :
    ∀ {a b : Bound} {m : Nat}, LB a m → UB b m →
      LB ((cs.map fun c => (cardToBounds c).lower).foldl (fun acc x => acc.add x.toNat) a) (m + ns.sum) ∧
      UB ((cs.map fun c => (cardToBounds c).upper).foldl (fun acc x => acc.add x.toNat) b) (m + ns.sum) := by
  induction h with
  | nil => exact fun ha hb => ⟨ha, hb⟩
  | cons hx _ ih =>
    intro a b m ha hb
    rw [List.sum_cons, ← Nat.add_assoc]
    have hx := (γ_iff_bounds _ _).1 hx
    exact ih (LB_add ha hx.1) (UB_add hb hx.2)

theorem union_sound {cs : List Card} {ns : List Nat} (h : Γ cs ns) :
    γ (unionCardinality cs) ns.sum := by
  have := union_fold h (a := .ZERO) (b := .ZERO) (Nat.le_refl 0) (Or.inr (Nat.le_refl 0))
  rw [Nat.zero_add] at this
  exact γ_boundsToCard_of_LB_UB this.1 this.2

theorem foldl_iff {β : Type} {f : β → β → β} {P : β → Prop} (h : ∀ a x, P (f a x) ↔ P a ∧ P x)
    (bs : List β) (a : β) : P (bs.foldl f a) ↔ P a ∧ ∀ b ∈ bs, P b := by
  induction bs generalizing a with
  | nil => simp
  | cons x xs ih => simp [ih, h, and_assoc]

theorem product_pos (bs : List Bound) : 1 ≤ (product bs).toNat ↔ ∀ b ∈ bs, 1 ≤ b.toNat :=
  (foldl_iff (f := fun r x => CardinalityBound.mul r x.toNat) (P := fun b => 1 ≤ b.toNat)
    (by intro a x; cases a <;> cases x <;> decide) bs .ONE).trans (and_iff_right (Nat.le_refl 1))

theorem product_eq_one (bs : List Bound) : (product bs).toNat = 1 ↔ ∀ b ∈ bs, b.toNat = 1 :=
  (foldl_iff (f := fun r x => CardinalityBound.mul r x.toNat) (P := fun b => b.toNat = 1)
    (by intro a x; cases a <;> cases x <;> decide) bs .ONE).trans (and_iff_right rfl)

theorem cartesian_iff (cs : List Card) (n : Nat) :
    γ (cartesianCardinality cs) n ↔
      ((∀ c ∈ cs, c.canBeZero = false) → 1 ≤ n) ∧ ((∀ c ∈ cs, c.isSingle = true) → n ≤ 1) := by
  show γ (boundsToCard (product (cs.map fun a => (cardToBounds a).lower))
    (product (cs.map fun a => (cardToBounds a).upper))) n ↔ _
  have hpos := (product_pos (cs.map fun a => (cardToBounds a).upper)).2
    (by simpa using fun c _ => one_le_upper c)
  have hone := product_eq_one (cs.map fun a => (cardToBounds a).upper)
  have hup : ∀ c : Card, (cardToBounds c).upper.toNat = 1 ↔ c.isSingle = true := by
    intro c; have := one_le_upper c; rw [isSingle_iff]; omega
  simp only [List.forall_mem_map, hup] at hone
  -- a product is positive iff all its factors are and, these positive, is one iff all are
  rw [γ_iff, boundsToCard_canBeZero, boundsToCard_isSingle, product_pos, ← hone]
  simp only [List.forall_mem_map, canBeZero_iff]
  constructor <;> intro h <;> refine ⟨h.1, fun h1 => h.2 (by omega)⟩

theorem natProd_append (as bs : List Nat) : natProd (as ++ bs) = natProd as * natProd bs := by
  induction as with
  | nil => exact (Nat.one_mul _).symm
  | cons a as ih => rw [List.cons_append, natProd, natProd, ih, Nat.mul_assoc]

theorem natProd_bounds {cs : List Card} {ns : List Nat} (h : Γ cs ns) :
    ((∀ c ∈ cs, c.canBeZero = false) → 1 ≤ natProd ns) ∧
      ((∀ c ∈ cs, c.isSingle = true) → natProd ns ≤ 1) := by
  induction h with
  | nil => exact ⟨fun _ => Nat.le_refl 1, fun _ => Nat.le_refl 1⟩
  | cons hx _ ih =>
    simp only [List.forall_mem_cons, natProd]
    exact ⟨fun hr => Nat.mul_pos (γ_required hx hr.1) (ih.1 hr.2),
      fun hs => Nat.mul_le_mul (γ_single hx hs.1) (ih.2 hs.2)⟩

theorem cartesian_sound {cs : List Card} {ns : List Nat} (h : Γ cs ns) :
    γ (cartesianCardinality cs) (natProd ns) :=
  (cartesian_iff cs _).2 (natProd_bounds h)

theorem sum_le_length {ms : List Nat} (h : ∀ m ∈ ms, m ≤ 1) : ms.sum ≤ ms.length := by
  induction ms with
  | nil => simp
  | cons a as ih =>
    have := h a List.mem_cons_self
    have := ih (fun m hm => h m (List.mem_cons_of_mem _ hm))
    simp only [List.sum_cons, List.length_cons]; omega

theorem length_le_sum {ms : List Nat} (h : ∀ m ∈ ms, 1 ≤ m) : ms.length ≤ ms.sum := by
  induction ms with
  | nil => simp
  | cons a as ih =>
    have := h a List.mem_cons_self
    have := ih (fun m hm => h m (List.mem_cons_of_mem _ hm))
    simp only [List.sum_cons, List.length_cons]; omega

theorem cartesian_sum_sound {cs : List Card} {ms : List Nat}
    (hlow : (∀ c ∈ cs, c.canBeZero = false) → 1 ≤ ms.length ∧ ∀ m ∈ ms, 1 ≤ m)
    (hup : (∀ c ∈ cs, c.isSingle = true) → ms.length ≤ 1 ∧ ∀ m ∈ ms, m ≤ 1) :
    γ (cartesianCardinality cs) ms.sum :=
  (cartesian_iff cs _).2
    ⟨fun h => Nat.le_trans (hlow h).1 (length_le_sum (hlow h).2),
     fun h => Nat.le_trans (sum_le_length (hup h).2) (hup h).1⟩

theorem for_sound {ci cb : Card} {ms : List Nat} (hi : γ ci ms.length)
    (hb : ∀ m ∈ ms, γ cb m) : γ (cartesianCardinality [cb, ci]) ms.sum := by
  apply cartesian_sum_sound <;> simp only [List.forall_mem_cons] <;> intro h
  · exact ⟨γ_required hi h.2.1, fun m hm => γ_required (hb m hm) h.1⟩
  · exact ⟨γ_single hi h.2.1, fun m hm => γ_single (hb m hm) h.1⟩

theorem sum_sound {cs : List Card} {ns : List Nat} {r : Card} {ms : List Nat}
    (h : Γ cs ns) (hlen : ms.length = natProd ns) (hm : ∀ m ∈ ms, γ r m) :
    γ (cartesianCardinality (cs ++ [r])) ms.sum := by
  apply cartesian_sum_sound <;> simp only [List.mem_append, List.mem_singleton] <;> intro hall <;>
    rw [hlen]
  · exact ⟨(natProd_bounds h).1 fun c hc => hall c (Or.inl hc),
      fun m hmem => γ_required (hm m hmem) (hall r (Or.inr rfl))⟩
  · exact ⟨(natProd_bounds h).2 fun c hc => hall c (Or.inl hc),
      fun m hmem => γ_single (hm m hmem) (hall r (Or.inr rfl))⟩

theorem ifElse_sound {ca cc cb : Card} {na nb : Nat} {ms : List Nat}
    (ha : γ ca na) (hb : γ cb nb) (hc : γ cc ms.length) (hms : ∀ m ∈ ms, m = na ∨ m = nb) :
    γ (cartesianCardinality [ca, cc, cb]) ms.sum := by
  apply cartesian_sum_sound <;> simp only [List.forall_mem_cons] <;> intro h
  · refine ⟨γ_required hc h.2.1, fun m hm => ?_⟩
    rcases hms m hm with rfl | rfl
    · exact γ_required ha h.1
    · exact γ_required hb h.2.2.1
  · refine ⟨γ_single hc h.2.1, fun m hm => ?_⟩
    rcases hms m hm with rfl | rfl
    · exact γ_single ha h.1
    · exact γ_single hb h.2.2.1

theorem cartesian_singleton (c : Card) : cartesianCardinality [c] = c := by
  cases c <;> rfl

theorem cartesian_pair_comm (a b : Card) : cartesianCardinality [a, b] = cartesianCardinality [b, a] := by
  cases a <;> cases b <;> decide

theorem foldl_pick_spec {α β : Type} (f : α → β) (r le : β → β → Prop) [DecidableRel r]
    (hr : ∀ m y, r m y → le m y) (hn : ∀ m y, ¬ r m y → le y m) (refl : ∀ a, le a a)
    (trans : ∀ a b c, le a b → le b c → le a c) (x : α) (xs : List α) :
    ∃ b ∈ x :: xs, (xs.map f).foldl (fun m y => if r m y then y else m) (f x) = f b ∧
      ∀ y ∈ x :: xs, le (f y) (f b) := by
  induction xs generalizing x with
  | nil => exact ⟨x, List.mem_cons_self, rfl, fun y hy => List.mem_singleton.1 hy ▸ refl _⟩
  | cons z zs ih =>
    obtain ⟨x', hx', e', hxx', hzx'⟩ : ∃ x', (x' = x ∨ x' = z) ∧
        (if r (f x) (f z) then f z else f x) = f x' ∧ le (f x) (f x') ∧ le (f z) (f x') := by
      by_cases h : r (f x) (f z)
      · exact ⟨z, Or.inr rfl, if_pos h, hr _ _ h, refl _⟩
      · exact ⟨x, Or.inl rfl, if_neg h, refl _, hn _ _ h⟩
    obtain ⟨b, hb, e, hmax⟩ := ih x'
    have hx'b := hmax x' List.mem_cons_self
    refine ⟨b, ?_, by rw [List.map_cons, List.foldl_cons, e', e], ?_⟩
    · rcases List.mem_cons.1 hb with rfl | hb
      · rcases hx' with rfl | rfl <;> simp
      · simp [hb]
    · intro y hy
      rcases List.mem_cons.1 hy with rfl | hy
      · exact trans _ _ _ hxx' hx'b
      · rcases List.mem_cons.1 hy with rfl | hy
        · exact trans _ _ _ hzx' hx'b
        · exact hmax y (List.mem_cons_of_mem _ hy)

theorem pyMaxBy_spec {α β : Type} (f : α → β) (key : β → Nat) (x : α) (xs : List α) :
    ∃ b ∈ x :: xs, pyMaxBy key ((x :: xs).map f) = .ok (f b) ∧ ∀ y ∈ x :: xs, key (f y) ≤ key (f b) := by
  obtain ⟨b, hb, e, h⟩ := foldl_pick_spec f (fun m y => key y > key m) (fun a b => key a ≤ key b)
    (fun _ _ => Nat.le_of_lt) (fun _ _ => Nat.le_of_not_lt) (fun _ => Nat.le_refl _)
    (fun _ _ _ => Nat.le_trans) x xs
  exact ⟨b, hb, congrArg Except.ok e, h⟩

theorem pyMinBy_spec {α β : Type} (f : α → β) (key : β → Nat) (x : α) (xs : List α) :
    ∃ b ∈ x :: xs, pyMinBy key ((x :: xs).map f) = .ok (f b) ∧ ∀ y ∈ x :: xs, key (f b) ≤ key (f y) := by
  obtain ⟨b, hb, e, h⟩ := foldl_pick_spec f (fun m y => key y < key m) (fun a b => key b ≤ key a)
    (fun _ _ => Nat.le_of_lt) (fun _ _ => Nat.le_of_not_lt) (fun _ => Nat.le_refl _)
    (fun _ _ _ h1 h2 => Nat.le_trans h2 h1) x xs
  exact ⟨b, hb, congrArg Except.ok e, h⟩

theorem maxCardinality_error_iff (cs : List Card) :
    (∃ e, maxCardinality cs = .error e) ↔ cs = [] := by
  cases cs with
  | nil => exact ⟨fun _ => rfl, fun _ => ⟨_, rfl⟩⟩
  | cons c cs => exact ⟨fun ⟨_, h⟩ => (nomatch h), fun h => (nomatch h)⟩

theorem minCardinality_error_iff (cs : List Card) :
    (∃ e, minCardinality cs = .error e) ↔ cs = [] := by
  cases cs with
  | nil => exact ⟨fun _ => rfl, fun _ => ⟨_, rfl⟩⟩
  | cons c cs => exact ⟨fun ⟨_, h⟩ => (nomatch h), fun h => (nomatch h)⟩

theorem maxCardinality_ok {cs : List Card} {c : Card} (h : maxCardinality cs = .ok c) :
    (c.canBeZero = false ↔ ∃ a ∈ cs, a.canBeZero = false) ∧
      (c.isSingle = true ↔ ∀ a ∈ cs, a.isSingle = true) := by
  match cs, h with
  | c0 :: cs, h =>
    obtain ⟨al, hal, el, hl⟩ := pyMaxBy_spec (fun a => (cardToBounds a).lower) CardinalityBound.toNat c0 cs
    obtain ⟨au, hau, eu, hu⟩ := pyMaxBy_spec (fun a => (cardToBounds a).upper) CardinalityBound.toNat c0 cs
    simp only [maxCardinality, cardUnzip, el, eu] at h
    cases h
    rw [boundsToCard_canBeZero, boundsToCard_isSingle]
    simp only [canBeZero_iff, isSingle_iff]
    exact ⟨⟨fun h => ⟨al, hal, h⟩, fun ⟨a, ha, h⟩ => Nat.le_trans h (hl a ha)⟩,
      ⟨fun h a ha => Nat.le_trans (hu a ha) h, fun h => h au hau⟩⟩

theorem minCardinality_ok {cs : List Card} {c : Card} (h : minCardinality cs = .ok c) :
    (c.canBeZero = false ↔ ∀ a ∈ cs, a.canBeZero = false) ∧
      (c.isSingle = true ↔ ∃ a ∈ cs, a.isSingle = true) := by
  match cs, h with
  | c0 :: cs, h =>
    obtain ⟨al, hal, el, hl⟩ := pyMinBy_spec (fun a => (cardToBounds a).lower) CardinalityBound.toNat c0 cs
    obtain ⟨au, hau, eu, hu⟩ := pyMinBy_spec (fun a => (cardToBounds a).upper) CardinalityBound.toNat c0 cs
    simp only [minCardinality, cardUnzip, el, eu] at h
    cases h
    rw [boundsToCard_canBeZero, boundsToCard_isSingle]
    simp only [canBeZero_iff, isSingle_iff]
    exact ⟨⟨fun h a ha => Nat.le_trans h (hl a ha), fun h => h al hal⟩,
      ⟨fun h => ⟨au, hau, h⟩, fun ⟨a, ha, h⟩ => Nat.le_trans (hu a ha) h⟩⟩

theorem All2.append {α β : Type} {R : α → β → Prop} {as as' : List α} {bs bs' : List β}
    (h : All2 R as bs) (h' : All2 R as' bs') : All2 R (as ++ as') (bs ++ bs') := by
  induction h with
  | nil => exact h'
  | cons hx _ ih => exact .cons hx ih

theorem All2.mem_left {α β : Type} {R : α → β → Prop} {as : List α} {bs : List β} (h : All2 R as bs)
    {a : α} (ha : a ∈ as) : ∃ b ∈ bs, R a b := by
  induction h with
  | nil => cases ha
  | cons hx _ ih =>
    rcases List.mem_cons.1 ha with rfl | ha
    · exact ⟨_, List.mem_cons_self, hx⟩
    · obtain ⟨b, hb, hr⟩ := ih ha; exact ⟨b, List.mem_cons_of_mem _ hb, hr⟩

theorem All2.mem_right {α β : Type} {R : α → β → Prop} {as : List α} {bs : List β} (h : All2 R as bs)
    {b : β} (hb : b ∈ bs) : ∃ a ∈ as, R a b := by
  induction h with
  | nil => cases hb
  | cons hx _ ih =>
    rcases List.mem_cons.1 hb with rfl | hb
    · exact ⟨_, List.mem_cons_self, hx⟩
    · obtain ⟨a, ha, hr⟩ := ih hb; exact ⟨a, List.mem_cons_of_mem _ ha, hr⟩

theorem max_sound {cs : List Card} {ns : List Nat} {c : Card} (h : Γ cs ns)
    (hc : maxCardinality cs = .ok c) {n : Nat}
    (hlow : ∀ m ∈ ns, 1 ≤ m → 1 ≤ n) (hup : ∃ m ∈ ns, n ≤ m) : γ c n := by
  obtain ⟨hz, hs⟩ := maxCardinality_ok hc
  rw [γ_iff, hz, hs]
  constructor
  · rintro ⟨a, ha, hr⟩
    obtain ⟨m, hm, hg⟩ := h.mem_left ha
    exact hlow m hm (γ_required hg hr)
  · intro hall
    obtain ⟨m, hm, hnm⟩ := hup
    obtain ⟨a, ha, hg⟩ := h.mem_right hm
    exact Nat.le_trans hnm (γ_single hg (hall a ha))

theorem firstNonzero_spec (ns : List Nat) :
    (∀ m ∈ ns, 1 ≤ m → 1 ≤ firstNonzero ns) ∧ (ns ≠ [] → ∃ m ∈ ns, firstNonzero ns ≤ m) := by
  induction ns with
  | nil => simp
  | cons n ns ih =>
    unfold firstNonzero
    by_cases h0 : n = 0
    · subst h0
      simp only [↓reduceIte]
      constructor
      · intro m hm h1
        rcases List.mem_cons.1 hm with rfl | hm
        · omega
        · exact ih.1 m hm h1
      · intro _
        cases ns with
        | nil => exact ⟨0, by simp, by simp [firstNonzero]⟩
        | cons k ks =>
          obtain ⟨m, hm, hle⟩ := ih.2 (by simp)
          exact ⟨m, List.mem_cons_of_mem _ hm, hle⟩
    · rw [if_neg h0]
      exact ⟨fun _ _ _ => by omega, fun _ => ⟨n, List.mem_cons_self, Nat.le_refl _⟩⟩

theorem firstNonzero_pair (a b : Nat) :
    firstNonzero [a, b] = if a = 0 then b else a := by
  simp only [firstNonzero]
  split
  · split <;> omega
  · rfl

theorem coalesce_sound {cs : List Card} {ns : List Nat} {c : Card} (h : Γ cs ns)
    (hc : maxCardinality cs = .ok c) : γ c (firstNonzero ns) := by
  have hne : ns ≠ [] := by
    rintro rfl
    cases h
    cases hc
  exact max_sound h hc (firstNonzero_spec ns).1 ((firstNonzero_spec ns).2 hne)

theorem min_single_le {cs : List Card} {ns : List Nat} {c : Card} (h : Γ cs ns)
    (hc : minCardinality cs = .ok c) {n : Nat} (hup : ∀ m ∈ ns, n ≤ m) (hs : c.isSingle = true) : n ≤ 1 := by
  obtain ⟨a, ha, hsa⟩ := (minCardinality_ok hc).2.1 hs
  obtain ⟨m, hm, hg⟩ := h.mem_left ha
  exact Nat.le_trans (hup m hm) (γ_single hg hsa)

theorem min_sound {cs : List Card} {ns : List Nat} {c : Card} (h : Γ cs ns)
    (hc : minCardinality cs = .ok c) {n : Nat}
    (hlow : (∀ m ∈ ns, 1 ≤ m) → 1 ≤ n) (hup : ∀ m ∈ ns, n ≤ m) : γ c n := by
  rw [γ_iff, (minCardinality_ok hc).1]
  refine ⟨fun hall => hlow fun m hm => ?_, min_single_le h hc hup⟩
  obtain ⟨a, ha, hg⟩ := h.mem_right hm
  exact γ_required hg (hall a ha)

theorem zero_lower_sound {c : Card} {n m : Nat} (h : γ c n) (hm : m ≤ n) :
    γ (boundsToCard .ZERO (cardToBounds c).upper) m := by
  rw [γ_boundsToCard_iff, ne_many_iff, ← isSingle_iff]
  exact ⟨fun h0 => absurd rfl h0, fun hs => Nat.le_trans hm (γ_single h hs)⟩

theorem γ_typemod (tm : TypeModifier) (n : Nat) :
    γ (typemodToCard tm) n ↔
      match tm with
      | .SetOfType => True
      | .OptionalType => n ≤ 1
      | .SingletonType => n = 1 := by
  cases tm <;> rfl

theorem filter_sound {c : Card} {n m : Nat} (h : γ c n) (hm : m ≤ n) :
    γ (cartesianCardinality [c, .AT_MOST_ONE]) m := by
  rw [cartesian_iff]
  simp only [List.forall_mem_cons]
  exact ⟨fun hz => (nomatch hz.2.1), fun hs => Nat.le_trans hm (γ_single h hs.1)⟩

theorem limit_one_sound {c : Card} {n : Nat} (h : γ c n) :
    γ (boundsToCard (cardToBounds c).lower .ONE) (min n 1) := by
  rw [γ_boundsToCard_iff, ne_zero_iff, ← canBeZero_iff]
  exact ⟨fun hz => Nat.le_min.2 ⟨γ_required h hz, Nat.le_refl 1⟩, fun _ => Nat.min_le_right _ _⟩

theorem limit_const_sound {c : Card} {n k : Nat} (h : γ c n) (hk : 1 ≤ k) : γ c (min n k) :=
  γ_subbag h (Nat.min_le_left _ _) fun hn => Nat.le_min.2 ⟨hn, hk⟩

theorem optional_arg_sound {c : Card} {n : Nat} (h : γ c n) :
    γ (boundsToCard .ONE (cardToBounds c).upper) (if n = 0 then 1 else n) := by
  rw [γ_boundsToCard_iff, ne_many_iff, ← isSingle_iff]
  refine ⟨fun _ => ?_, fun hs => ?_⟩
  · split <;> omega
  · have := γ_single h hs
    split <;> omega

/-- a set visible in an enclosing scope but optional there: `_bounds_to_card(lower, ONE)` -/
theorem visible_optional_sound {c : Card} {n : Nat} (h : γ c n) (h1 : n ≤ 1) :
    γ (boundsToCard (cardToBounds c).lower .ONE) n := by
  have := limit_one_sound h
  rwa [Nat.min_eq_left h1] at this

theorem distinct_sound {c : Card} {n m : Nat} (h : γ c n) (hm : m ≤ n) (hne : 1 ≤ n → 1 ≤ m) :
    γ (cartesianCardinality [c]) m :=
  (cartesian_singleton c).symm ▸ γ_subbag h hm hne

-- the clauses of `γm`, for where it is kept folded (`MiniQLSound`)
theorem γm_empty_iff {α : Type} {l : List α} : γm .EMPTY l ↔ l = [] := Iff.rfl
theorem γm_unique {α : Type} {l : List α} (h : l.Nodup) : γm .UNIQUE l := h
theorem γm_duplicate {α : Type} (l : List α) : γm .DUPLICATE l := trivial

theorem γm_mono {α : Type} {m m' : Mult} {l : List α} (h : γm m l) (hle : m.toNat ≤ m'.toNat) :
    γm m' l := by
  cases m <;> cases m' <;> simp [γm, Multiplicity.toNat] at * <;> simp_all

theorem γm_nodup {α : Type} {m : Mult} {l : List α} (hm : m ≠ .EMPTY) (h : l.Nodup) : γm m l := by
  cases m <;> simp_all [γm]

theorem γm_sublist {α : Type} {m : Mult} {l l' : List α} (h : γm m l) (hs : l'.Sublist l) :
    γm m l' := by
  cases m <;> simp only [γm] at *
  · subst h; exact List.sublist_nil.1 hs
  · exact h.sublist hs

theorem maxMultiplicity_ok (ms : List MultiplicityInfo) :
    ∃ r, maxMultiplicity ms = .ok r ∧ r.disjoint_union = false ∧ r.fresh_free_object = false ∧
      (∀ m ∈ ms, m.own.toNat ≤ r.own.toNat) ∧ (ms = [] → r.own = .UNIQUE) ∧
      (ms ≠ [] → ∃ m ∈ ms, r.own = m.own) := by
  cases ms with
  | nil => exact ⟨_, rfl, rfl, rfl, nofun, fun _ => rfl, fun h => absurd rfl h⟩
  | cons m ms =>
    obtain ⟨b, hb, e, h⟩ := pyMaxBy_spec (fun a : MultiplicityInfo => a.own) Multiplicity.toNat m ms
    refine ⟨{ own := b.own }, ?_, rfl, rfl, h, nofun, fun _ => ⟨b, hb, rfl⟩⟩
    simp only [maxMultiplicity, e]
    rfl

theorem minMultiplicity_ok (ms : List MultiplicityInfo) :
    ∃ r, minMultiplicity ms = .ok r ∧ r.disjoint_union = false ∧ r.fresh_free_object = false ∧
      (∀ m ∈ ms, r.own.toNat ≤ m.own.toNat) ∧ (ms = [] → r.own = .UNIQUE) ∧
      (ms ≠ [] → ∃ m ∈ ms, r.own = m.own) := by
  cases ms with
  | nil => exact ⟨_, rfl, rfl, rfl, nofun, fun _ => rfl, fun h => absurd rfl h⟩
  | cons m ms =>
    obtain ⟨b, hb, e, h⟩ := pyMinBy_spec (fun a : MultiplicityInfo => a.own) Multiplicity.toNat m ms
    refine ⟨{ own := b.own }, ?_, rfl, rfl, h, nofun, fun _ => ⟨b, hb, rfl⟩⟩
    simp only [minMultiplicity, e]
    rfl

end EdbVerif.Card
