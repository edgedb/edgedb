/-
C03: `Schema.Equiv` is symmetric and transitive, and `Valid` and `CtxSafe` respect it; with that, the SDL
round trip at the level of documents: the target of the described document is the schema up to order, and the
migration is two replays of a description.
-/
import EdbVerif.Lemmas.Describe

namespace EdbVerif.Describe

theorem Schema.Equiv.symm {A B : Schema} (h : A.Equiv B) : B.Equiv A := ⟨h.1.symm, h.2.symm⟩
theorem Schema.Equiv.trans {A B C : Schema} (h : A.Equiv B) (h' : B.Equiv C) : A.Equiv C :=
  ⟨h.1.trans h'.1, h.2.trans h'.2⟩

theorem Schema.Equiv.names {A B : Schema} (h : A.Equiv B) : A.names.Perm B.names :=
  h.2.map _

theorem Schema.Equiv.mentioned {A B : Schema} (h : A.Equiv B) (q : QName) :
    q ∈ A.mentioned ↔ q ∈ B.mentioned := by
  simp only [Schema.mentioned, List.mem_flatMap, h.2.mem_iff]

theorem CtxSafe.of_equiv {c : Ctx} {A B : Schema} (h : A.Equiv B) (hs : CtxSafe c B) : CtxSafe c A :=
  fun q hq => hs q ((h.mentioned q).1 hq)

theorem shellDep_of_equiv {A B : Schema} (h : A.Equiv B) (a b : QName) (hd : ShellDep A a b) :
    ShellDep B a b := by
  obtain ⟨o, ho, hn, hb, hbn⟩ := hd
  exact ⟨o, h.2.mem_iff.1 ho, hn, hb, h.names.mem_iff.1 hbn⟩

theorem Valid.of_equiv {tbl : FieldTable} {std : Env} {A B : Schema} (h : A.Equiv B)
    (hv : Valid tbl std B) : Valid tbl std A where
  names_nodup := h.names.nodup_iff.2 hv.names_nodup
  names_fresh := fun q hq => hv.names_fresh q (h.names.mem_iff.1 hq)
  mods_nodup := h.1.nodup_iff.2 hv.mods_nodup
  mods_fresh := fun m hm => hv.mods_fresh m (h.1.mem_iff.1 hm)
  mods_ne := fun m hm => hv.mods_ne m (h.1.mem_iff.1 hm)
  mods_closed := fun m hm hlen =>
    (hv.mods_closed m (h.1.mem_iff.1 hm) hlen).imp_left h.1.mem_iff.2
  obj_mods := fun o ho => h.1.mem_iff.2 (hv.obj_mods o (h.2.mem_iff.1 ho))
  closed := fun o ho q hq => (hv.closed o (h.2.mem_iff.1 ho) q hq).imp_left h.names.mem_iff.2
  acyclic := fun ⟨q, hq⟩ =>
    hv.acyclic ⟨q, Relation.TransGen.mono (shellDep_of_equiv h) q q hq⟩
  covered := fun o ho => hv.covered o (h.2.mem_iff.1 ho)
  mods_real := CtxSafe.of_equiv h hv.mods_real
  balanced := fun o ho => hv.balanced o (h.2.mem_iff.1 ho)

theorem dedupMods_of_nodup (l : List ModName) (h : l.Nodup) : dedupMods l = l := by
  induction l with
  | nil => rfl
  | cons m ms ih =>
    obtain ⟨hm, hms⟩ := List.nodup_cons.1 h
    rw [dedupMods, ih hms, List.filter_eq_self.2 fun a ha => bne_iff_ne.2 fun (h : a = m) => hm (h ▸ ha)]

theorem describeSDLDoc_fst (tbl : FieldTable) (S : Schema) :
    (describeSDLDoc tbl S).map (·.1) = S.modules := by
  simp [describeSDLDoc, List.map_map, Function.comp_def]

theorem sdlModules_describe (tbl : FieldTable) (S : Schema) (hnd : S.modules.Nodup)
    (hdef : defaultMod ∈ S.modules) : sdlModules (describeSDLDoc tbl S) = S.modules := by
  unfold sdlModules
  simp only [describeSDLDoc_fst, dedupMods_of_nodup _ hnd]
  rw [if_pos (List.contains_iff_mem.2 hdef)]

theorem mem_sdlDeclNames (tbl : FieldTable) (S : Schema) (hmods : ∀ o ∈ S.objs, o.name.mod ∈ S.modules)
    (q : QName) : q ∈ sdlDeclNames (describeSDLDoc tbl S) ↔ q ∈ S.names := by
  simp only [sdlDeclNames, describeSDLDoc, Schema.names, List.mem_flatMap, List.mem_map,
    List.mem_filter, decide_eq_true_eq, exists_exists_and_eq_and, declOf]
  constructor
  · rintro ⟨m, _, o, ⟨ho, rfl⟩, rfl⟩
    exact ⟨o, ho, rfl⟩
  · rintro ⟨o, ho, rfl⟩
    exact ⟨o.name.mod, hmods o ho, o, ⟨ho, rfl⟩, rfl⟩

/-- the SDL resolver maps a fully qualified, existing name to itself -/
theorem sdl_self (std : Env) (objects : List QName) (localMods : List ModName) (m : ModName)
    (q : QName) (hs : ModSafe {} q.mod) (hex : q ∈ objects ∨ std.has q = true) :
    Self (fun _ r =>
      let q' := resolveTracer std objects localMods { cur := some m } m false r
      if objects.contains q' then .ok q'
      else match resolveRef std {} q'.toRef with
        | some q'' => .ok q''
        | none => .error (.unresolved r)) q := by
  intro _
  have hr : q ∈ objects ∨ resolveRef std {} q.toRef = some q :=
    hex.imp_right (resolveRef_qualified_safe std {} q.mod q.name hs)
  have hexT : existsT std objects q = true := by
    rcases hr with h | h <;> simp [existsT, h]
  have htr : resolveTracer std objects localMods { cur := some m } m false q.toRef = q := by
    unfold resolveTracer
    simp only [QName.toRef, applyAliasesG_nil (not_current_of_applyAliasesG hs.2.2) _ _, tryNameT, hexT, ↓reduceIte]
  simp only [htr]
  rcases hr with h | h
  · rw [if_pos (List.contains_iff_mem.2 h)]
  · rw [h]
    split <;> rfl

theorem resolveDecl_declOf (tbl : FieldTable) (std : Env) (objects : List QName)
    (localMods : List ModName) (o : Top QName) (hcov : o.Covered tbl)
    (hall : ∀ q ∈ o.shellNames ++ o.kidNames, ModSafe {} q.mod ∧ (q ∈ objects ∨ std.has q = true)) :
    resolveDecl std objects localMods o.name.mod (declOf tbl o) = .ok o := by
  have hself : ∀ q ∈ o.shellNames ++ o.kidNames, Self _ q := fun q hq =>
    sdl_self std objects localMods o.name.mod q (hall q hq).1 (hall q hq).2
  unfold resolveDecl declOf
  simp only
  rw [filterFields_covered tbl o.cls o.fields hcov.1, fields_mapE_map]
  · simp only
    rw [List.map_congr_left fun k hk => by rw [Kid.printed_covered tbl k (hcov.2 k hk)],
      travE_map_ok _ (Kid.map QName.toRef)]
    exact fun k hk => Kid.mapE_map _ k fun q hq =>
      hself q (List.mem_append_right _ (mem_kidNames hk hq))
  · exact fun q hq => hself q (List.mem_append_left _ hq)

theorem flattenE_ok {α : Type} (ls : List (List α)) :
    flattenE (ls.map (fun l => (Except.ok l : Except Err (List α)))) = .ok ls.flatten := by
  induction ls with
  | nil => rfl
  | cons l ls ih => simp [flattenE, ih]

theorem sdlTarget_describe (tbl : FieldTable) (std : Env) (S : Schema) (hv : Valid tbl std S)
    (hdef : defaultMod ∈ S.modules) :
    ∃ S0, sdlTarget std (describeSDLDoc tbl S) = .ok S0 ∧ S0.Equiv S := by
  have hblocks : (describeSDLDoc tbl S).map
        (resolveBlock std (sdlDeclNames (describeSDLDoc tbl S)) (sdlModules (describeSDLDoc tbl S))) =
      (S.modules.map fun m => S.objs.filter (fun o => o.name.mod = m)).map
        (fun l => (Except.ok l : Except Err (List (Top QName)))) := by
    simp only [describeSDLDoc, List.map_map]
    apply List.map_congr_left
    intro m _
    simp only [Function.comp, resolveBlock]
    apply travE_map_ok
    intro o ho
    obtain ⟨hoS, hom⟩ := List.mem_filter.1 ho
    have hom' : o.name.mod = m := by simpa using hom
    rw [← hom']
    apply resolveDecl_declOf tbl std _ _ o (hv.covered o hoS)
    intro q hq
    refine ⟨hv.mods_real q (mem_mentioned_ref hoS hq), ?_⟩
    rcases hv.closed o hoS q hq with h | h
    · exact Or.inl ((mem_sdlDeclNames tbl S hv.obj_mods q).2 h)
    · exact Or.inr h
  refine ⟨⟨S.modules, (S.modules.map fun m => S.objs.filter (fun o => o.name.mod = m)).flatten⟩, ?_, ?_⟩
  · unfold sdlTarget
    rw [sdlModules_describe tbl S hv.mods_nodup hdef] at hblocks
    simp only [sdlModules_describe tbl S hv.mods_nodup hdef, hblocks, flattenE_ok]
  · refine ⟨List.Perm.refl _, ?_⟩
    simp only
    rw [← List.flatMap_def]
    simpa only [beq_eq_decide] using
      ListAux.group_perm (fun o : Top QName => o.name.mod) hv.mods_nodup hv.obj_mods

theorem describe_migrateSDL (tbl : FieldTable) (std : Env) (c : Ctx) (S : Schema)
    (hv : Valid tbl std S) (hs : CtxSafe c S) (hdef : defaultMod ∈ S.modules) :
    ∃ S', migrateSDL tbl std (describeSDLDoc tbl S) c = .ok S' ∧ S'.Equiv S := by
  obtain ⟨S0, h0, he0⟩ := sdlTarget_describe tbl std S hv hdef
  have hv0 := Valid.of_equiv he0 hv
  obtain ⟨ss0, T, hd0, hx0, heT⟩ := describe_exec tbl std emptyCtx S0 hv0 hv0.mods_real
  have hvT := Valid.of_equiv heT hv0
  have hsT : CtxSafe c T := CtxSafe.of_equiv (heT.trans he0) hs
  obtain ⟨ss1, S', hd1, hx1, he1⟩ := describe_exec tbl std c T hvT hsT
  refine ⟨S', ?_, he1.trans (heT.trans he0)⟩
  unfold migrateSDL applySDL
  simp only [h0, hd0, hx0, hd1, hx1]

end EdbVerif.Describe
