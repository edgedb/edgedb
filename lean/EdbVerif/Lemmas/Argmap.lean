/-
C13: numbering theorems for `populate_argmap` and freshness of `AliasGenerator`.
-/
import EdbVerif.Model.ArgmapSpec
import EdbVerif.Lemmas.Keyed
import EdbVerif.Lemmas.ListAux
import EdbVerif.Lemmas.Digits

namespace EdbVerif.Argmap

theorem realCount_cons (p : Param) (ps : List Param) (phys : Nat) :
    (if p.hasSub then phys else phys + 1) + realCount ps = phys + realCount (p :: ps) := by
  unfold realCount
  rw [List.filter_cons]
  cases p.hasSub
  · exact Nat.add_right_comm ..
  · rfl

theorem logicalCount_cons (p : Param) (ps : List Param) (logi : Nat) :
    (if isSubParam p.name then logi else logi + 1) + logicalCount ps
      = logi + logicalCount (p :: ps) := by
  unfold logicalCount
  rw [List.filter_cons]
  cases isSubParam p.name
  · exact Nat.add_right_comm ..
  · rfl

theorem paramPass_eq (np ex : Bool) (ps : List Param) (phys logi : Nat) :
    paramPass np ex ps phys logi =
      (number (ps.filter (fun p => !skipped np ex p)) phys logi,
       phys + realCount (ps.filter (fun p => !skipped np ex p)),
       logi + logicalCount (ps.filter (fun p => !skipped np ex p))) := by
  fun_induction paramPass np ex ps phys logi with
  | case1 => rfl
  | case2 _ _ _ _ hs ih => rw [ih, List.filter_cons_of_neg (by simpa using hs)]
  | case3 p ps phys logi hs e phys' logi' rest ph lo hrec ih =>
    -- `hrec : paramPass np ex ps phys' logi' = (rest, ph, lo)` names the parts of the recursive call
    rw [List.filter_cons_of_pos (by simpa using hs), ← realCount_cons, ← logicalCount_cons]
    rw [hrec] at ih
    cases ih
    rfl

theorem number_append (a b : List Param) (phys logi : Nat) :
    number (a ++ b) phys logi =
      number a phys logi ++ number b (phys + realCount a) (logi + logicalCount a) := by
  induction a generalizing phys logi with
  | nil => rfl
  | cons p a ih => simp only [List.cons_append, number, ih, realCount_cons, logicalCount_cons]

theorem realCount_append (a b : List Param) : realCount (a ++ b) = realCount a + realCount b := by
  simp [realCount]

theorem number_phys (ps : List Param) (phys logi : Nat) :
    ((ps.zip (number ps phys logi)).filter (fun x => !x.1.hasSub)).map (·.2.2.index)
      = List.range' phys (realCount ps) := by
  induction ps generalizing phys logi with
  | nil => rfl
  | cons p ps ih =>
    rw [number, List.zip_cons_cons, List.filter_cons, realCount, List.filter_cons]
    cases p.hasSub
    · exact congrArg (phys :: ·) (ih _ _)
    · exact ih _ _

theorem number_logical (ps : List Param) (phys logi : Nat) :
    ((ps.zip (number ps phys logi)).filter (fun x => !isSubParam x.1.name)).map (·.2.2.logical)
      = (List.range' logi (logicalCount ps)).map Int.ofNat := by
  induction ps generalizing phys logi with
  | nil => rfl
  | cons p ps ih =>
    rw [number, List.zip_cons_cons, List.filter_cons, logicalCount, List.filter_cons]
    cases isSubParam p.name
    · exact congrArg (Int.ofNat logi :: ·) (ih _ _)
    · exact ih _ _

theorem number_getElem (ps : List Param) (phys logi i : Nat)
    (h : i < (number ps phys logi).length) :
    (number ps phys logi)[i].2.index = phys + realCount (ps.take i) ∧
      (number ps phys logi)[i].2.logical = ((logi + logicalCount (ps.take i) : Nat) : Int) := by
  induction ps generalizing phys logi i with
  | nil => exact absurd h (Nat.not_lt_zero _)
  | cons p ps ih =>
    cases i with
    | zero => exact ⟨rfl, rfl⟩
    | succ i =>
      rw [List.take_succ_cons, ← realCount_cons, ← logicalCount_cons]
      exact ih _ _ i (Nat.lt_of_succ_lt_succ h)

theorem number_keys (ps : List Param) (phys logi : Nat) :
    (number ps phys logi).map (·.1) = ps.map (·.name) := by
  induction ps generalizing phys logi with
  | nil => rfl
  | cons p ps ih => simp only [number, List.map_cons, ih]

theorem number_length (ps : List Param) (phys logi : Nat) :
    (number ps phys logi).length = ps.length := by
  simpa using congrArg List.length (number_keys ps phys logi)

theorem globalPass_index (gs : List Global) (phys : Nat) :
    (globalPass gs phys).map (·.2.index) = List.range' phys (globalSlots gs) := by
  fun_induction globalPass gs phys with
  | case1 => rfl
  | case2 g gs phys _ h ih =>
    rw [globalSlots, if_pos h, Nat.add_comm 2, List.map_cons, List.map_cons, ih]
    rfl
  | case3 g gs phys _ h ih =>
    rw [globalSlots, if_neg h, Nat.add_comm 1, List.map_cons, ih]
    rfl

def globalKeys : List Global → List (List Char)
  | [] => []
  | g :: gs =>
    if g.hasPresent then g.name :: (g.name ++ "present__".toList) :: globalKeys gs
    else g.name :: globalKeys gs

theorem globalPass_keys (gs : List Global) (phys : Nat) :
    (globalPass gs phys).map (·.1) = globalKeys gs := by
  fun_induction globalPass gs phys with
  | case1 => rfl
  | case2 g gs phys _ h ih => rw [globalKeys, if_pos h, List.map_cons, List.map_cons, ih]
  | case3 g gs phys _ h ih => rw [globalKeys, if_neg h, List.map_cons, ih]

theorem dictSet_of_not_mem (d : Assigns) (k : List Char) (v : Entry)
    (h : k ∉ d.map (·.1)) : dictSet d k v = d ++ [(k, v)] :=
  Keyed.upsert_of_fresh (a := (k, v)) (Keyed.find_eq_none.1 (Keyed.find_eq_none_iff.2 h))

theorem foldl_dictSet_nodup (a d : Assigns) (h : ((d ++ a).map (·.1)).Nodup) :
    a.foldl (fun d kv => dictSet d kv.1 kv.2) d = d ++ a := by
  induction a generalizing d with
  | nil => exact (List.append_nil d).symm
  | cons kv a ih =>
    rw [List.append_cons] at h ⊢
    rw [List.foldl_cons, dictSet_of_not_mem, ih _ h]
    intro hm
    simp only [List.map_append, List.nodup_append] at h
    exact h.1.2.2 _ hm _ (List.mem_singleton_self _) rfl

theorem populateArgmap_of_nodup (np : Bool) (params : List Param) (globals : List Global)
    (h : ((assigns np params globals).map (·.1)).Nodup) :
    populateArgmap np params globals = assigns np params globals :=
  foldl_dictSet_nodup _ [] h

theorem tilde_not_mem_toDigits (n : Nat) : '~' ∉ Nat.toDigits 10 n := fun h =>
  absurd (Nat.isDigit_of_mem_toDigits (b := 10) (by omega) (by omega) h) (by decide)

theorem cut_aliasOf (k : List Char) (n : Nat) : ListAux.cut '~' (aliasOf k n) = (k, Nat.toDigits 10 n) :=
  ListAux.cut_append (tilde_not_mem_toDigits n) k

theorem aliasOf_inj {k k' : List Char} {n n' : Nat} (h : aliasOf k n = aliasOf k' n') :
    k = k' ∧ n = n' := by
  have e := congrArg (ListAux.cut '~') h
  rw [cut_aliasOf, cut_aliasOf] at e
  exact ⟨(Prod.mk.inj e).1, Digits.toDigits_inj (by decide) (by decide) n n' (Prod.mk.inj e).2⟩

theorem Counts.get_set (cs : Counts) (k k' : List Char) (v : Nat) :
    (cs.set k v).get k' = if k = k' then v else cs.get k' := by
  have hg : ∀ c : Counts, c.get k' = ((c.find? (·.1 == k')).map (·.2)).getD 0 := fun c => by
    unfold Counts.get
    cases c.find? (·.1 == k') <;> rfl
  rw [hg, hg, Counts.set, Keyed.find_fst_cons_erase]
  split <;> rfl

theorem aliasGet_eq (cs : Counts) (h : List Char) :
    aliasGet cs h =
      (aliasOf (hintKey h) (cs.get (hintKey h) + 1),
       cs.set (hintKey h) (cs.get (hintKey h) + 1)) := rfl

theorem aliasRun_form (hs : List (List Char)) (cs : Counts) :
    ∀ a ∈ aliasRun cs hs, ∃ k n, a = aliasOf k n ∧ cs.get k < n := by
  induction hs generalizing cs with
  | nil => nofun
  | cons h hs ih =>
    intro a ha
    rcases List.mem_cons.1 ha with rfl | ha
    · exact ⟨_, _, rfl, Nat.lt_succ_self _⟩
    · obtain ⟨k, n, rfl, hlt⟩ := ih _ a ha
      refine ⟨k, n, rfl, ?_⟩
      rw [aliasGet_eq, Counts.get_set] at hlt
      split at hlt
      next e => subst e; omega
      next => exact hlt

end EdbVerif.Argmap
