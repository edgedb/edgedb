/-
C17, remote path: preservation of the invariant and the history-level theorems.
-/
import EdbVerif.Lemmas.SyncMTInv

namespace EdbVerif.SyncMT
open EdbVerif.Sync

theorem Synced.pairs {env : Env} {st st' : MTState} {q : MReq} {o : MObs} {cs cs' : CS} {u : Bool}
    (hs : Synced env st q st' o cs cs' u) (hI : Inv st) :
    (∀ w, (st'.wk w).inval = []) ∧
    (∀ w c' v, (c' = q.c → v = cs') → PairStep v q.r.out (st.wk w) (st'.wk w) c') ∧
    ∀ u, o.used = some u → currentOf cs' q.r.db = some u := by
  obtain ⟨hR1, hR2, hR3⟩ := request_pairs env (st.wk q.r.w) q.c q.r.db cs' st.cacheSize q.r.out
    (hI.invalNil q.r.w) ((clientOK_after_sync2 hI hs.known hs.sync q.c cs' (if_pos rfl)).2 _)
  rw [hs.wk, hs.used]
  refine ⟨fun w => ?_, fun w c' v hv => ?_, hR3⟩ <;> dsimp only <;> by_cases hw : w = q.r.w
  · rw [if_pos hw]; exact hR1
  · rw [if_neg hw]; exact hI.invalNil w
  · rw [if_pos hw, hw]; exact hR2 c' v hv
  · rw [if_neg hw]; exact .keep (.inl rfl) fun _ h => ⟨h, rfl⟩

theorem inv_step (env : Env) (st : MTState) (q : MReq) (hI : Inv st) :
    Inv (stepMT env st q).1 := by
  rcases stepMT_cases env st q with hr | ⟨cs, cs', u, hs⟩
  · exact ⟨by rw [hr.wk]; exact hI.invalNil,
      by rw [hr.cli, hr.wk, hr.clock]; exact fun c cs h => (hI.cli c cs h).mono⟩
  · obtain ⟨hR1, hR2, _⟩ := hs.pairs hI
    refine ⟨hR1, fun c' v hv => ?_⟩
    rw [hs.cli] at hv
    rw [hs.clock]
    obtain ⟨hO, hP⟩ := clientOK_after_sync2 hI hs.known hs.sync c' v hv
    exact ⟨hO, fun w => (hR2 w c' v fun hc => Option.some.inj (((if_pos hc).symm.trans hv).symm)).pairOK
      hO (hP w)⟩

theorem inv_init (init : Nat → Side) (dom : Nat → List Nat) (size : Nat) :
    Inv (initMT init dom size) := by
  refine ⟨fun _ => rfl, ?_⟩
  rintro c _ ⟨rfl⟩
  refine ⟨⟨Nat.zero_lt_one, fun σ s hs => ?_⟩, fun _ => ⟨fun _ hv => (by cases hv), actOK_none _⟩⟩
  cases σ <;> simp only [CS.get, initCS, Option.map_map, Option.map_eq_some_iff, Option.some.injEq] at hs
  all_goals first | (obtain ⟨_, _, rfl⟩ := hs) | cases hs
  all_goals exact Nat.zero_lt_one

theorem inv_exec (env : Env) (h : List MReq) : ∀ st, Inv st → Inv (execMT env st h) := by
  induction h with
  | nil => intro st hI; exact hI
  | cons q qs ih => intro st hI; exact ih _ (inv_step env st q hI)

theorem usedCurrent_step (env : Env) (st : MTState) (q : MReq) (hI : Inv st) :
    (stepMT env st q).2.usedCurrent (stepMT env st q).1 q := by
  intro u hu
  rcases stepMT_cases env st q with hr | ⟨cs, cs', _, hs⟩
  · rw [hr.used] at hu; cases hu
  · exact ⟨cs', by rw [hs.cli]; exact if_pos rfl, (hs.pairs hI).2.2 u hu⟩

theorem agree1_step (env : Env) (st : MTState) (q : MReq) (c : Nat) (h : Agree1 st c)
    (hres : (stepMT env st q).2.res ≠ .syncFail) : Agree1 (stepMT env st q).1 c := by
  rcases stepMT_cases env st q with hr | ⟨cs, cs', u, hs⟩
  · exact absurd hr.res hres
  · obtain ⟨b', hb'⟩ := withAck_defined (st.bel q.c) q.r
    intro σ t hσ
    rw [hs.bel hres b' hb'] at hσ
    rw [hs.cli]
    by_cases hc : c = q.c
    · subst hc
      simp only [if_true] at hσ ⊢
      -- the same parts are laid over the belief and over the compiler server's version
      rw [withAck_get hb'] at hσ
      refine ⟨cs', rfl, ?_⟩
      rw [sync2_cont hs.sync]
      refine or_agree (fun x hx => ?_) t hσ
      obtain ⟨v, hv, hcont⟩ := h σ x hx
      rw [hs.known] at hv; cases hv
      exact hcont
    · simp only [hc, if_false] at hσ ⊢
      exact h σ t hσ

theorem agree1_init (init : Nat → Side) (dom : Nat → List Nat) (size : Nat) (c : Nat) :
    Agree1 (initMT init dom size) c := by
  intro σ t hσ
  refine ⟨_, rfl, ?_⟩
  rw [← hσ]
  cases σ <;> simp only [CS.cont, CS.get, initCS, Side.get, initMT, Option.map_map, Option.map_some] <;> rfl

theorem currentOf_eq_supplied (v : CS) (r : CReq) (u : Used) (h : currentOf v r.db = some u)
    (hs : ∀ p ∈ r.slots, v.cont p.1 = some p.2) : u = r.supplied := by
  unfold currentOf at h
  cases hd : v.dbs r.db with
  | none => rw [hd] at h; cases h
  | some d =>
    rw [hd] at h; cases h
    simp only [CReq.slots, List.forall_mem_cons, CS.cont, CS.get, hd, Option.map_some,
      Option.some.injEq] at hs
    obtain ⟨h1, h2, h3, h4, h5, _⟩ := hs
    simp only [CReq.supplied, h1, h2, h3, h4, h5]

theorem usedSupplied_step (env : Env) (st : MTState) (q : MReq) (hI : Inv st)
    (ha : Agree1 st q.c) : (stepMT env st q).2.usedSupplied q := by
  intro u hu
  obtain ⟨v, hv, hcur⟩ := usedCurrent_step env st q hI u hu
  rcases stepMT_cases env st q with hr | ⟨cs, cs', _, hs⟩
  · rw [hr.used] at hu; cases hu
  · rw [hs.cli] at hv
    cases (if_pos rfl).symm.trans hv
    -- every slot of `cs'` holds the supplied content: it was sent, or believed and so there
    refine currentOf_eq_supplied _ q.r u hcur fun p hp => ?_
    rw [sync2_cont hs.sync]
    refine (preargs_or_eq_some _ q.r p.1 p.2 hp _).2 fun _ hb => ?_
    obtain ⟨v, hv, hcont⟩ := ha p.1 p.2 hb
    rw [hs.known] at hv; cases hv
    exact hcont

theorem recordExact_step (env : Env) (st : MTState) (q : MReq) (hI : Inv st)
    (hR : RecordExact st) (hout : q.r.out ≠ .resultUnpicklable) :
    RecordExact (stepMT env st q).1 := by
  rcases stepMT_cases env st q with hr | ⟨cs, cs', u, hs⟩
  · rw [RecordExact, hr.wk]; exact hR
  · exact fun w c' => ((hs.pairs hI).2.1 w c' cs' fun _ => rfl).recordExact hout (hR w c')

theorem recordExact_init (init : Nat → Side) (dom : Nat → List Nat) (size : Nat) :
    RecordExact (initMT init dom size) := by
  intro w c v hv; simp [initMT, cacheGet] at hv

theorem recordExact_exec (env : Env) (h : List MReq) :
    ∀ st, Inv st → RecordExact st → NoStatus2MT h → RecordExact (execMT env st h) := by
  induction h with
  | nil => intro st _ hR _; exact hR
  | cons q qs ih =>
    intro st hI hR hn
    exact ih _ (inv_step env st q hI) (recordExact_step env st q hI hR (hn q (List.mem_cons_self ..)))
      (fun q' hq' => hn q' (List.mem_cons_of_mem _ hq'))

theorem agree1_exec (env : Env) (c : Nat) (h : List MReq) :
    ∀ st, Agree1 st c → NoFailedSync env st h → Agree1 (execMT env st h) c := by
  induction h with
  | nil => intro st ha _; exact ha
  | cons q qs ih =>
    intro st ha hn
    exact ih _ (agree1_step env st q c ha (hn _ (List.mem_cons_self ..)))
      fun o ho => hn o (List.mem_cons_of_mem _ ho)

end EdbVerif.SyncMT
