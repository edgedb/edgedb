/-
C08 — proof obligations over the GENERATED dispatch table (`Gen/Caps.lean`): finite, complete,
discharged by kernel evaluation.  An edited table / enum / class hierarchy makes one of these fail.
-/
import EdbVerif.Model.CapsSpec
import EdbVerif.Lemmas.CapsBits

namespace EdbVerif.Caps
open EdbVerif.Gen.Caps

theorem Kind.mem_all (k : Kind) : k ∈ Kind.all := by
  cases k with
  | migrationControl tx => revert tx; decide +kernel
  | configure s nb => revert nb; cases s <;> decide +kernel
  | analyze d => revert d; decide +kernel
  | query d => revert d; decide +kernel
  | _ => decide +kernel

theorem coversB_all :
    ∀ k ∈ Kind.all, (kindCaps k).any (fun c => decide (sub (expectedCap k) c)) = true := by
  decide +kernel

theorem covers (k : Kind) : ∃ c, kindCaps k = some c ∧ sub (expectedCap k) c :=
  have ⟨c, hc, hs⟩ := (Option.any_eq_true _ _).mp (coversB_all k (Kind.mem_all k))
  ⟨c, hc, of_decide_eq_true hs⟩

theorem table_named : ∀ r ∈ table, sub r.caps named := by decide

theorem kindCaps_named {k : Kind} {c : Caps} (h : kindCaps k = some c) : sub c named := by
  obtain ⟨r, hf, rfl⟩ := Option.map_eq_some_iff.mp h
  exact table_named r (List.mem_of_find?_eq_some hf)

/-- the rows of `Stmt.query` and `Stmt.analyze` -/
theorem kindCaps_query (d : Bool) :
    kindCaps (.query d) = some (if d then MODIFICATIONS else NONE) := by
  revert d; decide

theorem kindCaps_analyze (d : Bool) :
    kindCaps (.analyze d) = some (if d then MODIFICATIONS else NONE) := by
  revert d; decide

/-- every concrete statement class is dispatched to the branch its status family belongs to -/
theorem classes_dispatch : ∀ r ∈ classes, familyClass r.2.2 = some r.2.1 := by decide +kernel

/-- every path of the branch of a status family carries the capability of the family -/
theorem family_caps (fam : Family) :
    ∀ row ∈ table, familyClass fam = some row.cls → sub (familyCap fam) row.caps := by
  cases fam <;> decide +kernel

theorem classes_caps :
    ∀ r ∈ classes, ∀ row ∈ table, row.cls = r.2.1 → sub (familyCap r.2.2) row.caps :=
  fun r hr row hrow hc =>
    family_caps r.2.2 row hrow ((classes_dispatch r hr).trans (congrArg some hc.symm))

end EdbVerif.Caps
