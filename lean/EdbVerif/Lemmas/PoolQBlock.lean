/-
C16 safety, the operations on holders and waiters.  `InvQ` is, block by block, a statement about the
block and its own waiters (`BlockQ`); an operation touches one block, where `Inv₂` may be off by one
connection between its two halves (`InvQr`).
-/
import EdbVerif.Lemmas.PoolQFrame
import EdbVerif.Lemmas.ListAux

namespace EdbVerif.Pool

theorem InvQ.filterHolders {s : State} (h : InvQ s) (p : Holder → Bool) :
    InvQ { s with holders := s.holders.filter p } :=
  { h with
    hdis := fun w hw x hx => h.hdis w hw x (List.mem_filter.mp hx).1
    hreq := Keyed.nodup_map_filter h.hreq }

theorem InvQ.addHolder {s : State} (h : InvQ s) (x : Holder)
    (h1 : ∀ w ∈ s.waiters, w.id ≠ x.req) (h2 : ∀ y ∈ s.holders, y.req ≠ x.req) :
    InvQ { s with holders := s.holders ++ [x] } :=
  { h with
    hdis := fun w hw => ListAux.forall_mem_snoc (h.hdis w hw) (h1 w hw).symm
    hreq := Keyed.nodup_map_snoc h.hreq h2 }

theorem unlend_q {s : State} {r u c : Nat} (h : InvQ s) : InvQ (unlend s r u c) :=
  (h.filterHolders (·.req != r)).ofVS
    (VS.via (VS.mod _ u _ (by intro; exact .of_view rfl)) rfl rfl rfl rfl)

/-- what `InvQ` says about the block `b` given the waiters `ws`, with `k` idle connections more
    than `Inv₂` allows -/
structure BlockQ (ws : List Waiter) (k : Nat) (b : Block) : Prop where
  qnd : b.queue.Nodup
  qmem : ∀ r ∈ b.queue, ∃ w ∈ ws, w.id = r ∧ w.block = b.uid ∧ w.st = .queued
  qall : ∀ w ∈ ws, w.block = b.uid → w.st = .queued → w.id ∈ b.queue
  num : b.waitersNum = ((ws.filter fun w => w.block == b.uid).length : Int)
  inv2 : b.queue ≠ [] →
    b.stack.length ≤ (ws.filter fun w => w.block == b.uid && w.st == .woken).length + k

theorem BlockQ.congr {ws ws' : List Waiter} {k : Nat} {b : Block} (q : BlockQ ws k b)
    (h : ws'.filter (·.block == b.uid) = ws.filter (·.block == b.uid)) : BlockQ ws' k b := by
  have hm : ∀ w, w.block = b.uid → (w ∈ ws' ↔ w ∈ ws) := fun w hw => by
    have := congrArg (w ∈ ·) h
    simpa [List.mem_filter, hw] using this
  have hk : ∀ l : List Waiter, l.filter (fun w => w.block == b.uid && w.st == .woken) =
      (l.filter (·.block == b.uid)).filter (·.st == .woken) := fun l => by
    rw [List.filter_filter]; congr 1; funext w; exact Bool.and_comm ..
  refine ⟨q.qnd, fun r hr => ?_, fun w hw hb => q.qall w ((hm w hb).mp hw) hb, h ▸ q.num, ?_⟩
  · obtain ⟨w, hw, e⟩ := q.qmem r hr
    exact ⟨w, (hm w e.2.1).mpr hw, e⟩
  · rw [hk, h, ← hk]; exact q.inv2

/-- `InvQ` with `Inv₂` relaxed by `k` at block `u` -/
structure InvQr (s : State) (u k : Nat) : Prop where
  wids : (s.waiters.map (·.id)).Nodup
  known : ∀ w ∈ s.waiters, ∃ b ∈ s.blocks, b.uid = w.block
  noPrune : s.prunes = [] ∧ ∀ w ∈ s.waiters, w.prune = false
  hdis : ∀ w ∈ s.waiters, ∀ h ∈ s.holders, h.req ≠ w.id
  hreq : (s.holders.map (·.req)).Nodup
  blk : ∀ b ∈ s.blocks, BlockQ s.waiters (if b.uid = u then k else 0) b

theorem InvQ.r {s : State} (hu : (s.blocks.map (·.uid)).Nodup) (h : InvQ s) (u : Nat) : InvQr s u 0 :=
  ⟨h.wids, h.known, h.noPrune, h.hdis, h.hreq, fun b hb =>
    ⟨h.qnd b hb, h.qmem b hb, fun w hw hwb hst => by
      obtain ⟨b', hb', hu', hm⟩ := h.qall w hw hst
      rwa [eq_of_uid hu hb' hb (hu'.trans hwb)] at hm,
     h.num b hb, fun hne => by simpa [wokenOf] using h.inv2 b hb hne⟩⟩

/-- the slack at `u` does not matter when it is 0, or when `Inv₂` holds at `u` for a trivial reason: nobody
    sleeps in the queue, or no connection is idle -/
theorem InvQr.q {s : State} {u k : Nat} (r : InvQr s u k)
    (h0 : k = 0 ∨ ∀ b ∈ s.blocks, b.uid = u → b.queue = [] ∨ b.stack = []) : InvQ s := by
  refine ⟨r.wids, fun b hb => (r.blk b hb).qnd, fun b hb => (r.blk b hb).qmem, fun w hw hst => ?_,
    r.known, fun b hb => (r.blk b hb).num, fun b hb hne => ?_, r.noPrune, r.hdis, r.hreq⟩
  · obtain ⟨b, hb, hbu⟩ := r.known w hw
    exact ⟨b, hb, hbu, (r.blk b hb).qall w hw hbu.symm hst⟩
  · have := (r.blk b hb).inv2 hne
    by_cases hbu : b.uid = u
    · rcases h0 with rfl | h0
      · simpa [wokenOf] using this
      · rcases h0 b hb hbu with hq | hs
        · exact absurd hq hne
        · rw [hs]; exact Nat.zero_le _
    · simpa [hbu, wokenOf] using this

/-- The block `u` becomes `f b` and the waiters of the other blocks stay: the clauses about the
    waiters alone and about `f b` are what is left to show. -/
theorem InvQr.mod1 {s s' : State} {u k k' : Nat} {b : Block} (f : Block → Block)
    (hu : (s.blocks.map (·.uid)).Nodup) (r : InvQr s u k) (hb : s.find u = some b)
    (hB : s'.blocks = modB s.blocks u f) (hf : KeepsUid f)
    (hoth : ∀ v, v ≠ u → s'.waiters.filter (·.block == v) = s.waiters.filter (·.block == v))
    (wids : (s'.waiters.map (·.id)).Nodup)
    (noPrune : s'.prunes = [] ∧ ∀ w ∈ s'.waiters, w.prune = false)
    (hdis : ∀ w ∈ s'.waiters, ∀ h ∈ s'.holders, h.req ≠ w.id) (hreq : (s'.holders.map (·.req)).Nodup)
    (hblk : BlockQ s'.waiters k' (f b)) : InvQr s' u k' := by
  have hfu : (f b).uid = u := (hf b).trans (State.find_some hb).2
  refine ⟨wids, fun w' hw' => ?_, noPrune, hdis, hreq, fun x hx => ?_⟩
  · by_cases e : w'.block = u
    · exact ⟨f b, hB ▸ mem_modB_at hb f, hfu.trans e.symm⟩
    · -- a waiter of another block was there before
      have hm : w' ∈ s.waiters.filter (·.block == w'.block) :=
        hoth _ e ▸ List.mem_filter.mpr ⟨hw', beq_self_eq_true _⟩
      obtain ⟨b1, hb1, hu1⟩ := r.known w' (List.mem_filter.mp hm).1
      refine ⟨_, hB ▸ mem_modB_of_mem hb1, ?_⟩
      rw [← hu1]
      exact of_ite (P := fun x : Block => x.uid = b1.uid) (fun _ => hf b1) fun _ => rfl
  · rw [hB] at hx
    rcases mem_modB_cases hu hb hx with ⟨hxu, hxs⟩ | rfl
    · simpa [hxu] using (r.blk x hxs).congr (hoth x.uid hxu)
    · simpa [hfu] using hblk

theorem getBlock_q {s : State} (hn : WF s) (h : InvQ s) (name : Nat) : InvQ (getBlock s name).1 := by
  unfold getBlock
  split
  · exact h
  · have r := h.r hn.uids s.nextUid
    -- nobody waits on a uid that was never handed out
    have hnew : ∀ w ∈ s.waiters, w.block ≠ s.nextUid := fun w hw e => by
      obtain ⟨b, hb, hu⟩ := h.known w hw
      exact Nat.ne_of_lt (hn.uidsFresh b hb) (hu.trans e)
    have h1 : InvQ { s with blocks := s.blocks ++ [({ uid := s.nextUid, name := name } : Block)],
                            nextUid := s.nextUid + 1 } := by
      refine InvQr.q (u := s.nextUid) (k := 0) ⟨r.wids, fun w hw => ?_, r.noPrune, r.hdis, r.hreq,
        ListAux.forall_mem_snoc r.blk
          ⟨.nil, nofun, fun w hw hb => absurd hb (hnew w hw), ?_, fun hne => absurd rfl hne⟩⟩ (.inl rfl)
      · obtain ⟨b, hb, hu⟩ := h.known w hw
        exact ⟨b, List.mem_append_left _ hb, hu⟩
      · show (0 : Int) = ((s.waiters.filter fun w => w.block == s.nextUid).length : Int)
        have : (s.waiters.filter fun w => w.block == s.nextUid) = [] :=
          List.filter_eq_nil_iff.mpr fun w hw => by simpa using hnew w hw
        rw [this]; rfl
    exact of_ite (fun _ => h1.ofVS (VS.toFront _ _)) fun _ => h1

theorem dropBlock_q {s : State} (hu : (s.blocks.map (·.uid)).Nodup) (h : InvQ s) {u : Nat} {b : Block}
    (hb : s.find u = some b) (hw0 : b.waitersNum = 0) :
    InvQ { s with blocks := s.blocks.filter (·.uid != u) } := by
  obtain ⟨hbm, hbu⟩ := State.find_some hb
  have r := h.r hu u
  -- `conn_waiters_num = 0`: nobody is inside `try_acquire` of the block
  have hnone : ∀ w ∈ s.waiters, w.block ≠ u := fun w hw e => by
    have := (r.blk b hbm).num
    rw [hw0, hbu] at this
    have hm : w ∈ s.waiters.filter fun w => w.block == u := List.mem_filter.mpr ⟨hw, by simpa using e⟩
    have h0 : (s.waiters.filter fun w => w.block == u) = [] := List.length_eq_zero_iff.mp (by omega)
    exact absurd (h0 ▸ hm) List.not_mem_nil
  refine InvQr.q (u := u) (k := 0) ⟨r.wids, fun w hw => ?_, r.noPrune, r.hdis, r.hreq,
    fun x hx => r.blk x (List.mem_filter.mp hx).1⟩ (.inl rfl)
  obtain ⟨x, hx, hxu⟩ := r.known w hw
  exact ⟨x, List.mem_filter.mpr ⟨hx, by simpa using fun e => hnone w hw (hxu.symm.trans e)⟩, hxu⟩

/-- `InvQr.mod1` for an operation that maps the waiters by a `g` which only changes `st`, and that
    only of waiters of block `u` -/
theorem InvQr.mapW {s s' : State} {u k k' : Nat} {b : Block} (f : Block → Block) (g : Waiter → Waiter)
    (hu : (s.blocks.map (·.uid)).Nodup) (r : InvQr s u k) (hb : s.find u = some b)
    (hB : s'.blocks = modB s.blocks u f) (hW : s'.waiters = s.waiters.map g)
    (hH : s'.holders = s.holders) (hP : s'.prunes = s.prunes) (hf : KeepsUid f)
    (hg : ∀ w, (g w).id = w.id ∧ (g w).block = w.block ∧ (g w).prune = w.prune)
    (hfix : ∀ w ∈ s.waiters, w.block ≠ u → g w = w)
    (hblk : BlockQ (s.waiters.map g) k' (f b)) : InvQr s' u k' := by
  have hmap : ∀ w' ∈ s'.waiters, ∃ w ∈ s.waiters, w' = g w := fun w' hw' => by
    obtain ⟨w, hw, e⟩ := List.mem_map.mp (hW ▸ hw'); exact ⟨w, hw, e.symm⟩
  refine InvQr.mod1 f hu r hb hB hf (fun v hv => ?_) ?_ ⟨hP ▸ r.noPrune.1, fun w' hw' => ?_⟩
    (fun w' hw' => ?_) (hH ▸ r.hreq) (hW ▸ hblk)
  · rw [hW]
    exact filter_map_fix (fun w _ => by rw [(hg w).2.1]) fun w hw hwv =>
      hfix w hw fun e => hv ((by simpa using hwv : w.block = v).symm.trans e)
  · have : (fun x : Waiter => x.id) ∘ g = (·.id) := funext fun w => (hg w).1
    rw [hW, List.map_map, this]; exact r.wids
  · obtain ⟨w, hw, rfl⟩ := hmap w' hw'
    rw [(hg w).2.2]; exact r.noPrune.2 w hw
  · obtain ⟨w, hw, rfl⟩ := hmap w' hw'
    rw [(hg w).1, hH]; exact r.hdis w hw

theorem woken_after (ws : List Waiter) (w0 : Waiter) (hnd : (ws.map (·.id)).Nodup)
    (hm : w0 ∈ ws) (hst : w0.st = .queued) :
    ((ws.map (setWoken w0.id)).filter fun w => w.block == w0.block && w.st == .woken).length =
      (ws.filter fun w => w.block == w0.block && w.st == .woken).length + 1 := by
  obtain ⟨l₁, l₂, rfl, hne⟩ := Keyed.exists_split hnd hm
  have e : (l₁ ++ w0 :: l₂).map (setWoken w0.id) = l₁ ++ { w0 with st := .woken } :: l₂ :=
    Keyed.modify_split (key := fun w : Waiter => w.id) (fun w => { w with st := .woken }) rfl hne
  rw [e]
  -- `w0` was queued, hence not counted before, and is counted now
  simp [List.filter_append, hst]
  omega

/-- the heart of no-lost-wakeup: the head `r0` of the queue of block `u` is woken.  `Inv₂` of `s` may be
    relaxed by `k ≤ 1` at `u` (one connection was just pushed). -/
theorem wake_core {s s' : State} (hu : (s.blocks.map (·.uid)).Nodup) {u k : Nat} (r : InvQr s u k)
    {b : Block} (hb : s.find u = some b) {r0 : Nat} {rest : List Nat} (hq : b.queue = r0 :: rest)
    (hB : s'.blocks = modB s.blocks u fun b => { b with queue := rest })
    (hW : s'.waiters = s.waiters.map (setWoken r0)) (hH : s'.holders = s.holders)
    (hP : s'.prunes = s.prunes) (hk : k ≤ 1) : InvQ s' := by
  obtain ⟨hbm, hbu⟩ := State.find_some hb
  have q := r.blk b hbm
  rw [hbu, if_pos rfl] at q
  obtain ⟨w0, hw0, rfl, hblk, hst⟩ := q.qmem r0 (hq ▸ List.mem_cons_self)
  have hqn : (w0.id :: rest).Nodup := hq ▸ q.qnd
  refine (InvQr.mapW (k' := 0) (fun b => { b with queue := rest }) (setWoken w0.id) hu r hb hB hW hH hP
    (fun _ => rfl) (setWoken_same _) (fun w hw hwu => setWoken_ne fun e => hwu ?_)
    ⟨(List.nodup_cons.mp hqn).2, fun r' hr' => ?_, fun w hw hwb hstw => ?_, ?_, fun _ => ?_⟩).q (.inl rfl)
  · rw [Keyed.eq_of_key r.wids hw hw0 e]; exact hblk.trans hbu
  · obtain ⟨w', hw', hid', e⟩ := q.qmem r' (hq ▸ List.mem_cons_of_mem _ hr')
    have hne : w'.id ≠ w0.id := fun e => (List.nodup_cons.mp hqn).1 (e ▸ hid' ▸ hr')
    exact ⟨w', setWoken_ne hne ▸ List.mem_map_of_mem (f := setWoken w0.id) hw', hid', e⟩
  · obtain ⟨w1, hw1, rfl⟩ := List.mem_map.mp hw
    by_cases hid1 : w1.id = w0.id
    · rw [setWoken_eq hid1] at hstw; cases hstw
    · rw [setWoken_ne hid1] at hwb hstw ⊢
      rcases List.mem_cons.mp (hq ▸ q.qall w1 hw1 hwb hstw) with h | h
      · exact absurd h hid1
      · exact h
  · rw [length_filter_map_congr fun w _ => by rw [(setWoken_same _ w).2.1]]; exact q.num
  · have := q.inv2 (by rw [hq]; exact List.cons_ne_nil _ _)
    have hw := woken_after s.waiters w0 r.wids hw0 hst
    rw [hblk] at hw
    show b.stack.length ≤ ((s.waiters.map (setWoken w0.id)).filter fun w => w.block == b.uid && w.st == .woken).length + 0
    omega

theorem wakeNext_q {s : State} (hu : (s.blocks.map (·.uid)).Nodup) {u k : Nat} (r : InvQr s u k)
    (hk : k ≤ 1) : InvQ (wakeNext s u) := by
  unfold wakeNext
  split
  · rename_i b hb
    split
    · rename_i hq
      exact r.q (.inr fun x hx hxu =>
        .inl (State.eq_of_find hu hb hx hxu ▸ hq))
    · rename_i r0 rest hq
      exact wake_core hu r hb hq rfl rfl rfl rfl hk
  · rename_i hnone
    exact r.q (.inr fun x hx hxu => absurd hxu (findB_none hnone x hx))

theorem InvQr.stack {s : State} {u k k' : Nat} (hu : (s.blocks.map (·.uid)).Nodup) (r : InvQr s u k)
    (st : List Nat → List Nat) (hst : ∀ (l : List Nat) n, l.length ≤ n + k → (st l).length ≤ n + k') :
    InvQr (s.mod u fun b => { b with stack := st b.stack }) u k' := by
  cases hb : s.find u with
  | none =>
    rw [State.mod_none _ hb]
    exact { r with blk := fun x hx => by simpa [findB_none hb x hx] using r.blk x hx }
  | some b =>
    have q := r.blk b (State.find_some hb).1
    rw [(State.find_some hb).2, if_pos rfl] at q
    exact InvQr.mod1 (fun b => { b with stack := st b.stack }) hu r hb rfl (fun _ => rfl) (fun _ _ => rfl)
      r.wids r.noPrune r.hdis r.hreq ⟨q.qnd, q.qmem, q.qall, q.num, fun hne => by
        show (st b.stack).length ≤ (s.waiters.filter _).length + k'
        exact hst b.stack _ (q.inv2 hne)⟩

theorem blockRelease_q {s : State} {u c : Nat} (h : InvQ s) (hu : (s.blocks.map (·.uid)).Nodup) :
    InvQ (blockRelease s u c) :=
  wakeNext_q (uids_mod hu u _ (by intro; rfl))
    ((h.r hu u).stack (k' := 1) hu (· ++ [c]) fun l n hn => by simp; omega) (Nat.le_refl 1)

/-- a task goes to sleep in the queue of block `u`; the stack is empty then, so `Inv₂` holds at `u` whatever `k` -/
theorem enqueue_q {s s' : State} (hu : (s.blocks.map (·.uid)).Nodup) {u k id a : Nat} (r : InvQr s u k)
    {b : Block} (hb : s.find u = some b) (hst : b.stack = []) (hfr : ∀ w ∈ s.waiters, w.id ≠ id)
    (hho : ∀ x ∈ s.holders, x.req ≠ id)
    (hB : s'.blocks = modB s.blocks u fun b =>
      { b with waitersNum := b.waitersNum + 1, queue := if a > 1 then id :: b.queue else b.queue ++ [id] })
    (hW : s'.waiters = s.waiters ++ [⟨id, u, .queued, a, false⟩]) (hH : s'.holders = s.holders)
    (hP : s'.prunes = s.prunes) : InvQ s' := by
  obtain ⟨hbm, hbu⟩ := State.find_some hb
  have q := r.blk b hbm
  have hidq : id ∉ b.queue := fun hm => by
    obtain ⟨w, hw, hwid, _⟩ := q.qmem id hm
    exact hfr w hw hwid
  have hmemq : ∀ r, r ∈ (if a > 1 then id :: b.queue else b.queue ++ [id]) ↔ r = id ∨ r ∈ b.queue := by
    intro r; split <;> simp [or_comm]
  have hsnoc {p : Waiter → Prop} (h1 : ∀ w ∈ s.waiters, p w) (h2 : p ⟨id, u, .queued, a, false⟩) :
      ∀ w ∈ s'.waiters, p w :=
    hW ▸ ListAux.forall_mem_snoc h1 h2
  refine (InvQr.mod1 (k' := 0) _ hu r hb hB (fun _ => rfl) (fun v hv => ?_)
    (hW ▸ Keyed.nodup_map_snoc r.wids hfr) ⟨hP ▸ r.noPrune.1, hsnoc r.noPrune.2 rfl⟩
    (hH ▸ hsnoc r.hdis hho) (hH ▸ r.hreq)
    ⟨?_, fun r' hr' => ?_,
      hsnoc (fun w hw hwb hstw => (hmemq _).mpr (.inr (q.qall w hw hwb hstw))) fun _ _ => (hmemq _).mpr (.inl rfl),
      ?_, fun _ => ?_⟩).q (.inl rfl)
  · rw [hW, List.filter_append, List.filter_cons_of_neg (by simpa using fun e => hv e.symm), List.filter_nil,
      List.append_nil]
  · show (if a > 1 then id :: b.queue else b.queue ++ [id]).Nodup
    split
    · exact List.nodup_cons.mpr ⟨hidq, q.qnd⟩
    · exact ListAux.nodup_snoc.mpr ⟨hidq, q.qnd⟩
  · rcases (hmemq r').mp hr' with he | hq
    · exact ⟨⟨id, u, .queued, a, false⟩, by simp [hW], he.symm, hbu.symm, rfl⟩
    · obtain ⟨w, hw, e⟩ := q.qmem r' hq
      exact ⟨w, hW ▸ List.mem_append_left _ hw, e⟩
  · show b.waitersNum + 1 = ((s'.waiters.filter fun w : Waiter => w.block == b.uid).length : Int)
    rw [hW, List.filter_append, List.filter_cons_of_pos (by simpa using hbu.symm), List.filter_nil]
    have := q.num
    simp only [List.length_append, List.length_cons, List.length_nil]
    omega
  · show b.stack.length ≤ _
    rw [hst]; exact Nat.zero_le _

/-- a task that is not asleep leaves `try_acquire` (`finally: conn_waiters_num -= 1`); a woken one
    had a connection coming, which now is one more than `Inv₂` allows -/
theorem leaveWait_qr {s : State} (hu : (s.blocks.map (·.uid)).Nodup) (h : InvQ s) {u : Nat} {b : Block}
    (hb : s.find u = some b) {w : Waiter} (hw : w ∈ s.waiters) (hblk : w.block = u)
    (hnq : w.st ≠ .queued) :
    InvQr (leaveWait s w.id u) u (if w.st == .woken then 1 else 0) := by
  obtain ⟨hbm, hbu⟩ := State.find_some hb
  have r := h.r hu u
  have q := r.blk b hbm
  rw [hbu, if_pos rfl] at q
  have hsub : ∀ x ∈ s.waiters.filter (·.id != w.id), x ∈ s.waiters := fun x hx => (List.mem_filter.mp hx).1
  have hkeepq : ∀ x ∈ s.waiters, x.st = .queued → x ∈ s.waiters.filter (·.id != w.id) := fun x hx hst =>
    List.mem_filter.mpr ⟨hx, by simpa using fun e => hnq (Keyed.eq_of_key h.wids hx hw e ▸ hst)⟩
  have hcount := fun p => Keyed.length_filter_erase h.wids hw p
  refine InvQr.mod1 (fun b => { b with waitersNum := b.waitersNum - 1 }) hu r hb rfl (fun _ => rfl)
    (fun v hv => ?_)
    (Keyed.nodup_map_filter h.wids)
    ⟨h.noPrune.1, fun x hx => h.noPrune.2 x (hsub x hx)⟩ (fun x hx => h.hdis x (hsub x hx)) h.hreq
    ⟨q.qnd, fun r' hr' => ?_, fun x hx => q.qall x (hsub x hx), ?_, fun hne => ?_⟩
  · show (s.waiters.filter _).filter _ = _
    rw [List.filter_filter]
    refine List.filter_congr fun x hx => ?_
    by_cases hxv : x.block = v
    · have : x.id ≠ w.id := fun e => hv (hxv.symm.trans (Keyed.eq_of_key h.wids hx hw e ▸ hblk))
      simp [hxv, this]
    · simp [hxv]
  · obtain ⟨w', hw', e⟩ := q.qmem r' hr'
    exact ⟨w', hkeepq w' hw' e.2.2, e⟩
  · have := q.num
    have hc := hcount fun y => y.block == b.uid
    rw [hblk, hbu, beq_self_eq_true, if_pos rfl] at hc
    show b.waitersNum - 1 = (((s.waiters.filter _).filter _).length : Int)
    rw [hbu] at this ⊢
    omega
  · have := q.inv2 hne
    have hc := hcount fun y => y.block == u && y.st == .woken
    rw [hblk, beq_self_eq_true, Bool.true_and] at hc
    show b.stack.length ≤ ((s.waiters.filter _).filter _).length + _
    rw [hbu] at this ⊢
    omega

theorem abortWaiters_q {s : State} (hu : (s.blocks.map (·.uid)).Nodup) (h : InvQ s) (u : Nat) :
    InvQ (abortWaiters s u) := by
  unfold abortWaiters
  split
  · exact h
  · rename_i b hb
    obtain ⟨hbm, hbu⟩ := State.find_some hb
    have r := h.r hu u
    have q := r.blk b hbm
    -- the waiters in the queue of `b` are exactly sleeping waiters of block `u`
    have hinq : ∀ w ∈ s.waiters, w.id ∈ b.queue → w.block = u ∧ w.st = .queued := fun w hw hm => by
      obtain ⟨w', hw', h1, h2, h3⟩ := q.qmem w.id hm
      rw [← Keyed.eq_of_key h.wids hw' hw h1]
      exact ⟨h2.trans hbu, h3⟩
    refine (InvQr.mapW (k' := 0) (s' := { (s.mod u fun b => { b with queue := [] }) with
        waiters := s.waiters.map (setAborted b.queue) }) (fun b => { b with queue := [] }) (setAborted b.queue)
      hu r hb rfl rfl rfl rfl (fun _ => rfl) (setAborted_same _)
      (fun w hw hwu => setAborted_notin fun hm => hwu (hinq w hw hm).1)
      ⟨List.nodup_nil, List.forall_mem_nil _, fun w' hw' hwb hst => ?_, ?_,
        fun hne => absurd rfl hne⟩).q (.inl rfl)
    · obtain ⟨w, hw, rfl⟩ := List.mem_map.mp hw'
      by_cases hm : w.id ∈ b.queue
      · rw [setAborted_in hm] at hst; cases hst
      · rw [setAborted_notin hm] at hwb hst
        exact absurd (q.qall w hw hwb hst) hm
    · show b.waitersNum = (((s.waiters.map (setAborted b.queue)).filter _).length : Int)
      rw [length_filter_map_congr fun w _ => by rw [(setAborted_same _ w).2.1]]; exact q.num

theorem lend_q {s : State} (h : InvQ s) (r u c : Nat) (h1 : ∀ w ∈ s.waiters, w.id ≠ r)
    (h2 : ∀ y ∈ s.holders, y.req ≠ r) : InvQ (lend s r u c) := by
  unfold lend
  have h0 : InvQ { s with nacq := s.nacq - 1 } := h.rest ..
  simp only
  split
  · exact h0.rest ..
  · rename_i b _
    split
    · let f : Block → Block := fun b => { b with acquired := b.acquired + 1, conns := b.conns.map fun p => if p.1 == c then (c, true) else p }
      have hm : InvQ (({ s with nacq := s.nacq - 1 } : State).mod u f) :=
        h0.ofVS (VS.mod _ u f (by intro b; exact .of_view rfl))
      exact hm.addHolder ⟨r, b.name, c⟩ h1 h2
    · exact h0.rest ..

theorem acqFinish_q {s : State} (hu : (s.blocks.map (·.uid)).Nodup) (h : InvQ s) (r u : Nat)
    (hid : idInUse s r = false) : InvQ (acqFinish s r u) := by
  obtain ⟨h1, h2⟩ := idInUse_false hid
  unfold acqFinish
  cases hb : s.find u with
  | none =>
    rw [tryAcq_none hb]
    exact h.rest ..
  | some b =>
    cases hc : b.stack.getLast? with
    | some c =>
      rw [tryAcq_pop hb hc]
      have hp : InvQ (s.mod u fun b => { b with stack := b.stack.dropLast }) :=
        h.ofVS (VS.mod1 hu hb _ ⟨rfl, rfl, rfl, by simp [List.length_dropLast]⟩)
      exact lend_q hp r u c h1 h2
    | none =>
      rw [tryAcq_wait hb hc]
      exact enqueue_q hu (h.r hu u) hb (List.getLast?_eq_none_iff.mp hc) h1 h2 rfl rfl rfl rfl

theorem connOk_q {s : State} {u name : Nat} (hu : (s.blocks.map (·.uid)).Nodup) (h : InvQ s) :
    InvQ (connOk s u name) := by
  unfold connOk
  let f : Block → Block := fun b => { b with failures := 0, pending := b.pending - 1, conns := b.conns ++ [(s.nextConn, false)] }
  have h1 : InvQ { (s.mod u f) with nextConn := s.nextConn + 1, home := s.home ++ [(s.nextConn, name)],
                                     live := s.live ++ [s.nextConn] } :=
    h.ofVS (VS.via (VS.mod s u f (by intro b; exact .of_view rfl)) rfl rfl rfl rfl)
  exact blockRelease_q h1 (uids_mod hu u f fun _ => rfl)

theorem wakeNext_keeps {s : State} (h : InvQ s) (u : Nat) {w : Waiter} (hw : w ∈ s.waiters)
    (hst : w.st ≠ .queued) {v : Nat} {b : Block} (hb : s.find v = some b) :
    (wakeNext s u).blocks.map (·.uid) = s.blocks.map (·.uid) ∧ w ∈ (wakeNext s u).waiters ∧
      ∃ b', (wakeNext s u).find v = some b' := by
  unfold wakeNext
  split
  · rename_i b2 hb2
    split
    · exact ⟨rfl, hw, _, hb⟩
    · rename_i r rest hq
      refine ⟨map_uid_modB fun _ => rfl, ?_, State.exists_find_mod _ _ _ (fun _ => rfl) hb⟩
      obtain ⟨w', hw', hid', _, hst'⟩ := h.qmem _ (State.find_some hb2).1 r (hq ▸ List.mem_cons_self)
      have : w.id ≠ r := fun e => hst (Keyed.eq_of_key h.wids hw' hw (hid'.trans e.symm) ▸ hst')
      exact setWoken_ne this ▸ List.mem_map_of_mem (f := setWoken r) hw
  · exact ⟨rfl, hw, _, hb⟩

theorem resume_q {s : State} (hu : (s.blocks.map (·.uid)).Nodup) (h : InvQ s) (id : Nat) :
    InvQ (resume s id) := by
  unfold resume
  split
  · exact h.rest ..
  · rename_i w hfind
    obtain ⟨hw, hwid⟩ := Keyed.find_some hfind
    have hnp : w.prune = false := h.noPrune.2 w hw
    simp only
    split
    · exact h.rest ..
    · rename_i b hb
      split
      · exact h.rest ..
      · -- aborted: wake the next one if a connection is there, leave, re-raise
        rename_i hst
        have hnq : w.st ≠ .queued := by rw [hst]; simp
        have key : ∀ s1 : State, InvQ s1 → (s1.blocks.map (·.uid)).Nodup → w ∈ s1.waiters →
            (∃ b1, s1.find w.block = some b1) → InvQ (leaveWait s1 id w.block) := by
          intro s1 h1 hu1 hw1 ⟨b1, hb1⟩
          have := leaveWait_qr hu1 h1 hb1 hw1 rfl hnq
          rw [hwid] at this
          exact this.q (.inl (by rw [hst]; rfl))
        have h2 : InvQ (leaveWait (if b.stack.isEmpty then s else wakeNext s w.block) id w.block) := by
          refine of_ite (P := fun x => InvQ (leaveWait x id w.block)) (fun _ => key s h hu hw ⟨b, hb⟩) fun _ => ?_
          obtain ⟨e, hw1, hb1⟩ := wakeNext_keeps h w.block hw hnq hb
          exact key _ (wakeNext_q hu (h.r hu _) (Nat.zero_le _)) (e ▸ hu) hw1 hb1
        simp only [hnp, Bool.false_eq_true, ↓reduceIte]
        exact h2.rest ..
      · -- woken: its connection is on the stack, or somebody else took it and the task waits again
        rename_i hst
        have hl : InvQr (leaveWait s id w.block) w.block 1 := by
          have := leaveWait_qr hu h hb hw rfl (by rw [hst]; simp)
          rwa [hwid, hst] at this
        have hul : ((leaveWait s id w.block).blocks.map (·.uid)).Nodup := uids_mod hu _ _ (fun _ => rfl)
        have hbl := find_leaveWait (id := id) hb
        have hfr : ∀ x ∈ (leaveWait s id w.block).waiters, x.id ≠ id := fun x hx => by
          simpa using (List.mem_filter.mp hx).2
        have hho : ∀ y ∈ s.holders, y.req ≠ id := fun y hy e => h.hdis w hw y hy (e.trans hwid.symm)
        split
        · rename_i c hc
          simp only [hnp, Bool.false_eq_true, ↓reduceIte]
          exact lend_q ((hl.stack hul List.dropLast fun l n hn => by
            rw [List.length_dropLast]; omega).q (.inl rfl)) id w.block c hfr hho
        · rename_i hc
          simp only [hnp, Bool.false_eq_true, ↓reduceIte]
          rw [tryAcq_wait hbl hc]
          exact enqueue_q hul hl hbl (List.getLast?_eq_none_iff.mp hc) hfr hho rfl rfl rfl rfl

theorem init_q (max : Nat) : InvQ (init max) :=
  have e {α : Type} {p : α → Prop} : ∀ x ∈ ([] : List α), p x := List.forall_mem_nil p
  ⟨.nil, e, e, e, e, e, e, ⟨rfl, e⟩, e, .nil⟩

end EdbVerif.Pool
