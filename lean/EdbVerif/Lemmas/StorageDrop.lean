/-
No operation list emitted for a command re-creates what it drops, so what a step drops is absent
from the layout of the next schema.
-/
import EdbVerif.Lemmas.Storage
namespace EdbVerif.Storage

/-- `o2` does not re-create what `o1` drops -/
def compat (o1 o2 : Op) : Prop :=
  match o1, o2 with
  | .dropTable t _, .createTable u _ _ => t ≠ u
  | .dropCol t c, .addCol u d _ => (t, c) ≠ (u, d)
  | .dropCol t _, .createTable u _ _ => t ≠ u    -- a created table comes with columns
  | _, _ => True

def NoRecreate (ops : List Op) : Prop := ∀ o1 ∈ ops, ∀ o2 ∈ ops, compat o1 o2

/-- what `d` drops is absent from `c` -/
def Gone (d : Op) (c : Catalog) : Prop :=
  match d with
  | .dropTable t _ => t ∉ c.tables
  | .dropCol t x => (t, x) ∉ c.cols
  | _ => True

theorem gone_of_exec {c c' : Catalog} {d : Op} (h : exec c d = some c') : Gone d c' := by
  cases d with
  | dropTable t b =>
    simp only [exec] at h
    split at h
    · cases h; simp [Gone]
    · split at h
      · cases h; assumption
      · cases h
  | dropCol t x =>
    simp only [exec] at h
    split at h
    · cases h; simp [Gone]
    · cases h
  | _ => trivial

theorem exec_new {c c' : Catalog} {o : Op} (h : exec c o = some c') :
    (∀ u ∈ c'.tables, u ∈ c.tables ∨ ∃ cs b, o = .createTable u cs b) ∧
    ∀ y ∈ c'.cols, y ∈ c.cols ∨ (∃ b, o = .addCol y.1 y.2 b) ∨ ∃ cs b, o = .createTable y.1 cs b := by
  cases o with
  | createTable t cs b =>
    simp only [exec] at h
    split at h
    · split at h
      · cases h; exact ⟨fun _ => .inl, fun _ => .inl⟩
      · cases h
    · cases h
      refine ⟨fun u hu => (List.mem_cons.mp hu).symm.imp_right fun e => ⟨cs, b, by rw [e]⟩, fun y hy => ?_⟩
      refine (List.mem_append.mp hy).symm.imp_right fun h => .inr ⟨cs, b, ?_⟩
      obtain ⟨_, _, rfl⟩ := List.mem_map.mp h
      rfl
  | dropTable t b =>
    simp only [exec] at h
    split at h
    · cases h; exact ⟨fun _ hu => .inl (List.mem_filter.mp hu).1, fun _ hy => .inl (List.mem_filter.mp hy).1⟩
    · split at h
      · cases h; exact ⟨fun _ => .inl, fun _ => .inl⟩
      · cases h
  | addCol t x b =>
    simp only [exec] at h
    split at h
    · split at h
      · cases h; exact ⟨fun _ => .inl, fun _ => .inl⟩
      · cases h
    · split at h
      · cases h
        exact ⟨fun _ => .inl, fun y hy => (List.mem_cons.mp hy).symm.imp_right fun e => .inl ⟨b, by rw [e]⟩⟩
      · cases h
  | dropCol t x =>
    simp only [exec] at h
    split at h
    · cases h; exact ⟨fun _ => .inl, fun _ hy => .inl (List.mem_filter.mp hy).1⟩
    · cases h

theorem Gone.step {c c' : Catalog} {d o : Op} (hg : Gone d c) (hc : compat d o) (h : exec c o = some c') :
    Gone d c' := by
  obtain ⟨hT, hC⟩ := exec_new h
  cases d with
  | dropTable t b =>
    intro ht
    rcases hT t ht with h | ⟨cs, b, rfl⟩
    · exact hg h
    · exact hc rfl
  | dropCol t x =>
    intro hx
    rcases hC _ hx with h | ⟨b, rfl⟩ | ⟨cs, b, rfl⟩
    · exact hg h
    · exact hc rfl
    · exact hc rfl
  | _ => trivial

theorem Gone.steps {d : Op} {ops : List Op} (hc : ∀ o ∈ ops, compat d o) {c c' : Catalog} (hg : Gone d c)
    (h : execAll c ops = some c') : Gone d c' := by
  induction ops generalizing c with
  | nil => cases h; exact hg
  | cons o os ih =>
    simp only [execAll] at h
    split at h
    · exact ih (fun o' ho' => hc o' (List.mem_cons_of_mem _ ho')) (hg.step (hc o List.mem_cons_self) ‹_›) h
    · cases h

theorem dropped_stays {ops : List Op} (hnr : NoRecreate ops) {c c' : Catalog}
    (hex : execAll c ops = some c') {o : Op} (ho : o ∈ ops) : Gone o c' := by
  induction ops generalizing c with
  | nil => cases ho
  | cons o0 os ih =>
    simp only [execAll] at hex
    split at hex
    · rename_i c1 h1
      rcases List.mem_cons.mp ho with rfl | ho'
      · exact (gone_of_exec h1).steps (fun o' ho' => hnr _ List.mem_cons_self o' (List.mem_cons_of_mem _ ho')) hex
      · exact ih (fun a ha b hb => hnr a (List.mem_cons_of_mem _ ha) b (List.mem_cons_of_mem _ hb)) hex ho'
    · cases hex

theorem noRecreate_nil : NoRecreate [] := fun _ h => by cases h

def Op.isDrop : Op → Bool
  | .dropTable .. | .dropCol .. => true
  | _ => false

theorem compat_of_create_left {o1 : Op} (o2 : Op) (h : o1.isDrop = false) : compat o1 o2 := by
  cases o1 <;> cases o2 <;> first | trivial | cases h

theorem compat_of_drop_right (o1 : Op) {o2 : Op} (h : o2.isDrop = true) : compat o1 o2 := by
  cases o1 <;> cases o2 <;> first | trivial | cases h

theorem noRecreate_of_drops {ops : List Op} (h : ops.all Op.isDrop = true) : NoRecreate ops :=
  fun o1 _ o2 h2 => compat_of_drop_right o1 (List.all_eq_true.mp h o2 h2)

theorem noRecreate_of_creates {ops : List Op} (h : ops.all (fun o => !o.isDrop) = true) : NoRecreate ops :=
  fun o1 h1 o2 _ => compat_of_create_left o2 (by simpa using List.all_eq_true.mp h o1 h1)

theorem createOps_creates (p : Ptr) : (createOps p).all (fun o => !o.isDrop) = true := by
  unfold createOps
  cases p.hasTable <;> rcases p.srcCol with _ | ⟨t, c⟩ <;> rfl

theorem unstoreOps_drops (p : Ptr) : (unstoreOps p).all Op.isDrop = true := by
  unfold unstoreOps
  cases p.hasTable <;> rcases p.srcCol with _ | ⟨t, c⟩ <;> rfl

theorem lpropStoreOps_creates (p p' : Ptr) (c : CName) (b : Bool) :
    (lpropStoreOps p p' c b).all (fun o => !o.isDrop) = true := by
  unfold lpropStoreOps
  cases p'.hasTable <;> cases p.hasTable <;> cases b <;> rfl

theorem lpropUnstoreOps_drops (p p' : Ptr) (c : CName) : (lpropUnstoreOps p p' c).all Op.isDrop = true := by
  unfold lpropUnstoreOps
  cases p'.hasTable <;> cases p.hasTable <;> rfl

open Lean Elab Tactic in
/-- `NoRecreate` for one constructor of `DDL` by brute force: split the definition of `emit`, read off the operation
    list, check all pairs.  `sat_noRecreate` below does not use it: it walks `emit` and gives the reason per list. -/
macro "nr_case" hem:ident : tactic => `(tactic|
  (simp only [emit, createOps, lpropStoreOps, lpropUnstoreOps, dropPtrTable] at $hem:ident
   repeat' split at $hem:ident
   all_goals first
     | (cases $hem:ident; done)
     | (simp only [Option.some.injEq, Prod.mk.injEq] at $hem:ident
        obtain ⟨_, hops⟩ := $hem
        subst hops
        intro o1 h1 o2 h2
        simp only [List.mem_append, List.mem_cons, List.not_mem_nil, or_false, false_or,
          List.mem_singleton, List.append_nil, List.nil_append] at h1 h2 <;>
        grind [compat])))

theorem noRecreate_pair {a b : Op} (hab : compat a b) (hba : compat b a) (ha : compat a a)
    (hb : compat b b) : NoRecreate [a, b] := by
  have mem : ∀ {o}, o ∈ [a, b] → o = a ∨ o = b := fun h => by simpa using h
  intro o1 h1 o2 h2
  rcases mem h1 with rfl | rfl <;> rcases mem h2 with rfl | rfl <;> assumption

theorem sat_noRecreate (s : Schema) (d : DDL) : Sat (fun _ ops => NoRecreate ops) (emit s d) := by
  have nil := noRecreate_nil
  cases d with
  | createType t name ab => exact .ite (fun _ => .none) fun _ => .some (noRecreate_of_creates rfl)
  | dropType t =>
    refine .ite (fun _ => .some (noRecreate_of_drops ?_)) fun _ => .none
    rw [List.all_append, List.all_map, Bool.and_eq_true]
    exact ⟨List.all_eq_true.mpr fun _ _ => rfl, rfl⟩
  | renameType | setAbstract | setBases => exact .ite (fun _ => .some nil) fun _ => .none
  | createPtr p =>
    exact .ite (fun _ => .none) fun _ => .ite (fun _ => .none) fun _ =>
      .some (noRecreate_of_creates (createOps_creates p))
  | dropPtr i => exact .matchPtr fun p _ => .some (noRecreate_of_drops (unstoreOps_drops p))
  | renamePtr i nm => exact .matchPtr fun p _ => .ite (fun _ => .none) fun _ => .some nil
  | setSingle i b =>
    refine .matchPtr fun p _ => .matchNat fun t _ => .ite (fun _ => .none) fun _ =>
      .ite (fun _ => .some nil) fun _ => .ite (fun _ => .some ?_) fun _ => .some ?_
    · -- the column is added to the object's table, the table dropped is the pointer's
      cases Ptr.hasTable _
      · exact noRecreate_pair trivial trivial trivial trivial
      · exact noRecreate_of_creates rfl
    · cases Ptr.hasTable _
      · exact noRecreate_of_drops rfl
      · exact noRecreate_pair trivial nofun trivial trivial
  | setRequired i b => exact .matchPtr fun p _ => .some nil
  | setExpr i b =>
    refine .matchPtr fun p _ => .matchNat fun t _ => .ite (fun _ => .none) fun _ => ?_
    cases p.kind
    · exact .some (noRecreate_of_drops (unstoreOps_drops p))
    · refine .some (noRecreate_of_drops ?_)
      cases b <;> cases p.hasTable <;> rfl
  | resetExpr i =>
    exact .matchPtr fun p _ => .matchNat fun t _ => .ite (fun _ => .none) fun _ =>
      .some (noRecreate_of_creates (createOps_creates _))
  | addLProp i lp =>
    refine .matchPtr fun p _ => .ite (fun _ => .none) fun _ => .some (noRecreate_of_creates ?_)
    cases lp.computed
    · exact lpropStoreOps_creates ..
    · rfl
  | dropLProp i lpid =>
    refine .matchPtr fun p _ => .matchLProp fun lp _ => .some (noRecreate_of_drops ?_)
    cases lp.computed
    · exact lpropUnstoreOps_drops ..
    · rfl
  | renameLProp i lpid name => exact .matchPtr fun p _ => .ite (fun _ => .some nil) fun _ => .none
  | setLPropComputed i lpid b =>
    exact .matchPtr fun p _ => .matchLProp fun lp _ => .ite (fun _ => .some nil) fun _ =>
      .ite (fun _ => .some (noRecreate_of_drops (lpropUnstoreOps_drops ..))) fun _ =>
        .some (noRecreate_of_creates (lpropStoreOps_creates ..))

theorem emit_noRecreate {s s' : Schema} {d : DDL} {ops : List Op} (hem : emit s d = some (s', ops)) :
    NoRecreate ops :=
  (sat_noRecreate s d).elim hem

/-- `emit` drops only what the layout of the next schema lacks.  A statement about `emit` and `layout` alone:
    the operations are run on `layout s` itself. -/
theorem emit_drops_dead {s s' : Schema} {d : DDL} {ops : List Op} (w : WF s) (hsafe : safeStep s d = true)
    (hem : emit s d = some (s', ops)) (o : Op) (ho : o ∈ ops) :
    (∀ t b, o = .dropTable t b → t ∉ (layout s').tables) ∧
    (∀ t c, o = .dropCol t c → (t, c) ∉ (layout s').cols) := by
  obtain ⟨c', hex, _, he'⟩ := emit_ok w (equiv_refl (layout s)) hsafe hem
  have hg := dropped_stays (emit_noRecreate hem) hex ho
  exact ⟨fun t b h => by subst h; rw [← he'.1]; exact hg, fun t c h => by subst h; rw [← he'.2]; exact hg⟩

end EdbVerif.Storage
