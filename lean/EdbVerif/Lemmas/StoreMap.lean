/-
Association-list and data-tuple lemmas for the model of `FlatSchema`; a list grown by `insert` as a set.
-/
import EdbVerif.Model.StoreSpec
import EdbVerif.Lemmas.Keyed

namespace EdbVerif.Store

variable {κ ν : Type} [DecidableEq κ]

theorem mget_eq (m : Map κ ν) (k : κ) : mget m k = (m.find? (·.1 == k)).map (·.2) := by
  induction m with
  | nil => rfl
  | cons p r ih =>
    obtain ⟨a, b⟩ := p
    rw [mget, ih, Keyed.find_fst_cons]

theorem merase_eq (m : Map κ ν) (k : κ) : merase m k = m.filter (·.1 != k) := by
  unfold merase
  congr 1
  funext p
  simp only [bne, decide_not]
  congr 1

theorem mget_merase {m : Map κ ν} {k : κ} (k' : κ) :
    mget (merase m k) k' = if k' = k then none else mget m k' := by
  rw [mget_eq, mget_eq, merase_eq, Keyed.find_erase]
  simp only [eq_comm (a := k)]
  split <;> rfl

theorem mget_mset {m : Map κ ν} {k : κ} {v : ν} (k' : κ) :
    mget (mset m k v) k' = if k' = k then some v else mget m k' := by
  rw [mget_eq, mget_eq, mset, merase_eq, Keyed.find_fst_cons_erase]
  simp only [eq_comm (a := k)]

theorem slot_set_ne (d : List Val) (f g : Nat) (v : Val) (h : g ≠ f) :
    slot (d.set f v) g = slot d g := by
  simp [slot, List.getD, List.getElem?_set_ne (Ne.symm h)]

theorem slot_set_self (d : List Val) (f : Nat) (v : Val) (hf : f < d.length) :
    slot (d.set f v) f = v := by
  simp [slot, List.getD, hf]

theorem slot_replicate (n f : Nat) : slot (List.replicate n Val.nil) f = Val.nil := by
  unfold slot
  by_cases h : f < n <;> simp [List.getD, h]

theorem refsAt_set_ne (c : Cls) (d : List Val) (f g : Nat) (v : Val) (h : g ≠ f) :
    refsAt c g (d.set f v) = refsAt c g d := by
  unfold refsAt; rw [slot_set_ne d f g v h]

theorem refsOfField_nil (c : Cls) (f : Nat) : refsOfField c f Val.nil = [] := by
  unfold refsOfField
  split <;> rfl

theorem refsAt_set_nil (c : Cls) (d : List Val) (f : Nat) (hf : f < d.length) :
    refsAt c f (d.set f Val.nil) = [] := by
  rw [refsAt, slot_set_self d f Val.nil hf, refsOfField_nil]

theorem nameOf_set_ne (c : Cls) (d : List Val) (f : Nat) (v : Val) (h : f ≠ c.nameIdx) :
    nameOf c (d.set f v) = nameOf c d := by
  unfold nameOf; rw [slot_set_ne d f c.nameIdx v h.symm]

theorem nameOf_set_self (c : Cls) (d : List Val) (v : Val) (h : c.nameIdx < d.length) :
    nameOf c (d.set c.nameIdx v) = v.name? := by
  unfold nameOf; rw [slot_set_self d c.nameIdx v h]

theorem mem_foldl_insert {α β : Type} [DecidableEq α] (g : β → α) (l : List β) (init : List α) (x : α) :
    x ∈ l.foldl (fun es t => es.insert (g t)) init ↔ x ∈ init ∨ ∃ t ∈ l, x = g t := by
  induction l generalizing init with
  | nil => simp
  | cons a l ih =>
    simp only [List.foldl_cons, ih, List.mem_insert_iff, List.mem_cons, exists_eq_or_imp, or_assoc]
    exact or_left_comm

end EdbVerif.Store
