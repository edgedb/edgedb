/-
C11: a valid acyclic document builds exactly its set of declarations (`build_ok`).  `stateOf its p` is the schema
holding the declarations named in `p`; along an order that respects the needs, the run of the concrete algebra goes
from `stateOf its p` to `stateOf its (p ++ s)` (`run_suffix`).
-/
import EdbVerif.Lemmas.SdlAlg

namespace EdbVerif.Sdl
open EdbVerif.Topo

def stateOf (its : List Item) (p : List Nat) : Schema :=
  fun k => if k ∈ p then (find its k).map (·.body) else none

theorem run_suffix {its : List Item} {o : List Nat} (hno : o.Nodup)
    (hf : ∀ k ∈ o, (find its k).isSome) (hq : ∀ a b, Needs its a b → o.idxOf b < o.idxOf a)
    (s p : List Nat) (h : p ++ s = o) :
    runSteps (fun st k => (find its k).bind (Schema.apply st)) (stateOf its p) s
      = some (stateOf its o) := by
  induction s generalizing p with
  | nil =>
    rw [← h, List.append_nil]
    rfl
  | cons k s ih =>
    subst h
    obtain ⟨it, hfk⟩ :=
      Option.isSome_iff_exists.mp (hf k (List.mem_append_right p List.mem_cons_self))
    obtain ⟨-, rfl⟩ := Keyed.find_some hfk
    have hkp : it.name ∉ p := fun hk => (List.nodup_append.mp hno).2.2 _ hk _ List.mem_cons_self rfl
    have hok : (stateOf its p).ok it = true := by
      unfold Schema.ok stateOf
      rw [if_neg hkp]
      refine List.all_eq_true.mpr fun r hr => ?_
      have hrp : r ∈ p := ListAux.mem_of_idxOf_lt (hq _ _ ⟨it, hfk, hr⟩)
      rw [if_pos hrp, Option.isSome_map]
      exact hf r (List.mem_append_left _ hrp)
    have hupd : (stateOf its p).upd it = stateOf its (p ++ [it.name]) := by
      funext x
      unfold Schema.upd stateOf
      by_cases hx : x = it.name
      · rw [if_pos hx, if_pos (hx ▸ List.mem_append_right p List.mem_cons_self), hx, hfk]
        rfl
      · simp only [List.mem_append, List.mem_singleton, hx, or_false, if_false]
    rw [runSteps_cons, hfk, Option.bind_some, Schema.apply_eq, hok, if_pos rfl, Option.bind_some,
      hupd]
    exact ih (p ++ [it.name]) (List.append_assoc p [it.name] s)

theorem build_ok {d : Doc} (hn : (names d).Nodup) (hd : ¬ Dangling d) (hc : ¬ Cyclic (HC d))
    (hv : Complete d) :
    ∃ s, build d = .ok s ∧ ∀ k, s k = (find (collect d) k).map (·.body) := by
  obtain ⟨o, ⟨p, q⟩, e⟩ := buildWith_ok mapAlgebra hn hd hc
  -- `applyAll` is the `runSteps` of `run_suffix` by definition; the empty schema is `stateOf _ []`
  have hrun : applyAll mapAlgebra (collect d) mapAlgebra.empty o = some (stateOf (collect d) o) :=
    run_suffix (p.nodup_iff.mpr hn) (fun k hk => Keyed.find_isSome.mpr (p.subset hk))
      (fun _ _ => needs_before hv q) o [] rfl
  refine ⟨stateOf (collect d) o, by rw [build, e, hrun], fun k => ?_⟩
  unfold stateOf
  split
  · rfl
  · next hk =>
    rcases hfk : find (collect d) k with _ | it
    · rfl
    · obtain ⟨hm, rfl⟩ := Keyed.find_some hfk
      exact absurd (p.symm.subset (List.mem_map_of_mem hm)) hk

end EdbVerif.Sdl
