/-
C03: the token printer and the recursive-descent parser are inverse on
well-formed statements / documents.  Every caller of a parser passes the length
of its input plus one as fuel, so each lemma asks for fuel above that length.
-/
import EdbVerif.Model.DescribeSpec
import EdbVerif.Lemmas.ListAux

namespace EdbVerif.Describe

/-- the one token of lookahead by which a list parser decides to stop -/
def NoStart (k : Tok) (t : Text) : Prop := ∀ r, t ≠ k :: r

theorem noStart_nil (k : Tok) : NoStart k [] := fun _ h => by cases h
theorem noStart_cons {k k' : Tok} (h : k' ≠ k) (t : Text) : NoStart k (k' :: t) :=
  fun _ hh => by injection hh with h1 _; exact h h1

def RefWF (r : Ref) : Prop := r.mod ≠ some []

def AtomWF : Atom Ref → Prop
  | .sym _ => True
  | .name r => RefWF r
  | .tname r => RefWF r

def FieldsWF (fs : Fields Ref) : Prop := ∀ f ∈ fs, ∀ a ∈ f.2, AtomWF a

def HeadWF (h : Head Ref) : Prop := AtomWF h.name ∧ FieldsWF h.fields

def ItemWF : Item Ref → Prop
  | .enter h => HeadWF h
  | .leave => True

def KidWF (k : Kid Ref) : Prop := HeadWF k.head ∧ (∀ i ∈ k.body, ItemWF i) ∧ Bal 0 k.body

def StmtWF : Stmt → Prop
  | .createModule m => m ≠ []
  | .create _ n fs => RefWF n ∧ FieldsWF fs
  | .alterAdd _ n k => RefWF n ∧ KidWF k

theorem succ_of_lt {n fuel : Nat} (h : n < fuel) : ∃ k, fuel = k + 1 :=
  Nat.exists_eq_add_one_of_ne_zero (Nat.ne_zero_of_lt h)

theorem printMod_cons2 (c c' : String) (cs : List String) :
    printMod (c :: c' :: cs) = .id c :: .dcolon :: printMod (c' :: cs) := rfl

theorem printMod_append_single (m : ModName) (n : String) (hne : m ≠ []) :
    printMod (m ++ [n]) = printMod m ++ [.dcolon, .id n] := by
  induction m with
  | nil => exact absurd rfl hne
  | cons c cs ih =>
    cases cs with
    | nil => rfl
    | cons c' cs =>
      rw [List.cons_append, List.cons_append, printMod_cons2, ← List.cons_append, ih (by simp),
        printMod_cons2]
      rfl

theorem parseIdents_one (fuel : Nat) (c : String) (rest : Text) (h : NoStart .dcolon rest) :
    parseIdents (fuel + 1) (.id c :: rest) = some ([c], rest) := by
  rw [parseIdents]
  exact fun _ hh => h _ hh

theorem parseIdents_printMod (cs : List String) (hne : cs ≠ []) (rest : Text)
    (h : NoStart .dcolon rest) (fuel : Nat) (hf : (printMod cs ++ rest).length < fuel) :
    parseIdents fuel (printMod cs ++ rest) = some (cs, rest) := by
  induction cs generalizing fuel with
  | nil => exact absurd rfl hne
  | cons c cs ih =>
    obtain ⟨fuel, rfl⟩ := succ_of_lt hf
    cases cs with
    | nil => exact parseIdents_one fuel c rest h
    | cons c' cs =>
      rw [printMod_cons2, List.cons_append, List.cons_append] at hf ⊢
      rw [List.length_cons, List.length_cons] at hf
      rw [parseIdents, ih (List.cons_ne_nil _ _) fuel (by omega)]

theorem printRef_eq (r : Ref) (h : RefWF r) :
    printRef r = printMod ((r.mod.getD []) ++ [r.name]) := by
  obtain ⟨m, n⟩ := r
  cases m with
  | none => rfl
  | some m =>
    cases m with
    | nil => exact absurd rfl h
    | cons c cs =>
      simp only [printRef, Option.getD_some]
      rw [printMod_append_single _ _ (by simp)]

theorem refOfIdents_snoc (r : Ref) (h : RefWF r) :
    refOfIdents ((r.mod.getD []) ++ [r.name]) = some r := by
  obtain ⟨m, n⟩ := r
  cases m with
  | none => rfl
  | some m =>
    cases m with
    | nil => exact absurd rfl h
    | cons c cs =>
      simp only [refOfIdents, Option.getD_some]
      rw [List.getLast?_concat, List.dropLast_concat]
      simp

theorem parseRef_printRef (r : Ref) (h : RefWF r) (rest : Text) (hr : NoStart .dcolon rest) :
    parseRef (printRef r ++ rest) = some (r, rest) := by
  unfold parseRef
  rw [printRef_eq r h, parseIdents_printMod _ (by simp) rest hr _ (Nat.lt_succ_self _)]
  simp [refOfIdents_snoc r h]

theorem printRef_head (r : Ref) : ∃ c tl, printRef r = .id c :: tl := by
  obtain ⟨m, n⟩ := r
  match m with
  | none | some [] => exact ⟨n, [], rfl⟩
  | some [c] | some (c :: _ :: _) => exact ⟨c, _, rfl⟩

def atomStart : Tok → Bool
  | .str _ => true
  | .kw _ => true
  | .id _ => true
  | _ => false

theorem printAtom_start (a : Atom Ref) : ∃ k tl, printAtom a = k :: tl ∧ atomStart k = true := by
  cases a with
  | sym s => exact ⟨.str s, [], rfl, rfl⟩
  | name r =>
    obtain ⟨c, tl, hc⟩ := printRef_head r
    exact ⟨.id c, tl, hc, rfl⟩
  | tname r => exact ⟨.kw "ref", _, rfl, rfl⟩

theorem atom_noStart {k : Tok} (hk : atomStart k = false) (a : Atom Ref) (t : Text) :
    NoStart k (printAtom a ++ t) := by
  obtain ⟨k', tl, hp, hs⟩ := printAtom_start a
  rw [hp]
  exact noStart_cons (by rintro rfl; rw [hk] at hs; cases hs) _

theorem atoms_noStart {k : Tok} (hk : atomStart k = false) (hk' : k ≠ .rparen)
    (as : List (Atom Ref)) (rest : Text) :
    NoStart k (as.flatMap printAtom ++ .rparen :: rest) := by
  cases as with
  | nil => exact noStart_cons (Ne.symm hk') _
  | cons a as =>
    rw [List.flatMap_cons, List.append_assoc]
    exact atom_noStart hk a _

theorem parseAtom_print (a : Atom Ref) (h : AtomWF a) (rest : Text) (hr : NoStart .dcolon rest) :
    parseAtom (printAtom a ++ rest) = some (a, rest) := by
  cases a with
  | sym s => rfl
  | tname r =>
    simp only [printAtom, List.cons_append, parseAtom]
    rw [parseRef_printRef r h rest hr]
    rfl
  | name r =>
    obtain ⟨c, tl, hc⟩ := printRef_head r
    have := parseRef_printRef r h rest hr
    simp only [printAtom]
    rw [hc] at this ⊢
    simp only [List.cons_append, parseAtom] at this ⊢
    rw [this]
    rfl

theorem parseAtoms_print (as : List (Atom Ref)) (hwf : ∀ a ∈ as, AtomWF a) (rest : Text) (fuel : Nat)
    (hf : (as.flatMap printAtom ++ .rparen :: rest).length < fuel) :
    parseAtoms fuel (as.flatMap printAtom ++ .rparen :: rest) = some (as, rest) := by
  refine ListAux.many_print parseAtoms printAtom (·, rest) AtomWF _ 1 ?_ (fun _ => rfl) ?_ as hwf fuel hf
  · intro a
    obtain ⟨k, tl, hp, _⟩ := printAtom_start a
    rw [hp]
    exact Nat.succ_pos _
  · intro fuel a l ha h
    rw [parseAtoms]
    · rw [parseAtom_print a ha _ (atoms_noStart rfl (by simp) l rest)]
      simp only [h]
    · exact fun _ hh => atom_noStart rfl a _ _ hh

theorem parseFields_stop (fuel : Nat) (t : Text) (h : NoStart (.kw "set") t) :
    parseFields (fuel + 1) t = some ([], t) := by
  rw [parseFields]
  exact fun _ _ hh => h _ hh

theorem parseFields_print (fs : Fields Ref) (hwf : FieldsWF fs) (rest : Text)
    (hr : NoStart (.kw "set") rest) (fuel : Nat) (hf : (fs.flatMap printField ++ rest).length < fuel) :
    parseFields fuel (fs.flatMap printField ++ rest) = some (fs, rest) := by
  refine ListAux.many_print parseFields printField (·, rest) (fun f => ∀ a ∈ f.2, AtomWF a) _ 1
    (fun _ => Nat.succ_pos _) (fun fuel => parseFields_stop fuel rest hr) ?_ fs hwf fuel hf
  intro fuel f _ hfa h
  simp only [printField, List.cons_append, List.append_assoc, List.nil_append]
  rw [parseFields, parseAtoms_print f.2 hfa _ _ (Nat.lt_succ_self _)]
  simp only [h]

theorem parseHead_print (h : Head Ref) (hwf : HeadWF h) (rest : Text)
    (hr : NoStart (.kw "set") rest) :
    parseHead (printHead h ++ rest) = some (h, rest) := by
  simp only [printHead, List.cons_append, List.append_assoc, List.nil_append]
  rw [parseHead, parseAtom_print h.name hwf.1 _ (noStart_cons Tok.noConfusion _)]
  simp only
  rw [parseFields_print h.fields hwf.2 rest hr _ (Nat.lt_succ_self _)]

theorem items_noStart_set (is : List (Item Ref)) (rest : Text) :
    NoStart (.kw "set") (is.flatMap printItem ++ .rbrace :: .semi :: rest) := by
  match is with
  | [] | .enter _ :: _ | .leave :: _ => exact noStart_cons (by simp) _

theorem printItem_pos (i : Item Ref) : 0 < (printItem i).length := by
  cases i <;> exact Nat.succ_pos _

theorem parseBody_print (is : List (Item Ref)) (hwf : ∀ i ∈ is, ItemWF i) (d : Nat) (hb : Bal d is)
    (rest : Text) (fuel : Nat)
    (hf : (is.flatMap printItem ++ .rbrace :: .semi :: rest).length < fuel) :
    parseBody fuel d (is.flatMap printItem ++ .rbrace :: .semi :: rest) = some (is, rest) := by
  induction is generalizing fuel d with
  | nil =>
    obtain ⟨fuel, rfl⟩ := succ_of_lt hf
    obtain rfl : d = 0 := hb
    rfl
  | cons i is ih =>
    obtain ⟨fuel, rfl⟩ := succ_of_lt hf
    have hwf' : ∀ x ∈ is, ItemWF x := fun x hx => hwf x (List.mem_cons_of_mem _ hx)
    rw [List.flatMap_cons, List.append_assoc] at hf ⊢
    rw [List.length_append] at hf
    have hpos := printItem_pos i
    cases i with
    | leave =>
      cases d with
      | zero => exact hb.elim
      | succ d =>
        simp only [printItem, List.cons_append, List.nil_append, parseBody]
        rw [ih hwf' d hb fuel (by omega)]
    | enter h =>
      rw [parseBody]
      · rw [printItem, parseHead_print h (hwf _ List.mem_cons_self) _ (items_noStart_set is rest)]
        simp only
        rw [ih hwf' (d + 1) hb fuel (by omega)]
      · exact fun _ hh => noStart_cons Tok.noConfusion _ _ hh

theorem parseKid_print (k : Kid Ref) (hwf : KidWF k) (rest : Text) :
    parseKid (printKid k ++ rest) = some (k, rest) := by
  unfold parseKid printKid
  simp only [List.append_assoc, List.cons_append, List.nil_append]
  rw [parseHead_print k.head hwf.1 _ (items_noStart_set k.body rest)]
  simp only
  rw [parseBody_print k.body hwf.2.1 0 hwf.2.2 rest _ (Nat.lt_succ_self _)]

theorem parseStmt_print (s : Stmt) (hwf : StmtWF s) (rest : Text) :
    parseStmt (printStmt s ++ rest) = some (s, rest) := by
  cases s with
  | createModule m =>
    simp only [printStmt, List.cons_append, List.append_assoc, List.nil_append]
    rw [parseStmt, parseIdents_printMod m hwf _ (noStart_cons Tok.noConfusion _) _ (Nat.lt_succ_self _)]
    simp only
  | create cls n fs =>
    simp only [printStmt, List.cons_append, List.append_assoc, List.nil_append]
    rw [parseStmt, parseRef_printRef n hwf.1 _ (noStart_cons Tok.noConfusion _)]
    simp only
    rw [parseFields_print fs hwf.2 _ (noStart_cons Tok.noConfusion _) _ (Nat.lt_succ_self _)]
  | alterAdd cls n k =>
    simp only [printStmt, List.cons_append, List.append_assoc, List.nil_append]
    rw [parseStmt, parseRef_printRef n hwf.1 _ (noStart_cons Tok.noConfusion _)]
    simp only
    rw [parseKid_print k hwf.2]

theorem printStmt_pos (s : Stmt) : 0 < (printStmt s).length := by
  cases s <;> exact Nat.succ_pos _

theorem parseStmts_print (ss : List Stmt) (hwf : ∀ s ∈ ss, StmtWF s) (fuel : Nat)
    (hf : (printStmts ss).length < fuel) : parseStmts fuel (printStmts ss) = some ss := by
  rw [printStmts, ← List.append_nil (ss.flatMap printStmt)] at hf ⊢
  refine ListAux.many_print parseStmts printStmt id StmtWF [] 1 printStmt_pos (fun _ => rfl) ?_ ss hwf fuel hf
  intro fuel s l hs h
  have h1 := parseStmt_print s hs (l.flatMap printStmt ++ [])
  -- the text is not empty, so `parseStmts` takes a step
  cases ht : printStmt s ++ (l.flatMap printStmt ++ []) with
  | nil =>
    rw [ht] at h1
    cases h1
  | cons x xs =>
    rw [ht] at h1
    simp only [parseStmts, h1, h]
    rfl

def DeclWF (x : SDecl) : Prop := FieldsWF x.fields ∧ ∀ k ∈ x.kids, KidWF k

def BlockWF (b : ModName × List SDecl) : Prop := b.1 ≠ [] ∧ ∀ x ∈ b.2, DeclWF x

theorem parseKids_stop (fuel : Nat) (t : Text) (h : NoStart (.kw "create") t) :
    parseKids (fuel + 1) t = some ([], t) := by
  rw [parseKids]
  exact fun _ hh => h _ hh

theorem parseKids_print (ks : List (Kid Ref)) (hwf : ∀ k ∈ ks, KidWF k) (rest : Text)
    (hr : NoStart (.kw "create") rest) (fuel : Nat) (hf : (ks.flatMap printKid ++ rest).length < fuel) :
    parseKids fuel (ks.flatMap printKid ++ rest) = some (ks, rest) := by
  refine ListAux.many_print parseKids printKid (·, rest) KidWF _ 1 (fun _ => Nat.succ_pos _)
    (fun fuel => parseKids_stop fuel rest hr) ?_ ks hwf fuel hf
  intro fuel k l hk h
  have h1 := parseKid_print k hk (l.flatMap printKid ++ rest)
  -- a printed kid starts with `create`
  rw [show printKid k = .kw "create" :: (printKid k).tail from rfl] at h1 ⊢
  simp only [List.cons_append, parseKids] at h1 ⊢
  simp only [h1, h]

theorem kids_noStart_set (ks : List (Kid Ref)) (rest : Text) :
    NoStart (.kw "set") (ks.flatMap printKid ++ .rbrace :: rest) := by
  match ks with
  | [] | _ :: _ => exact noStart_cons (by simp) _

theorem parseDecls_stop (fuel : Nat) (t : Text) (h : NoStart (.kw "decl") t) :
    parseDecls (fuel + 1) t = some ([], t) := by
  rw [parseDecls]
  exact fun _ _ _ hh => h _ hh

theorem parseDecls_print (ds : List SDecl) (hwf : ∀ x ∈ ds, DeclWF x) (rest : Text)
    (hr : NoStart (.kw "decl") rest) (fuel : Nat) (hf : (ds.flatMap printDecl ++ rest).length < fuel) :
    parseDecls fuel (ds.flatMap printDecl ++ rest) = some (ds, rest) := by
  refine ListAux.many_print parseDecls printDecl (·, rest) DeclWF _ 1 (fun _ => Nat.succ_pos _)
    (fun fuel => parseDecls_stop fuel rest hr) ?_ ds hwf fuel hf
  intro fuel x _ hx h
  simp only [printDecl, List.cons_append, List.append_assoc, List.nil_append]
  rw [parseDecls, parseFields_print x.fields hx.1 _ (kids_noStart_set x.kids _) _ (Nat.lt_succ_self _)]
  simp only
  rw [parseKids_print x.kids hx.2 _ (noStart_cons Tok.noConfusion _) _ (Nat.lt_succ_self _)]
  simp only [h]

theorem parseSDL_print (d : SDLDoc) (hwf : ∀ b ∈ d, BlockWF b) (fuel : Nat)
    (hf : (printSDL d).length < fuel) : parseSDL fuel (printSDL d) = some d := by
  rw [printSDL, ← List.append_nil (d.flatMap printBlock)] at hf ⊢
  refine ListAux.many_print parseSDL printBlock id BlockWF [] 1 (fun _ => Nat.succ_pos _) (fun _ => rfl) ?_
    d hwf fuel hf
  intro fuel b l hb h
  simp only [printBlock, List.cons_append, List.append_assoc, List.nil_append]
  rw [parseSDL, parseIdents_printMod b.1 hb.1 _ (noStart_cons Tok.noConfusion _) _ (Nat.lt_succ_self _)]
  simp only
  rw [parseDecls_print b.2 hb.2 _ (noStart_cons Tok.noConfusion _) _ (Nat.lt_succ_self _)]
  simp only [h]
  rfl

end EdbVerif.Describe
