/-
Facts about the pool model that mention no invariant.  The pool's blocks, tasks, connections and waiters live
in lists keyed by an identifier that occurs once (`Keyed`): what the lookups and the updates at a key compute,
that `toEnd` / `toFront` permute the blocks, and what the waiter primitives compute, case by case.
-/
import EdbVerif.Model.PoolSpec
import EdbVerif.Lemmas.Keyed

namespace EdbVerif.Pool

theorem of_ite {α : Sort _} {P : α → Prop} {c : Prop} [Decidable c] {a b : α}
    (ha : c → P a) (hb : ¬c → P b) : P (if c then a else b) := by
  split
  · exact ha ‹_›
  · exact hb ‹_›

theorem filter_map_fix {α : Type} {ws : List α} {g : α → α} {p : α → Bool}
    (hg : ∀ w ∈ ws, p (g w) = p w) (hfix : ∀ w ∈ ws, p w = true → g w = w) :
    (ws.map g).filter p = ws.filter p := by
  rw [List.filter_map, List.filter_congr (p := p ∘ g) (q := p) hg]
  exact (List.map_congr_left fun w hw =>
    hfix w (List.mem_filter.mp hw).1 (List.mem_filter.mp hw).2).trans (List.map_id _)

theorem length_filter_map_congr {α : Type} {ws : List α} {g : α → α} {p : α → Bool}
    (hg : ∀ w ∈ ws, p (g w) = p w) : ((ws.map g).filter p).length = (ws.filter p).length := by
  rw [List.filter_map, List.length_map, List.filter_congr (p := p ∘ g) (q := p) hg]

@[simp] theorem sumInt_nil : sumInt [] = 0 := rfl
@[simp] theorem sumInt_cons (x : Int) (xs : List Int) : sumInt (x :: xs) = x + sumInt xs := rfl

theorem sumInt_eq_sum (l : List Int) : sumInt l = l.sum := by
  induction l with
  | nil => rfl
  | cons x xs ih => rw [sumInt_cons, ih, List.sum_cons]

theorem sumInt_append (xs ys : List Int) : sumInt (xs ++ ys) = sumInt xs + sumInt ys := by
  rw [sumInt_eq_sum, sumInt_eq_sum, sumInt_eq_sum, List.sum_append_int]

theorem sumInt_perm {xs ys : List Int} (p : xs.Perm ys) : sumInt xs = sumInt ys :=
  p.foldr_eq' (f := (· + ·)) (fun _ _ _ _ _ => Int.add_left_comm ..) 0

section key
variable {α : Type} {k : α → Nat} {l : List α} {a : α}

theorem sumInt_map_filter_key (hnd : (l.map k).Nodup) (ha : a ∈ l) (g : α → Int) :
    sumInt ((l.filter (k · != k a)).map g) = sumInt (l.map g) - g a := by
  rw [sumInt_eq_sum, sumInt_eq_sum, Keyed.sum_map_erase hnd ha]

theorem sumInt_map_set_key (hnd : (l.map k).Nodup) (ha : a ∈ l) (f : α → α) (g : α → Int) :
    sumInt ((l.map fun x => if k x == k a then f x else x).map g) = sumInt (l.map g) - g a + g (f a) := by
  rw [sumInt_eq_sum, sumInt_eq_sum, Keyed.sum_map_modify hnd ha]

end key

theorem findB_some {bs : List Block} {u : Nat} {b : Block} (h : findB bs u = some b) :
    b ∈ bs ∧ b.uid = u :=
  Keyed.find_some h

theorem findB_none {bs : List Block} {u : Nat} (h : findB bs u = none) : ∀ x ∈ bs, x.uid ≠ u :=
  Keyed.find_eq_none.mp h

theorem findName_some {bs : List Block} {n : Nat} {b : Block} (h : findName bs n = some b) :
    b ∈ bs ∧ b.name = n :=
  Keyed.find_some h

theorem State.find_some {s : State} {u : Nat} {b : Block} (h : s.find u = some b) :
    b ∈ s.blocks ∧ b.uid = u := findB_some h

theorem eq_of_uid {bs : List Block} (h : (bs.map (·.uid)).Nodup) {a b : Block}
    (ha : a ∈ bs) (hb : b ∈ bs) (e : a.uid = b.uid) : a = b := Keyed.eq_of_key h ha hb e

theorem State.eq_of_find {s : State} (hu : (s.blocks.map (·.uid)).Nodup) {u : Nat} {b x : Block}
    (hb : s.find u = some b) (hx : x ∈ s.blocks) (hxu : x.uid = u) : x = b :=
  eq_of_uid hu hx (State.find_some hb).1 (hxu.trans (State.find_some hb).2.symm)

theorem State.find_of_mem {s : State} (hu : (s.blocks.map (·.uid)).Nodup) {b : Block} (hb : b ∈ s.blocks) :
    s.find b.uid = some b :=
  Keyed.find_of_mem hu hb

def KeepsUid (f : Block → Block) : Prop := ∀ b, (f b).uid = b.uid

theorem map_uid_modB {bs : List Block} {u : Nat} {f : Block → Block} (hf : KeepsUid f) :
    (modB bs u f).map (·.uid) = bs.map (·.uid) :=
  Keyed.map_modify (fun b _ => hf b) bs

theorem uids_mod {s : State} (hu : (s.blocks.map (·.uid)).Nodup) (u : Nat) (f : Block → Block)
    (hf : KeepsUid f) : ((s.mod u f).blocks.map (·.uid)).Nodup := by
  show ((modB s.blocks u f).map (·.uid)).Nodup
  rw [map_uid_modB hf]; exact hu

theorem findB_modB (bs : List Block) (u v : Nat) (f : Block → Block) (hf : KeepsUid f) :
    findB (modB bs u f) v = (findB bs v).map fun b => if b.uid == u then f b else b :=
  Keyed.find_map (key := fun b : Block => b.uid) (g := fun b => if b.uid == u then f b else b)
    (fun b => by split <;> simp [hf b]) bs v

theorem State.find_mod {s : State} (u v : Nat) (f : Block → Block) (hf : KeepsUid f) :
    (s.mod u f).find v = (s.find v).map fun b => if b.uid == u then f b else b :=
  findB_modB s.blocks u v f hf

theorem State.exists_find_mod {s : State} (u v : Nat) (f : Block → Block) (hf : KeepsUid f)
    {b : Block} (h : s.find v = some b) : ∃ b', (s.mod u f).find v = some b' := by
  rw [State.find_mod u v f hf, h]; exact ⟨_, rfl⟩

theorem State.find_mod_at {s : State} {u : Nat} {b : Block} (hb : s.find u = some b) {f : Block → Block}
    (hf : KeepsUid f) : (s.mod u f).find u = some (f b) := by
  rw [State.find_mod u u f hf, hb]
  simp [(State.find_some hb).2]

theorem modB_of_notin (bs : List Block) (u : Nat) (f : Block → Block) (h : ∀ x ∈ bs, x.uid ≠ u) :
    modB bs u f = bs :=
  Keyed.modify_of_notin h f

theorem State.mod_none {s : State} {u : Nat} (f : Block → Block) (h : s.find u = none) :
    s.mod u f = s := by
  rw [State.mod, modB_of_notin _ u f (findB_none h)]

theorem mem_modB {bs : List Block} {u : Nat} {f : Block → Block} {b : Block}
    (h : b ∈ modB bs u f) : ∃ b0 ∈ bs, b = b0 ∨ (b0.uid = u ∧ b = f b0) := by
  obtain ⟨b0, hb0, rfl⟩ := List.mem_map.mp h
  refine ⟨b0, hb0, ?_⟩
  by_cases hu : b0.uid = u <;> simp [hu]

theorem mem_modB_of_mem {bs : List Block} {u : Nat} {f : Block → Block} {b : Block} (h : b ∈ bs) :
    (if b.uid == u then f b else b) ∈ modB bs u f := by
  unfold modB; exact List.mem_map_of_mem h

theorem mem_modB_at {bs : List Block} {u : Nat} {b : Block} (hb : findB bs u = some b)
    (f : Block → Block) : f b ∈ modB bs u f := by
  simpa [(findB_some hb).2] using mem_modB_of_mem (u := u) (f := f) (findB_some hb).1

theorem mem_modB_other {bs : List Block} {u : Nat} (f : Block → Block) {x : Block} (hx : x ∈ bs)
    (hxu : x.uid ≠ u) : x ∈ modB bs u f := by
  simpa [hxu] using mem_modB_of_mem (u := u) (f := f) hx

theorem mem_modB_cases {bs : List Block} (hu : (bs.map (·.uid)).Nodup) {u : Nat} {b : Block}
    (hb : findB bs u = some b) {f : Block → Block} {x : Block} (hx : x ∈ modB bs u f) :
    (x.uid ≠ u ∧ x ∈ bs) ∨ x = f b := by
  obtain ⟨hm, rfl⟩ := findB_some hb
  exact ((Keyed.mem_modify hu hm fun _ => beq_iff_eq).mp hx).elim .inr fun h => .inl ⟨h.2, h.1⟩

/-- the `sub` and `sup` of `VS` (`R = QLe`) and of `OS` (`R = OV`) -/
theorem sim_map {R : Block → Block → Prop} {bs : List Block} {g : Block → Block} (hg : ∀ b ∈ bs, R (g b) b) :
    (∀ b' ∈ bs.map g, ∃ b ∈ bs, R b' b) ∧ ∀ b ∈ bs, ∃ b' ∈ bs.map g, R b' b :=
  ⟨List.forall_mem_map.mpr fun b hb => ⟨b, hb, hg b hb⟩, fun b hb => ⟨g b, List.mem_map_of_mem hb, hg b hb⟩⟩

theorem sim_modB {R : Block → Block → Prop} (hr : ∀ b, R b b) {bs : List Block} {u : Nat} {f : Block → Block}
    (hf : ∀ b ∈ bs, b.uid = u → R (f b) b) :
    (∀ b' ∈ modB bs u f, ∃ b ∈ bs, R b' b) ∧ ∀ b ∈ bs, ∃ b' ∈ modB bs u f, R b' b :=
  sim_map fun b hb => of_ite (P := (R · b)) (fun h => hf b hb (beq_iff_eq.mp h)) fun _ => hr b

theorem sum_modB (bs : List Block) (u : Nat) (f : Block → Block) (g : Block → Int)
    (hnd : (bs.map (·.uid)).Nodup) (b : Block) (hb : findB bs u = some b) :
    sumInt ((modB bs u f).map g) = sumInt (bs.map g) - g b + g (f b) := by
  obtain ⟨hm, rfl⟩ := findB_some hb
  exact sumInt_map_set_key hnd hm f g

theorem toFront_perm (bs : List Block) (u : Nat) : (toFront bs u).Perm bs :=
  List.filter_append_perm (fun b : Block => b.uid == u) bs

theorem toEnd_perm (bs : List Block) (u : Nat) : (toEnd bs u).Perm bs :=
  List.perm_append_comm.trans (toFront_perm bs u)

theorem mem_toEnd {bs : List Block} {u : Nat} {b : Block} : b ∈ toEnd bs u ↔ b ∈ bs :=
  (toEnd_perm bs u).mem_iff

theorem mem_toFront {bs : List Block} {u : Nat} {b : Block} : b ∈ toFront bs u ↔ b ∈ bs :=
  (toFront_perm bs u).mem_iff

theorem find_conn_some {l : List (Nat × Bool)} {c c' : Nat} {v : Bool}
    (h : l.find? (·.1 == c) = some (c', v)) : (c, v) ∈ l := by
  obtain ⟨hm, rfl⟩ := Keyed.find_some (key := Prod.fst) h
  exact hm

theorem map_fst_setFlag {β : Type} (l : List (Nat × β)) (c : Nat) (v : β) :
    (l.map fun p => if p.1 == c then (c, v) else p).map (·.1) = l.map (·.1) := by
  refine Keyed.map_modify (fun p h => ?_) l
  exact (eq_of_beq h).symm

@[simp] theorem cnt_nil (p : Task → Bool) : cnt p [] = 0 := rfl

theorem cnt_append (p : Task → Bool) (xs ys : List (Nat × Task)) :
    cnt p (xs ++ ys) = cnt p xs + cnt p ys := by
  unfold cnt; rw [List.map_append, sumInt_append]

theorem cnt_cons (p : Task → Bool) (i : Nat) (t : Task) (xs : List (Nat × Task)) :
    cnt p ((i, t) :: xs) = (if p t then 1 else 0) + cnt p xs := rfl

theorem cnt_nonneg (p : Task → Bool) (ts : List (Nat × Task)) : 0 ≤ cnt p ts := by
  induction ts with
  | nil => exact Int.le_refl 0
  | cons x xs ih => rw [cnt_cons]; split <;> omega

theorem task_some {s : State} {tid : Nat} {t : Task} (h : s.task tid = some t) :
    (tid, t) ∈ s.tasks :=
  Keyed.mem_of_find_fst h

theorem not_free_and_used {l : List (Nat × Bool)} (hnd : (l.map (·.1)).Nodup) {c : Nat}
    (h1 : (c, false) ∈ l) (h2 : (c, true) ∈ l) : False :=
  Bool.noConfusion (Keyed.snd_eq_of_key hnd h1 h2)

theorem mem_setFlag {l : List (Nat × Bool)} {c : Nat} {v : Bool} {p : Nat × Bool} (hp : p ∈ l)
    (h : p.1 = c → p.2 = v) : p ∈ l.map fun q => if q.1 == c then (c, v) else q := by
  refine List.mem_map.mpr ⟨p, hp, ?_⟩
  by_cases e : p.1 = c
  · rw [if_pos (beq_iff_eq.mpr e), ← e, ← h e]
  · rw [if_neg fun h => e (beq_iff_eq.mp h)]

theorem mem_setFlag_self {l : List (Nat × Bool)} {c : Nat} {v w : Bool} (hp : (c, w) ∈ l) :
    (c, v) ∈ l.map fun q => if q.1 == c then (c, v) else q :=
  List.mem_map.mpr ⟨(c, w), hp, if_pos (beq_iff_eq.mpr rfl)⟩

theorem steal_none_eq {s : State} {u : Nat} {s1 : State} (heq : steal s u = (s1, none)) : s1 = s := by
  unfold steal at heq
  split at heq
  · split at heq
    · cases heq; rfl
    · cases heq
  · cases heq; rfl

theorem popWaitlist_frame (n : Nat) (s : State) :
    (popWaitlist s n).1 = { s with waitlist := (popWaitlist s n).1.waitlist } := by
  induction n generalizing s with
  | zero => rfl
  | succ n ih =>
    unfold popWaitlist
    split
    · rfl
    · dsimp only
      split
      · exact of_ite (P := fun r : State × Option Nat => r.1 = { s with waitlist := r.1.waitlist })
          (fun _ => ih _) fun _ => rfl
      · exact ih _

theorem findStarving_frame (s : State) :
    (findStarving s).1 = { s with waitlist := (findStarving s).1.waitlist } := by
  have hp := popWaitlist_frame (s.waitlist.length + 1) s
  unfold findStarving
  generalize popWaitlist s (s.waitlist.length + 1) = r at hp ⊢
  obtain ⟨s', _ | u⟩ := r
  · dsimp only
    split <;> exact hp
  · exact hp

theorem findStarving_find (s : State) (u : Nat) : (findStarving s).1.find u = s.find u := by
  rw [findStarving_frame]; rfl

theorem setWoken_same (r : Nat) (w : Waiter) :
    (setWoken r w).id = w.id ∧ (setWoken r w).block = w.block ∧ (setWoken r w).prune = w.prune := by
  unfold setWoken; split <;> exact ⟨rfl, rfl, rfl⟩
theorem setWoken_ne {r : Nat} {w : Waiter} (h : w.id ≠ r) : setWoken r w = w := by
  unfold setWoken; simp [h]
theorem setWoken_eq {r : Nat} {w : Waiter} (h : w.id = r) : setWoken r w = { w with st := .woken } := by
  unfold setWoken; simp [h]

theorem setAborted_same (q : List Nat) (w : Waiter) :
    (setAborted q w).id = w.id ∧ (setAborted q w).block = w.block ∧ (setAborted q w).prune = w.prune := by
  unfold setAborted; split <;> exact ⟨rfl, rfl, rfl⟩
theorem setAborted_notin {q : List Nat} {w : Waiter} (h : w.id ∉ q) : setAborted q w = w := by
  have : q.contains w.id = false := by simpa using h
  simp only [setAborted, this, Bool.false_eq_true, ↓reduceIte]
theorem setAborted_in {q : List Nat} {w : Waiter} (h : w.id ∈ q) : setAborted q w = { w with st := .aborted } := by
  have : q.contains w.id = true := by simpa using h
  simp only [setAborted, this, ↓reduceIte]

theorem idInUse_false {s : State} {r : Nat} (h : idInUse s r = false) :
    (∀ w ∈ s.waiters, w.id ≠ r) ∧ (∀ y ∈ s.holders, y.req ≠ r) := by
  unfold idInUse at h
  simp only [Bool.or_eq_false_iff, List.any_eq_false, beq_iff_eq] at h
  exact ⟨fun w hw => h.1.1 w hw, fun y hy => h.1.2 y hy⟩

theorem tryAcq_none {s : State} {id u a : Nat} {p : Bool} (h : s.find u = none) :
    tryAcq s id u a p = (s.fail "tryAcq: no block", none) := by
  unfold tryAcq; rw [h]

theorem tryAcq_pop {s : State} {id u a : Nat} {p : Bool} {b : Block} {c : Nat} (h : s.find u = some b)
    (hc : b.stack.getLast? = some c) :
    tryAcq s id u a p = (s.mod u fun b => { b with stack := b.stack.dropLast }, some c) := by
  unfold tryAcq; rw [h]; simp only [hc]

theorem tryAcq_wait {s : State} {id u a : Nat} {p : Bool} {b : Block} (h : s.find u = some b)
    (hc : b.stack.getLast? = none) :
    tryAcq s id u a p =
      ({ (s.mod u fun b => { b with waitersNum := b.waitersNum + 1,
                                    queue := if a > 1 then id :: b.queue else b.queue ++ [id] }) with
         waiters := s.waiters ++ [⟨id, u, .queued, a, p⟩] }, none) := by
  unfold tryAcq; rw [h]; simp only [hc]; rfl

theorem find_leaveWait {s : State} {u id : Nat} {b : Block} (hb : s.find u = some b) :
    (leaveWait s id u).find u = some { b with waitersNum := b.waitersNum - 1 } :=
  State.find_mod_at hb fun _ => rfl

/-- the counter updates of a failed `_connect` (before abort / retry); `g` gives the new `connect_failures_num` -/
def connFailCounters (s : State) (u : Nat) (g : Block → Nat) : State :=
  ({ s with cur := s.cur - 1 } : State).mod u fun b => { b with pending := b.pending - 1, failures := g b }

theorem find_connFailCounters {s : State} {u : Nat} {b : Block} (hb : s.find u = some b) (g : Block → Nat) :
    (connFailCounters s u g).find u = some { b with pending := b.pending - 1, failures := g b } :=
  State.find_mod_at (s := { s with cur := s.cur - 1 }) hb fun _ => rfl

theorem wakeNext_frame (s : State) (u : Nat) :
    (wakeNext s u).holders = s.holders ∧ (wakeNext s u).err = s.err := by
  unfold wakeNext
  split
  · split <;> exact ⟨rfl, rfl⟩
  · exact ⟨rfl, rfl⟩

end EdbVerif.Pool
