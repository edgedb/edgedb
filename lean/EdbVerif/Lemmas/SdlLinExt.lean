/-
The order-theoretic core of C11, independent of the SDL model:
any two linear extensions of a dependency relation give the same result when
independent steps commute.
-/

namespace EdbVerif.Sdl

variable {α σ : Type}

def runSteps (step : σ → α → Option σ) (s : σ) (l : List α) : Option σ :=
  l.foldlM step s

theorem runSteps_nil (step : σ → α → Option σ) (s : σ) : runSteps step s [] = some s := rfl

theorem runSteps_cons (step : σ → α → Option σ) (s : σ) (a : α) (l : List α) :
    runSteps step s (a :: l) = (step s a).bind fun s' => runSteps step s' l :=
  List.foldlM_cons

theorem runSteps_append (step : σ → α → Option σ) (s : σ) (l₁ l₂ : List α) :
    runSteps step s (l₁ ++ l₂) = (runSteps step s l₁).bind fun s' => runSteps step s' l₂ :=
  List.foldlM_append

def CommuteAt (step : σ → α → Option σ) (a b : α) : Prop :=
  ∀ s, (step s a).bind (fun s' => step s' b) = (step s b).bind (fun s' => step s' a)

theorem runSteps_move_front (step : σ → α → Option σ) (a : α) (u v : List α)
    (hc : ∀ x ∈ u, CommuteAt step x a) (s : σ) :
    runSteps step s (u ++ a :: v) = runSteps step s (a :: (u ++ v)) := by
  induction u generalizing s with
  | nil => rfl
  | cons x u ih =>
    have ih' := fun s => ih (fun y hy => hc y (List.mem_cons_of_mem x hy)) s
    simp only [List.cons_append, runSteps_cons, ih']
    rw [← Option.bind_assoc, hc x List.mem_cons_self s, Option.bind_assoc]

/-- **Linear extensions agree**, the failure included.  `Dep a b` reads "a depends on b". -/
theorem linear_extensions_equal (step : σ → α → Option σ) (Dep : α → α → Prop)
    (comm : ∀ a b, a ≠ b → ¬ Dep a b → ¬ Dep b a → CommuteAt step a b)
    {l₁ l₂ : List α} (hp : l₁.Perm l₂) (hn : l₁.Nodup)
    (h₁ : l₁.Pairwise fun x y => ¬ Dep x y) (h₂ : l₂.Pairwise fun x y => ¬ Dep x y) (s : σ) :
    runSteps step s l₁ = runSteps step s l₂ := by
  induction l₁ generalizing l₂ s with
  | nil => rw [hp.nil_eq]
  | cons a t ih =>
    -- `a` sits somewhere in `l₂`; what precedes it there follows it in `l₁`, so
    -- neither depends on the other and `a` can be moved to the front of `l₂`
    obtain ⟨u, v, rfl⟩ := List.append_of_mem (hp.subset List.mem_cons_self)
    have hpt : t.Perm (u ++ v) := (hp.trans List.perm_middle).cons_inv
    obtain ⟨hat, ht⟩ := List.pairwise_cons.mp h₁
    obtain ⟨hant, hnt⟩ := List.nodup_cons.mp hn
    have hu : ∀ x ∈ u, CommuteAt step x a := fun x hx =>
      have hxt : x ∈ t := hpt.symm.subset (List.mem_append_left v hx)
      comm x a (fun e => hant (e ▸ hxt))
        ((List.pairwise_append.mp h₂).2.2 x hx a List.mem_cons_self) (hat x hxt)
    have huv : (u ++ v).Pairwise fun x y => ¬ Dep x y :=
      h₂.sublist (List.Sublist.append (List.Sublist.refl u) (List.sublist_cons_self a v))
    rw [runSteps_move_front step a u v hu s, runSteps_cons, runSteps_cons]
    exact congrArg _ (funext fun s' => ih hpt hnt ht huv s')

theorem pairwise_of_idxOf [DecidableEq α] {R : α → α → Prop} {l : List α} (hn : l.Nodup)
    (h : ∀ a b, R a b → l.idxOf b < l.idxOf a) : l.Pairwise fun x y => ¬ R x y := by
  rw [List.pairwise_iff_getElem]
  intro i j hi hj hij hr
  have := h _ _ hr
  rw [hn.idxOf_getElem, hn.idxOf_getElem] at this
  exact Nat.lt_asymm hij this

end EdbVerif.Sdl
