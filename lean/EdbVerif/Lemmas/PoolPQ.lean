/-
`PQ = InvNum ∧ InvQ` (C15 accounting with the C16 waiter bookkeeping) satisfies `Prims`, so it holds
along every history without pruning events; `prune_all_connections` keeps it too (`runQ'`).
-/
import EdbVerif.Lemmas.PoolNum
import EdbVerif.Lemmas.PoolQBlock

namespace EdbVerif.Pool

def PQ (s : State) : Prop := InvNum s ∧ InvQ s

theorem primsQ : Prims PQ (fun s _ _ => PQ s) Room where
  frame := fun h c => ⟨h.1.ofCore c, h.2.ofVS (VS.ofCore c)⟩
  frameH := fun h c => ⟨h.1.ofCore c, h.2.ofVS (VS.ofCore c)⟩
  modInert := fun u f hf h => ⟨primsN.modInert u f hf h.1, h.2.ofVS (VS.mod _ u f hf.qle)⟩
  mapInert := fun f hf h => ⟨primsN.mapInert f hf h.1, h.2.ofVS (VS.map _ f hf.qle)⟩
  toEnd := fun u h => ⟨primsN.toEnd u h.1, h.2.ofVS (VS.toEnd _ u)⟩
  toFront := fun u h => ⟨primsN.toFront u h.1, h.2.ofVS (VS.toFront _ u)⟩
  gOfLt := fun _ hlt => room_of_lt hlt
  schedNew := fun u h g => ⟨schedNew_inv u h.1 g, h.2.ofVS schedNew_vs⟩
  stealSome := fun h heq => ⟨steal_inv h.1 heq, h.2.ofVS (steal_vs h.1.uids heq)⟩
  stealNone := fun h heq => steal_none_eq heq ▸ h
  schedXfer := fun t bh h => ⟨schedXfer_inv t bh h.1, h.2.ofVS schedXfer_vs⟩
  schedDiscard := fun h => ⟨schedDiscard_inv h.1, h.2.ofVS schedDiscard_vs⟩
  schedDiscardH := fun h =>
    ⟨⟨(schedDiscard_byHolder h.1).1, h.2.ofVS schedDiscard_vs⟩, (schedDiscard_byHolder h.1).2⟩
  blockRelease := fun h => ⟨blockRelease_inv h.1, blockRelease_q h.2 h.1.uids⟩
  getBlock := fun name h => ⟨getBlock_inv name h.1, getBlock_q h.1.toWF h.2 name⟩
  acqFinish := fun r u h hid => ⟨primsN.acqFinish r u h.1 hid, acqFinish_q h.1.uids h.2 r u hid⟩
  unlend := fun h _ _ _ => ⟨unlend_inv h.1, unlend_q h.2⟩
  dropConnTask := fun h ht hc =>
    ⟨h.1.dropTask ht hc.1 hc.2.1, h.2.rest ..⟩
  connOk := fun h hb => ⟨connOk_inv h.1 hb, connOk_q h.1.uids h.2⟩
  connFailCore := fun {s u _} g h hb =>
    ⟨⟨(connFailCounters_inv g h.1 hb).1, h.2.ofVS (VS.trans (VS.mod _ u _ fun _ => .of_view rfl)
      (VS.fields (s := s) rfl rfl rfl rfl))⟩, (connFailCounters_inv g h.1 hb).2⟩
  abortWaiters := fun u h => ⟨abortWaiters_inv u h.1, abortWaiters_q h.1.uids h.2 u⟩
  taskStart := fun tid h => ⟨taskStart_inv tid h.1, h.2.ofVS taskStart_vs⟩
  discDone := fun tid ok h => ⟨discDone_inv tid ok h.1, h.2.ofVS discDone_vs⟩
  resume := fun id h => ⟨resume_inv id h.1, resume_q h.1.uids h.2 id⟩
  dropBlock := fun h hb hw hz _ => ⟨dropBlock_inv h.1 hb hz, dropBlock_q h.1.uids h.2 hb hw⟩

theorem runQ (max : Nat) (evs : List (Env × Ev)) (hev : ∀ x ∈ evs, Prims.NoPruneEv x.2) :
    PQ (run (init max) evs) :=
  primsQ.run evs hev _ ⟨init_inv max, init_q max⟩

theorem stepQ {s : State} (h : PQ s) (env : Env) (e : Ev) (he : Prims.NoPruneEv e) : PQ (step s env e) :=
  primsQ.step h env e he.1 he.2

/-- events other than `prune_inactive_connections` -/
def NoPruneInactive (e : Ev) : Prop := ∀ p n, e ≠ .prune p n

theorem stepQ' {s : State} (h : PQ s) (env : Env) (e : Ev) (he : NoPruneInactive e) : PQ (step s env e) := by
  by_cases hp : e = .pall
  · subst hp
    exact ⟨pruneAll_inv h.1, pruneAll_q h.2⟩
  · exact primsQ.step h env e he hp

theorem runQ' (evs : List (Env × Ev)) (hev : ∀ x ∈ evs, NoPruneInactive x.2) :
    ∀ s, PQ s → PQ (run s evs) := by
  induction evs with
  | nil => exact fun _ h => h
  | cons x xs ih =>
    exact fun s h => ih (fun y hy => hev y (List.mem_cons_of_mem _ hy)) _ (stepQ' h x.1 x.2 (hev x List.mem_cons_self))

end EdbVerif.Pool
