/-
C19: the storage map as an association list (`SMap.*`), lookup precedence, and what a successful
`apply` has done (`Applied`), from which the SET/RESET/ADD/REM behaviour and the frame properties follow.
-/
import EdbVerif.Lemmas.ConfigExcl
import EdbVerif.Lemmas.Keyed
namespace EdbVerif.Config

theorem SMap.get_cons (kv : String × SV) (r : SMap) (k : String) :
    SMap.get (kv :: r) k = if kv.1 = k then some kv.2 else SMap.get r k := by
  simp [SMap.get]

theorem SMap.set_cons (kv : String × SV) (r : SMap) (k : String) (v : SV) :
    SMap.set (kv :: r) k v = if kv.1 = k then (k, v) :: r else kv :: SMap.set r k v := by
  simp [SMap.set]

theorem SMap.delete_cons (kv : String × SV) (r : SMap) (k : String) :
    SMap.delete (kv :: r) k = if kv.1 = k then r else kv :: SMap.delete r k := by
  simp [SMap.delete]

theorem SMap.keys_cons (kv : String × SV) (r : SMap) : SMap.keys (kv :: r) = kv.1 :: SMap.keys r := rfl

theorem SMap.get_set (m : SMap) (k k2 : String) (v : SV) :
    (m.set k v).get k2 = if k = k2 then some v else m.get k2 := by
  induction m with
  | nil => exact SMap.get_cons (k, v) [] k2
  | cons kv r ih =>
    by_cases h : kv.1 = k
    · by_cases h2 : k = k2 <;> simp only [SMap.set_cons, SMap.get_cons, h, h2, if_true, if_false]
    · rw [SMap.set_cons, if_neg h, SMap.get_cons, SMap.get_cons, ih]
      by_cases h2 : k = k2
      · rw [if_pos h2, if_neg (h2 ▸ h), if_pos h2]
      · rw [if_neg h2, if_neg h2]

theorem SMap.get_set_same (m : SMap) (k : String) (v : SV) : (m.set k v).get k = some v := by
  rw [SMap.get_set, if_pos rfl]

theorem SMap.set_set_same (m : SMap) (k : String) (v : SV) : (m.set k v).set k v = m.set k v := by
  induction m with
  | nil => exact (SMap.set_cons (k, v) [] k v).trans (if_pos rfl)
  | cons kv r ih => by_cases h : kv.1 = k <;> simp only [SMap.set_cons, h, ih, if_true, if_false]

theorem SMap.get_delete_other (m : SMap) (k k2 : String) (hne : k2 ≠ k) :
    (m.delete k).get k2 = m.get k2 := by
  induction m with
  | nil => rfl
  | cons kv r ih =>
    by_cases h : kv.1 = k <;> simp only [SMap.delete_cons, SMap.get_cons, h, ih, Ne.symm hne, if_true, if_false]

/-- `SMap.get` is the lookup that `Obj.getattr`, `lookupItem` and `jget` spell with `find?` -/
theorem SMap.get_eq_find (m : SMap) (k : String) : m.get k = (m.find? (·.1 == k)).map (·.2) := by
  induction m with
  | nil => rfl
  | cons kv r ih => rw [SMap.get_cons, ih, Keyed.find_fst_cons]

theorem SMap.get_none_of_not_mem (m : SMap) (k : String) (h : k ∉ m.keys) : m.get k = none := by
  rw [SMap.get_eq_find, Keyed.find_eq_none_iff.2 h]
  rfl

theorem SMap.get_delete_same (m : SMap) (k : String) (hwf : m.WF) : (m.delete k).get k = none := by
  induction m with
  | nil => rfl
  | cons kv r ih =>
    rw [SMap.WF, SMap.keys_cons, List.nodup_cons] at hwf
    by_cases h : kv.1 = k
    · rw [SMap.delete_cons, if_pos h]
      exact SMap.get_none_of_not_mem r k (h ▸ hwf.1)
    · rw [SMap.delete_cons, if_neg h, SMap.get_cons, if_neg h, ih hwf.2]

theorem SMap.get_mem (m : SMap) (k : String) (sv : SV) (h : m.get k = some sv) : (k, sv) ∈ m :=
  Keyed.mem_of_find_fst (SMap.get_eq_find m k ▸ h)

theorem SMap.set_of_not_mem (m : SMap) (k : String) (v : SV) (h : k ∉ m.keys) :
    m.set k v = m ++ [(k, v)] := by
  induction m with
  | nil => rfl
  | cons kv r ih =>
    rw [SMap.keys_cons, List.mem_cons, not_or] at h
    rw [SMap.set_cons, if_neg (Ne.symm h.1), ih h.2, List.cons_append]

theorem SMap.mem_set (m : SMap) (k : String) (v : SV) (kv : String × SV) (h : kv ∈ m.set k v) :
    kv = (k, v) ∨ kv ∈ m := by
  induction m with
  | nil => exact Or.inl (List.mem_singleton.1 h)
  | cons e r ih =>
    rw [SMap.set_cons] at h
    by_cases hk : e.1 = k
    · rw [if_pos hk] at h
      exact (List.mem_cons.1 h).imp_right (List.mem_cons_of_mem _)
    · rw [if_neg hk] at h
      rcases List.mem_cons.1 h with h | h
      · exact Or.inr (h ▸ List.mem_cons_self)
      · exact (ih h).imp_right (List.mem_cons_of_mem _)

theorem SMap.keys_set (m : SMap) (k : String) (v : SV) :
    (m.set k v).keys = if k ∈ m.keys then m.keys else m.keys ++ [k] := by
  induction m with
  | nil => rfl
  | cons kv r ih =>
    by_cases h : kv.1 = k
    · simp only [SMap.set_cons, SMap.keys_cons, h, List.mem_cons_self, if_true]
    · simp only [SMap.set_cons, SMap.keys_cons, ih, h, List.mem_cons, Ne.symm h, false_or, if_false]
      by_cases hm : k ∈ SMap.keys r <;> simp only [hm, if_true, if_false, List.cons_append]

theorem SMap.WF_set (m : SMap) (k : String) (v : SV) (h : m.WF) : (m.set k v).WF := by
  rw [SMap.WF, SMap.keys_set]
  exact ListAux.nodup_snocNew .rfl h

theorem SMap.delete_sublist (m : SMap) (k : String) : (m.delete k).Sublist m := by
  induction m with
  | nil => exact List.Sublist.refl _
  | cons kv r ih =>
    rw [SMap.delete_cons]
    by_cases h : kv.1 = k
    · rw [if_pos h]; exact List.sublist_cons_self _ _
    · rw [if_neg h]; exact ih.cons_cons _

theorem SMap.WF_delete (m : SMap) (k : String) (h : m.WF) : (m.delete k).WF :=
  List.Nodup.sublist ((SMap.delete_sublist m k).map _) h

theorem SMap.WF_nil : SMap.WF [] := by simp [SMap.WF, SMap.keys]

theorem lookup_known (sp : Spec) (name : String) (configs : List SMap) (s : Setting) (au : Bool)
    (hs : sp.get name = some s) :
    lookup sp name configs au =
      .ok (some ((configs.findSome? fun c => (c.get name).map (·.value)).getD s.default)) := by
  have := List.map_findSome? (f := fun c : SMap => c.get name) (g := (·.value)) (l := configs)
  unfold lookup
  simp only [hs, Function.comp_def] at this ⊢
  rw [← this]
  cases configs.findSome? (·.get name) <;> rfl

theorem lookup_unknown (sp : Spec) (name : String) (configs : List SMap)
    (hs : sp.get name = none) :
    lookup sp name configs false = .error .configuration ∧ lookup sp name configs true = .ok none := by
  simp [lookup, hs]

theorem findSome?_value_none (name : String) (configs : List SMap)
    (h : ∀ c ∈ configs, c.get name = none) :
    configs.findSome? (fun c => (c.get name).map (·.value)) = none :=
  List.findSome?_eq_none_iff.2 fun c hc => by simp [h c hc]

theorem lookup_first (sp : Spec) (name : String) (pre post : List SMap) (m : SMap) (s : Setting)
    (sv : SV) (au : Bool) (hs : sp.get name = some s)
    (hpre : ∀ c ∈ pre, c.get name = none) (hm : m.get name = some sv) :
    lookup sp name (pre ++ m :: post) au = .ok (some sv.value) := by
  simp [lookup_known sp name _ s au hs, List.findSome?_append, findSome?_value_none name pre hpre, hm]

theorem lookup_default (sp : Spec) (name : String) (configs : List SMap) (s : Setting) (au : Bool)
    (hs : sp.get name = some s) (hnone : ∀ c ∈ configs, c.get name = none) :
    lookup sp name configs au = .ok (some s.default) := by
  simp [lookup_known sp name _ s au hs, findSome?_value_none name configs hnone]

theorem effective_eq (sp : Spec) (st : State) (name : String) (s : Setting)
    (hs : sp.get name = some s) :
    effective sp st name = .ok (some (
      match st.sess.get name, st.db.get name, st.inst.get name with
      | some sv, _, _ => sv.value
      | none, some sv, _ => sv.value
      | none, none, some sv => sv.value
      | none, none, none => s.default)) := by
  unfold effective
  rw [lookup_known sp name _ s false hs]
  simp only [List.findSome?]
  cases st.sess.get name <;> cases st.db.get name <;> cases st.inst.get name <;> rfl

theorem run_eq_foldl (sp : Spec) (st : State) (ops : List Op) :
    run sp st ops = ops.foldl (fun st op => (step sp st op).1) st := by
  induction ops generalizing st with
  | nil => rfl
  | cons op r ih => simp [run, ih]

theorem run_append (sp : Spec) (st : State) (a b : List Op) :
    run sp st (a ++ b) = run sp (run sp st a) b := by
  simp [run_eq_foldl]

theorem coerceValue_obj (sp : Spec) (s : Setting) (t : TSpec) (code : OpCode) (v : JV) (am : Bool)
    (hty : s.ty = .obj t) (hc : code ≠ .set) :
    coerceValue sp s code v am =
      match fromPyValue sp t am v with
      | .error e => .error e
      | .ok (some o) => .ok (.obj o)
      | .ok none => .ok (.sc .none) := by
  unfold coerceValue
  simp only [hty, hc, if_false]
  rfl

theorem addValue_ok {m m' : SMap} {s : Setting} {name : String} {sc : Scope} {value : Val}
    (h : addValue m s name sc value = .ok m') :
    ∃ t l o, s.ty = .obj t ∧ existValue m name s = .objs l ∧ value = .obj o ∧
      checkUnique (l ++ [o]) = .ok (l ++ [o]) ∧ m' = setValue m name (.objs (l ++ [o])) sc := by
  unfold addValue at h
  split at h
  · cases h
  · rename_i t hty
    split at h <;> try cases h
    rename_i l o hex
    split at h <;> cases h
    rename_i l' hchk
    obtain rfl := (checkUnique_ok _ _ hchk).1
    exact ⟨t, l, o, hty, hex, rfl, hchk, rfl⟩

theorem remValue_ok {m m' : SMap} {s : Setting} {name : String} {sc : Scope} {value : Val}
    (h : remValue m s name sc value = .ok m') :
    ∃ t l, s.ty = .obj t ∧ existValue m name s = .objs l ∧
      ((∃ o, value = .obj o ∧ m' = remStore m name sc l (l.filter fun x => !x.pyEq o)) ∨
       (value = .sc .none ∧ m' = remStore m name sc l l)) := by
  unfold remValue at h
  split at h
  · cases h
  · rename_i t hty
    split at h <;> cases h
    · rename_i l o hex
      exact ⟨t, l, hty, hex, Or.inl ⟨o, rfl, rfl⟩⟩
    · rename_i l hex
      exact ⟨t, l, hty, hex, Or.inr ⟨rfl, rfl⟩⟩

theorem remStore_shape (m : SMap) (name : String) (sc : Scope) (l l' : List Obj) :
    remStore m name sc l l' = setValue m name (.objs l') sc ∨ remStore m name sc l l' = m := by
  unfold remStore
  split
  · exact Or.inr rfl
  · exact Or.inl rfl

/-- `exist_value - {value}` of the CONFIG_REM arm of `Operation.apply` (ops.py), `value` being what
    `from_pyvalue` made of the operand: an object, or `None` (nothing is removed) -/
def minus (l : List Obj) : Option Obj → List Obj
  | some o => l.filter fun x => !x.pyEq o
  | none => l

theorem minus_sublist (l : List Obj) (r : Option Obj) : (minus l r).Sublist l := by
  cases r
  · exact List.Sublist.refl l
  · exact List.filter_sublist

/-- What a successful `Operation.apply` has done, one arm for each opcode.  The opcode is an index:
    for an operation literal, `cases` leaves the one arm of its code. -/
inductive Applied (sp : Spec) (m : SMap) (sc : Scope) (name : String) (v : JV) : OpCode → SMap → Prop
  | set (s : Setting) (val : Val) : sp.get name = some s → coerceValue sp s .set v false = .ok val →
      Applied sp m sc name v .set (setValue m name val sc)
  | reset : Applied sp m sc name v .reset (m.delete name)
  | add (s : Setting) (t : TSpec) (o : Obj) (l : List Obj) : sp.get name = some s → s.ty = .obj t →
      fromPyValue sp t false v = .ok (some o) → existValue m name s = .objs l →
      checkUnique (l ++ [o]) = .ok (l ++ [o]) →
      Applied sp m sc name v .add (setValue m name (.objs (l ++ [o])) sc)
  | rem (s : Setting) (t : TSpec) (l : List Obj) (r : Option Obj) : sp.get name = some s →
      s.ty = .obj t → existValue m name s = .objs l → fromPyValue sp t true v = .ok r →
      Applied sp m sc name v .rem (remStore m name sc l (minus l r))

theorem applied_of_ok (sp : Spec) (m m' : SMap) (op : Op) (h : apply sp m op = .ok m') :
    Applied sp m op.scope op.name op.value op.code m' := by
  unfold apply at h
  split at h
  · cases h
  rename_i s hs
  split at h
  · cases h
  rename_i value hv
  unfold applyCoerced at h
  split at h <;> rename_i hc <;> rw [hc] at hv ⊢
  · cases h; exact .set s value hs hv
  · cases h; exact .reset
  · obtain ⟨t, l, o, hty, hex, rfl, hchk, rfl⟩ := addValue_ok h
    rw [coerceValue_obj sp s t _ _ _ hty (by simp)] at hv
    split at hv <;> cases hv
    exact .add s t o l hs hty ‹_› hex hchk
  · obtain ⟨t, l, hty, hex, hcase⟩ := remValue_ok h
    rw [coerceValue_obj sp s t _ _ _ hty (by simp)] at hv
    split at hv <;> cases hv
    · obtain ⟨_, ⟨⟩, rfl⟩ | ⟨⟨⟩, _⟩ := hcase
      exact .rem s t l (some _) hs hty hex ‹_›
    · obtain ⟨_, ⟨⟩, _⟩ | ⟨_, rfl⟩ := hcase
      exact .rem s t l none hs hty hex ‹_›

theorem apply_shape (sp : Spec) (m m' : SMap) (op : Op) (h : apply sp m op = .ok m') :
    (∃ v, m' = setValue m op.name v op.scope) ∨ (op.code = .reset ∧ m' = m.delete op.name) ∨
    (op.code = .rem ∧ m' = m) := by
  have hA := applied_of_ok sp m m' op h
  generalize op.code = c at hA ⊢
  cases hA with
  | set | add => exact Or.inl ⟨_, rfl⟩
  | reset => exact Or.inr (Or.inl ⟨rfl, rfl⟩)
  | rem => exact (remStore_shape _ _ _ _ _).imp (fun e => ⟨_, e⟩) (fun e => Or.inr ⟨rfl, e⟩)

theorem apply_frame (sp : Spec) (m m' : SMap) (op : Op) (h : apply sp m op = .ok m')
    (k : String) (hk : k ≠ op.name) : m'.get k = m.get k := by
  rcases apply_shape sp m m' op h with ⟨v, rfl⟩ | ⟨_, rfl⟩ | ⟨_, rfl⟩
  · rw [setValue, SMap.get_set, if_neg (Ne.symm hk)]
  · exact SMap.get_delete_other m op.name k hk
  · rfl

theorem apply_WF (sp : Spec) (m m' : SMap) (op : Op) (h : apply sp m op = .ok m') (hwf : m.WF) :
    m'.WF := by
  rcases apply_shape sp m m' op h with ⟨v, rfl⟩ | ⟨_, rfl⟩ | ⟨_, rfl⟩
  · exact SMap.WF_set m _ _ hwf
  · exact SMap.WF_delete m _ hwf
  · exact hwf

theorem apply_entry (sp : Spec) (m m' : SMap) (op : Op) (h : apply sp m op = .ok m')
    (hc : op.code = .set ∨ op.code = .add) :
    ∃ v, m'.get op.name = some { name := op.name, value := v, source := op.scope.source, scope := op.scope } := by
  rcases apply_shape sp m m' op h with ⟨v, rfl⟩ | ⟨hr, _⟩ | ⟨hr, _⟩
  · exact ⟨v, SMap.get_set_same m op.name _⟩
  · rw [hr] at hc; exact absurd hc (by decide)
  · rw [hr] at hc; exact absurd hc (by decide)

theorem apply_unknown (sp : Spec) (m : SMap) (op : Op) (h : sp.get op.name = none) :
    apply sp m op = .error .configuration := by
  simp [apply, h]

theorem apply_coerce_error (sp : Spec) (m : SMap) (op : Op) (s : Setting) (e : Err)
    (hs : sp.get op.name = some s)
    (hc : coerceValue sp s op.code op.value op.code.allowMissing = .error e) :
    apply sp m op = .error e := by
  unfold apply
  simp only [hs, hc]

theorem apply_set (sp : Spec) (m : SMap) (sc : Scope) (name : String) (v : JV) (s : Setting) (val : Val)
    (hs : sp.get name = some s) (hc : coerceValue sp s .set v false = .ok val) :
    apply sp m ⟨.set, sc, name, v⟩ = .ok (setValue m name val sc) := by
  unfold apply
  simp only [hs, OpCode.allowMissing, hc, applyCoerced]

theorem step_ok (sp : Spec) (st : State) (op : Op) (m' : SMap)
    (h : apply sp (st.map op.scope) op = .ok m') : step sp st op = (st.setMap op.scope m', none) := by
  simp [step, h]

theorem step_error (sp : Spec) (st : State) (op : Op) (e : Err)
    (h : apply sp (st.map op.scope) op = .error e) : step sp st op = (st, some e) := by
  simp [step, h]

theorem State.map_setMap (st : State) (sc sc' : Scope) (m : SMap) :
    (st.setMap sc m).map sc' = if sc' = sc then m else st.map sc' := by
  cases sc <;> cases sc' <;> rfl

theorem step_other_scope (sp : Spec) (st : State) (op : Op) (sc : Scope) (h : sc ≠ op.scope) :
    (step sp st op).1.map sc = st.map sc := by
  cases ha : apply sp (st.map op.scope) op with
  | ok m' => rw [step_ok sp st op m' ha, State.map_setMap, if_neg h]
  | error e => rw [step_error sp st op e ha]

/-- A filtered RESET (REM) that removes nothing leaves every effective value unchanged, whatever the
    other layers are and wherever this layer sits. -/
theorem rem_noop_lookup (sp : Spec) (m m' : SMap) (sc : Scope) (name : String) (v : JV)
    (h : apply sp m ⟨.rem, sc, name, v⟩ = .ok m')
    (hnoop : ∀ s t l o, sp.get name = some s → s.ty = .obj t → existValue m name s = .objs l →
      fromPyValue sp t true v = .ok (some o) → (l.filter fun x => !x.pyEq o) = l)
    (k : String) (pre post : List SMap) (au : Bool) :
    lookup sp k (pre ++ m' :: post) au = lookup sp k (pre ++ m :: post) au := by
  cases applied_of_ok sp m m' _ h with
  | rem s t l r hs hty hex hr =>
    have hl : minus l r = l := by
      cases r
      · rfl
      · exact hnoop s t l _ hs hty hex hr
    rw [hl]
    -- the entry, if there is one, is rewritten with the value it had
    have hvals : ∀ k, ((remStore m name sc l l).get k).map (·.value) = (m.get k).map (·.value) := by
      intro k
      unfold remStore
      cases hg : m.get name with
      | none => simp
      | some sv =>
        have : sv.value = .objs l := by simpa [existValue, hg] using hex
        by_cases hk : name = k
        · subst hk; simp [setValue, SMap.get_set, hg, this]
        · simp [setValue, SMap.get_set, hk]
    cases hk : sp.get k with
    | none => simp [lookup, hk]
    | some s' =>
      simp only [lookup_known sp k _ s' au hk, List.findSome?_append, List.findSome?_cons, hvals]

end EdbVerif.Config
