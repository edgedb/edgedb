/-
The rules of `inferMult` (multiplicity.py) on MiniQL, rule by rule, for the fragment `multSafe`: no UNIQUE claim
comes from the `disjoint_union` bookkeeping, from an exclusive property over a possibly-duplicate source, or from
operator injectivity.  Outside that fragment the rules are unsound (counterexamples in `Props/C06.lean`).
-/
import EdbVerif.Lemmas.MiniQLCard
import EdbVerif.Lemmas.Keyed

namespace EdbVerif.MiniQL
open EdbVerif.Card

theorem nodup_of_length_le_one {α : Type} (l : List α) (h : l.length ≤ 1) : l.Nodup := by
  match l, h with
  | [], _ => exact List.nodup_nil
  | [a], _ => simp
  | _ :: _ :: _, h => exact absurd h (by simp)

theorem nodup_of_dedupI_length (l : List Int) (h : (dedupI l).length = l.length) : l.Nodup :=
  (ListAux.dedup_sublist rfl (fun _ _ => rfl) l).eq_of_length h ▸ ListAux.dedup_nodup rfl (fun _ _ => rfl) l

theorem nodup_map_inj {α β : Type} {f : α → β} (hf : ∀ a b, f a = f b → a = b) {l : List α}
    (h : l.Nodup) : (l.map f).Nodup :=
  List.Pairwise.map f (fun a b hab heq => hab (hf a b heq)) h

theorem nodup_of_map {α β : Type} (f : α → β) (l : List α) (h : (l.map f).Nodup) : l.Nodup :=
  List.Pairwise.of_map f (fun _ _ hab heq => hab (congrArg f heq)) h

theorem nodup_flatMap' {α β : Type} {xs : List α} {f : α → List β} (hx : xs.Nodup)
    (hf : ∀ x ∈ xs, (f x).Nodup)
    (hd : ∀ x ∈ xs, ∀ y ∈ xs, x ≠ y → ∀ v ∈ f x, v ∉ f y) : (xs.flatMap f).Nodup :=
  List.pairwise_flatMap.2 ⟨hf, hx.imp_of_mem fun ha hb hab v hv _ hw hvw => hd _ ha _ hb hab v hv (hvw ▸ hw)⟩

theorem tupProd_nodup {ls : List (List Val)} (h : ∀ l ∈ ls, l.Nodup) : (tupProd ls).Nodup := by
  induction ls with
  | nil => simp [tupProd]
  | cons vs rest ih =>
    simp only [tupProd]
    have hr := ih (fun l hl => h l (List.mem_cons_of_mem _ hl))
    apply nodup_flatMap' (h vs List.mem_cons_self)
    · intro v _
      exact nodup_map_inj (fun _ _ hab => (Val.pair.inj hab).2) hr
    · intro x _ y _ hxy v hv hv'
      obtain ⟨r, _, rfl⟩ := List.mem_map.1 hv
      obtain ⟨r', _, h'⟩ := List.mem_map.1 hv'
      cases h'
      exact hxy rfl

theorem tupProd_nil_of_mem {ls : List (List Val)} (h : [] ∈ ls) : tupProd ls = [] := by
  induction ls with
  | nil => cases h
  | cons vs rest ih =>
    simp only [tupProd]
    rcases List.mem_cons.1 h with h | h
    · subst h; rfl
    · rw [ih h]; simp

theorem extent_nodup {sch : Schema} {db : DB} (hc : Conforms sch db) (lin : List Nat) :
    (db.extent lin).Nodup :=
  List.pairwise_map.2 ((List.pairwise_map.1 (hc.ids.sublist (List.filter_sublist.map _))).imp
    fun h heq => h (Val.obj.inj heq))

theorem normTy_single (sch : Schema) (x : Nat) : normTy sch (.obj [x]) = .obj [x] := by
  simp [normTy, dedupN, isortN, insertN]

theorem typesDisjoint_plain {sch : Schema} {db : DB} (hc : Conforms sch db) {x y : Nat}
    (htd : typesDisjoint sch (.obj [x]) (.obj [y]) = true) {v : Val}
    (hx : HasTy sch db (.obj [x]) v) (hy : HasTy sch db (.obj [y]) v) : False := by
  simp only [typesDisjoint, linKeys, normTy_single, decide_eq_true_eq] at htd
  obtain ⟨i, ty, t, rfl, h2, h3, h4⟩ := hx
  obtain ⟨i', ty', t', h1', h2', h3', h4'⟩ := hy
  cases h1'
  simp only [List.mem_singleton] at h3 h3'
  subst h3; subst h3'
  have := Keyed.snd_eq_of_key hc.ids h2 h2'
  subst this
  have hd := (List.nodup_append.1 htd).2.2
  exact hd [ty] (List.mem_map.2 ⟨ty, h4, rfl⟩) [ty] (List.mem_map.2 ⟨ty, h4', rfl⟩) rfl

theorem override_ok {α : Type} {c : Card} {m : MI} {l : List α} (hc : γ c l.length)
    (hm : γm m.info.own l) : γm (overrideSingle c m).info.own l := by
  unfold overrideSingle
  split
  · rename_i h
    simp only [Bool.and_eq_true] at h
    exact nodup_of_length_le_one l (γ_single hc h.1)
  · exact hm

theorem maxMult_own (ms : List MI) :
    (∀ m ∈ ms, m.info.own.toNat ≤ (maxMult ms).info.own.toNat) ∧
    (ms = [] → (maxMult ms).info.own = .UNIQUE) ∧
    (ms ≠ [] → ∃ m ∈ ms, (maxMult ms).info.own = m.info.own) := by
  obtain ⟨r, hr, _, _, h1, h2, h3⟩ := maxMultiplicity_ok (ms.map (·.info))
  have : (maxMult ms).info = r := by simp [maxMult, hr, MI.fresh]
  rw [this]
  refine ⟨?_, ?_, ?_⟩
  · intro m hm
    exact h1 m.info (List.mem_map.2 ⟨m, hm, rfl⟩)
  · intro h; exact h2 (by simp [h])
  · intro h
    obtain ⟨i, hi, hio⟩ := h3 (by simpa using h)
    obtain ⟨m, hm, rfl⟩ := List.mem_map.1 hi
    exact ⟨m, hm, hio⟩

/-- the result of `a ?? b` / of `x IF c ELSE y` with at most one condition value
    is one of the two operand bags or empty -/
theorem γm_max2 {ma mb : MI} {la lb l : List Val}
    (ha : γm ma.info.own la) (hb : γm mb.info.own lb) (hl : l = la ∨ l = lb ∨ l = []) :
    γm (maxMult [ma, mb]).info.own l := by
  obtain ⟨h1, _, h3⟩ := maxMult_own [ma, mb]
  have hA := h1 ma (by simp)
  have hB := h1 mb (by simp)
  rcases hl with rfl | rfl | rfl
  · exact γm_mono ha hA
  · exact γm_mono hb hB
  · generalize (maxMult [ma, mb]).info.own = m
    cases m <;> simp [γm]

theorem flatMap_ite_le_one {lc la lb : List Val} {p : Val → Bool} (h : lc.length ≤ 1) :
    (lc.flatMap fun v => if p v then la else lb) = la ∨
      (lc.flatMap fun v => if p v then la else lb) = lb ∨
      (lc.flatMap fun v => if p v then la else lb) = [] := by
  match lc, h with
  | [], _ => exact Or.inr (Or.inr rfl)
  | [v], _ =>
    rw [List.flatMap_cons, List.flatMap_nil, List.append_nil]
    split
    · exact Or.inl rfl
    · exact Or.inr (Or.inl rfl)

theorem unionMult_ok {td : Bool} {ma mb : MI} {la lb : List Val}
    (ha : γm ma.info.own la) (hb : γm mb.info.own lb)
    (hsafe : (ma.info.own.isUnique && mb.info.own.isUnique && ma.info.disjoint_union
      && mb.info.disjoint_union) = false)
    (htd : td = true → ∀ v ∈ la, v ∉ lb) :
    γm (unionMult td ma mb).info.own (la ++ lb) := by
  obtain ⟨⟨oa, da, _⟩, _⟩ := ma
  obtain ⟨⟨ob, db', _⟩, _⟩ := mb
  cases oa
  · obtain rfl : la = [] := ha
    cases ob
    · exact hb
    · exact hb
    · trivial
  · cases ob
    · obtain rfl : lb = [] := hb
      exact (List.append_nil la).symm ▸ ha
    · -- both UNIQUE: the result is UNIQUE iff `td` or both flags, and `hsafe` excludes the flags
      cases td
      · cases da
        · trivial
        · obtain rfl : db' = false := hsafe
          trivial
      · exact List.nodup_append.2 ⟨ha, hb, fun a h1 b h2 hab => htd rfl a h1 (hab ▸ h2)⟩
    · trivial
  · trivial

theorem constSetMult_sound (db : DB) (es : List CElem) :
    γm (constSetMult es).info.own (es.flatMap (evalElem db)) := by
  unfold constSetMult
  cases hcv : constVals es with
  | none => trivial
  | some ns =>
    rw [constVals_eval db es ns hcv]
    show γm (MI.info (if _ then _ else _)).own _
    split
    · rename_i h
      exact nodup_map_inj (fun _ _ h => Val.int.inj h) (nodup_of_dedupI_length ns (eq_of_beq h))
    · trivial

theorem tuple_mult_sound {ms : List MI} {ls : List (List Val)}
    (h : All2 (fun (m : MI) l => γm m.info.own l) ms ls) : γm (maxMult ms).info.own (tupProd ls) := by
  obtain ⟨h1, h2, h3⟩ := maxMult_own ms
  cases hmax : (maxMult ms).info.own with
  | DUPLICATE => trivial
  | UNIQUE =>
    rw [hmax] at h1
    refine tupProd_nodup fun l hl => ?_
    obtain ⟨m, hm, hml⟩ := h.mem_right hl
    exact γm_mono (m' := .UNIQUE) hml (h1 m hm)
  | EMPTY =>
    rw [hmax] at h2 h3
    obtain ⟨m, hm, hmo⟩ := h3 fun h0 => nomatch h2 h0
    obtain ⟨l, hl, hml⟩ := h.mem_left hm
    rw [← hmo] at hml
    exact tupProd_nil_of_mem (hml ▸ hl)

theorem union_disjoint {sch : Schema} {db : DB} (hc : Conforms sch db) {ta tb : Ty}
    (h : (!typesDisjoint sch ta tb || (match ta, tb with
      | .obj [_], .obj [_] => true
      | _, _ => false)) = true)
    (htd : typesDisjoint sch ta tb = true) {v : Val} (ha : HasTy sch db ta v) (hb : HasTy sch db tb v) :
    False := by
  rw [htd] at h
  match ta, tb, h with
  | .obj [_], .obj [_], _ => exact typesDisjoint_plain hc htd ha hb

theorem markDisjoint_ite_own (b : Bool) (m : MI) :
    (if b then markDisjoint m else m).info.own = m.info.own := by
  cases b <;> rfl

theorem path_mult_ok {sch : Schema} {db : DB} (hc : Conforms sch db) {Γ : VCtx} {env : List Val}
    {src : Q} {p : Nat} {dist : Option Nat} (ha : accepts sch Γ (.path src p) = true)
    (hsafe : safeHere sch Γ dist (.path src p) = true)
    (ihty : ∀ v ∈ eval sch db env src, HasTy sch db (tyOf sch (Γ.map (·.ty)) src) v)
    (ih : γm (inferMult sch Γ dist src).info.own (eval sch db env src)) :
    γm (MI.info (match sch.ptr? p with
        | some d => if d.link.isSome then MI.UNIQUE else if d.exclusive then .UNIQUE else .DUPLICATE
        | none => .DUPLICATE)).own (eval sch db env (.path src p)) := by
  obtain ⟨d, _, hp, _⟩ := accepts_path ha
  have hsrc := path_src hc ha hp ihty
  rw [eval_path hp, hp]
  change (match sch.ptr? p with
    | some d => _
    | none => _) = true at hsafe
  rw [hp] at hsafe
  show γm (MI.info (if d.link.isSome then _ else _)).own (if d.link.isSome then _ else _)
  change (d.link.isSome || _ || _) = true at hsafe
  cases hl : d.link with
  | some t => exact dedup_nodup _
  | none =>
    cases hex : d.exclusive with
    | false => trivial
    | true =>
      rw [hl, hex] at hsafe
      obtain ⟨hnd, hdis⟩ := hc.excl p d hp hex
      refine nodup_flatMap' (γm_mono (m' := .UNIQUE) ih ?_) ?_ ?_
      · revert hsafe
        cases (inferMult sch Γ dist src).info.own <;> decide
      · intro v _
        cases v <;> first | exact List.nodup_nil | exact hnd _
      · intro x hx y hy hxy v hvx hvy
        obtain ⟨ix, _, rfl, _⟩ := hsrc x hx
        obtain ⟨iy, _, rfl, _⟩ := hsrc y hy
        exact hdis ix iy v (fun h => hxy (h ▸ rfl)) hvx hvy

/-! Calls, FILTER, FOR: `safeHere` excludes the branch that claims UNIQUE from operator injectivity or from the
`disjoint_union` flag; what is left of each rule is a singleton result, the operand's own claim, or DUPLICATE. -/

theorem call_mult_sound {c : Card} {l : List Val} (hc : γ c l.length) {b : Bool} {m : MI}
    (hsafe : (c.isSingle || !b) = true) :
    γm (MI.info (if c.isSingle then MI.UNIQUE else if b then m else .DUPLICATE)).own l := by
  cases h : c.isSingle with
  | true => exact nodup_of_length_le_one _ (γ_single hc h)
  | false =>
    rw [h, Bool.false_or, Bool.not_eq_true'] at hsafe
    rw [hsafe]
    trivial

theorem distinct_mult_sound {ma : MI} {l : List Val} (h : γm ma.info.own l) :
    γm (MI.info (if ma.isConst .EMPTY then MI.EMPTY else .UNIQUE)).own (dedup l) := by
  split
  · rename_i hc
    rw [(of_decide_eq_true (Bool.and_eq_true_iff.1 hc).2 : ma.info = _)] at h
    exact congrArg dedup h
  · exact dedup_nodup _

theorem filter_mult_sound {hit : Bool} {ma : MI} {l : List Val} (h : (!hit) = true)
    (hm : γm ma.info.own l) : γm (MI.info (if hit then MI.DISTINCT_UNION else ma)).own l := by
  rw [Bool.not_eq_true'] at h
  rw [h]
  exact hm

theorem for_mult_sound {l : List Val} {a b : Bool} {m : MI} (h : (a || !b) = true) :
    γm (MI.info (if a then MI.DUPLICATE else if b then m else .DUPLICATE)).own l := by
  cases a
  · rw [Bool.false_or, Bool.not_eq_true'] at h
    rw [h]
    trivial
  · trivial

end EdbVerif.MiniQL
