/-
C12 — a relation on scalars extended to types.  `Ty.beq`, `implCastable`, `convertible` and `canCast` are
one definition with four scalar cases; what holds of all of them (an induction principle over the ways
the relation is established, reflexivity, transitivity, monotonicity) is proved once from laws of the
scalar relation.
-/
import EdbVerif.Model.TypesQL

namespace EdbVerif.Types

mutual
def lift (r : Sc → Sc → Bool) : Ty → Ty → Bool
  | .scalar a, .scalar b => r a b
  | .obj a, .obj b => a == b
  | .tuple as, .tuple bs => liftL r as bs
  | .array a, .array b => lift r a b
  | _, _ => false
def liftL (r : Sc → Sc → Bool) : List Ty → List Ty → Bool
  | [], [] => true
  | a :: as, b :: bs => lift r a b && liftL r as bs
  | _, _ => false
end

theorem lift_induct {r : Sc → Sc → Bool} {P : Ty → Ty → Prop} {PL : List Ty → List Ty → Prop}
    (scalar : ∀ x y, r x y = true → P (.scalar x) (.scalar y))
    (obj : ∀ n, P (.obj n) (.obj n))
    (tuple : ∀ as bs, PL as bs → P (.tuple as) (.tuple bs))
    (array : ∀ a b, P a b → P (.array a) (.array b))
    (nil : PL [] [])
    (cons : ∀ a b as bs, P a b → PL as bs → PL (a :: as) (b :: bs)) :
    (∀ a b, lift r a b = true → P a b) ∧ (∀ as bs, liftL r as bs = true → PL as bs) := by
  apply lift.mutual_induct
  · exact scalar
  · intro a b h; simp only [lift, beq_iff_eq] at h; subst h; exact obj a
  · exact fun as bs ih h => tuple as bs (ih h)
  · exact fun a b ih h => array a b (ih h)
  · intro a b _ _ _ _ h; simp [lift] at h
  · exact fun _ => nil
  · intro a as b bs ih1 ih2 h
    simp only [liftL, Bool.and_eq_true] at h
    exact cons a b as bs (ih1 h.1) (ih2 h.2)
  · intro as bs _ _ h; simp [liftL] at h

mutual
theorem lift_refl {r : Sc → Sc → Bool} (hr : ∀ s, r s s = true) : ∀ a : Ty, lift r a a = true
  | .scalar s => hr s
  | .obj n => by simp [lift]
  | .tuple ts => liftL_refl hr ts
  | .array t => lift_refl hr t
theorem liftL_refl {r : Sc → Sc → Bool} (hr : ∀ s, r s s = true) : ∀ as : List Ty, liftL r as as = true
  | [] => rfl
  | a :: as => by simp [liftL, lift_refl hr a, liftL_refl hr as]
end

theorem lift_trans {r : Sc → Sc → Bool} (hr : ∀ x y z, r x y = true → r y z = true → r x z = true) :
    (∀ a b : Ty, lift r a b = true → ∀ c, lift r b c = true → lift r a c = true) ∧
    (∀ as bs : List Ty, liftL r as bs = true → ∀ cs, liftL r bs cs = true → liftL r as cs = true) := by
  apply lift_induct
  · intro x y h c h2
    cases c <;> simp only [lift, Bool.false_eq_true] at h2 ⊢
    exact hr _ _ _ h h2
  · exact fun _ _ h => h
  · intro as bs ih c h2
    cases c <;> simp only [lift, Bool.false_eq_true] at h2 ⊢
    exact ih _ h2
  · intro a b ih c h2
    cases c <;> simp only [lift, Bool.false_eq_true] at h2 ⊢
    exact ih _ h2
  · exact fun _ h => h
  · intro a b as bs ih1 ih2 cs h2
    cases cs <;> simp only [liftL, Bool.and_eq_true, Bool.false_eq_true] at h2 ⊢
    exact ⟨ih1 _ h2.1, ih2 _ h2.2⟩

theorem lift_mono {r r' : Sc → Sc → Bool} (hr : ∀ x y, r x y = true → r' x y = true) :
    (∀ a b : Ty, lift r a b = true → lift r' a b = true) ∧
    (∀ as bs : List Ty, liftL r as bs = true → liftL r' as bs = true) := by
  apply lift_induct
  · exact hr
  · exact fun n => by simp [lift]
  · exact fun _ _ ih => ih
  · exact fun _ _ ih => ih
  · rfl
  · intro a b as bs ih1 ih2
    simp only [liftL, Bool.and_eq_true]
    exact ⟨ih1, ih2⟩

theorem lift_eq {r : Sc → Sc → Bool} (hr : ∀ x y, r x y = true → x = y) :
    (∀ a b : Ty, lift r a b = true → a = b) ∧ (∀ as bs : List Ty, liftL r as bs = true → as = bs) := by
  apply lift_induct
  · intro x y h; rw [hr x y h]
  · exact fun _ => rfl
  · intro as bs ih; rw [ih]
  · intro a b ih; rw [ih]
  · rfl
  · intro a b as bs ih1 ih2; rw [ih1, ih2]

theorem convertibleSc_iff {a b : Sc} : convertibleSc a b = true ↔
    a = b ∨ ∃ x y, a.top = some x ∧ b = .base y ∧ castableS x y = true := by
  simp only [convertibleSc, Bool.or_eq_true, beq_iff_eq]
  refine or_congr_right ⟨fun h => ?_, ?_⟩
  · split at h
    · rename_i x y hx
      exact ⟨x, y, hx, rfl, h⟩
    · cases h
  · rintro ⟨x, y, hx, rfl, h⟩
    simp only [hx, h]

def canCastSc (a b : Sc) : Bool :=
  a == b || match a.top, b.top with
    | some x, some y => castableAnyS x y && safeCastS x y
    | _, _ => false

-- `rfl`: the model's functions are the clauses of `lift`, word for word, with these scalar cases
theorem Ty.beq_lift : Ty.beq = lift (· == ·) ∧ Ty.beqL = liftL (· == ·) := by
  delta Ty.beq Ty.beqL lift liftL; exact ⟨rfl, rfl⟩

theorem implCastable_lift : implCastable = lift castableSc ∧ implCastableL = liftL castableSc := by
  delta implCastable implCastableL lift liftL; exact ⟨rfl, rfl⟩

theorem convertible_lift : convertible = lift convertibleSc ∧ convertibleL = liftL convertibleSc := by
  delta convertible convertibleL lift liftL; exact ⟨rfl, rfl⟩

theorem canCast_lift : canCast = lift canCastSc ∧ canCastL = liftL canCastSc := by
  delta canCast canCastL lift liftL; exact ⟨rfl, rfl⟩

theorem Ty.beq_eq (a b : Ty) (h : Ty.beq a b = true) : a = b :=
  (lift_eq fun _ _ => eq_of_beq).1 a b (Ty.beq_lift.1 ▸ h)

theorem Ty.beqL_eq (as bs : List Ty) (h : Ty.beqL as bs = true) : as = bs :=
  (lift_eq fun _ _ => eq_of_beq).2 as bs (Ty.beq_lift.2 ▸ h)

theorem Ty.beq_refl (a : Ty) : Ty.beq a a = true :=
  Ty.beq_lift.1 ▸ lift_refl (fun _ => beq_self_eq_true _) a

theorem Ty.beqL_refl (as : List Ty) : Ty.beqL as as = true :=
  Ty.beq_lift.2 ▸ liftL_refl (fun _ => beq_self_eq_true _) as

instance : LawfulBEq Ty where
  eq_of_beq := Ty.beq_eq _ _
  rfl := Ty.beq_refl _

theorem Ty.beq_comm (a b : Ty) : Ty.beq a b = Ty.beq b a :=
  BEq.comm (a := a)

theorem Ty.beqL_comm (as bs : List Ty) : Ty.beqL as bs = Ty.beqL bs as :=
  Bool.eq_iff_iff.2
    ⟨fun h => Ty.beqL_eq as bs h ▸ Ty.beqL_refl as, fun h => Ty.beqL_eq bs as h ▸ Ty.beqL_refl bs⟩

end EdbVerif.Types
