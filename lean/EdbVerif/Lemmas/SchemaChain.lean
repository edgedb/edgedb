/-
C10 on the model: chains of migrations, by induction from `apply_diff`.
-/
import EdbVerif.Lemmas.SchemaDiff

namespace EdbVerif.Schema

theorem migrate_same {sim : Sim} (hs : SimSound sim) {A B r : Schema} (hA : Valid A) (hB : Valid B)
    (h : migrate sim A B = .ok r) : Same r B := by
  unfold migrate at h
  split at h
  · rename_i cmds hc
    obtain ⟨s, h1, h2⟩ := apply_diff hA hB hs hc
    cases h1.symm.trans h
    exact h2
  · cases h

theorem chain_same {sim : Sim} (hs : SimSound sim) {a r t : Schema} {S : List Schema} (ha : Valid a)
    (hv : ∀ s ∈ S, Valid s) (h : migrateChain sim a S = .ok r) (ht : S.getLast? = some t) : Same r t := by
  induction S generalizing a with
  | nil => cases ht
  | cons s ss ih =>
    rw [migrateChain] at h
    split at h
    · rename_i a' hm
      have hsame := migrate_same hs ha (hv s List.mem_cons_self) hm
      cases ss with
      | nil =>
        cases h
        cases ht
        exact hsame
      | cons s2 ss2 =>
        exact ih (hsame.valid (hv s List.mem_cons_self)) (fun x hx => hv x (List.mem_cons_of_mem _ hx))
          h (List.getLast?_cons_cons ▸ ht)
    · cases h

end EdbVerif.Schema
