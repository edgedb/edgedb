/-
The frame argument: a change of one pointer is correct if it is correct on the pointer's footprint
and touches nothing else (`LocalOK`, `lift_local`); footprints of different pointers are disjoint.
Local correctness is a Hoare triple over the local state of the pointer (`Loc`, `Holds`, `Triple`).
A pointer without storage does not count in the layout (`Dead`, `layout_congr`), which is how creating and
dropping a pointer become changes of one.
-/
import EdbVerif.Lemmas.StorageBasic

namespace EdbVerif.Storage

/-- `c'` differs from `c` only on the footprint of `p` -/
structure Untouched (p : Ptr) (c c' : Catalog) : Prop where
  tables : ∀ t, t ≠ .ptr p.id → (t ∈ c'.tables ↔ t ∈ c.tables)
  cols : ∀ x, ¬ Foot p x → (x ∈ c'.cols ↔ x ∈ c.cols)

/-! The footprint has three parts, and every emitted operation acts on one of them: the pointer's
table, its column in the source's table, the columns of its table. -/

structure Loc where
  tbl : Bool
  src : Bool
  cols : CName → Prop

def Ptr.loc (p : Ptr) : Loc where
  tbl := p.hasTable
  src := p.srcCol.isSome
  cols k := p.hasTable = true ∧ (k = .source ∨ k = .target ∨ k ∈ p.lpropCols)

/-- On the footprint of `p` the catalog is `σ`.  `srcTbl` is outside the footprint: `ADD COLUMN` fails
    without the source's table. -/
structure Holds (c : Catalog) (p : Ptr) (σ : Loc) : Prop where
  tbl : .ptr p.id ∈ c.tables ↔ σ.tbl = true
  src : ∀ t, p.src = some t → ((.obj t, colOf p.name p.id) ∈ c.cols ↔ σ.src = true)
  cols : ∀ k, (.ptr p.id, k) ∈ c.cols ↔ σ.cols k
  srcTbl : ∀ t, p.src = some t → .obj t ∈ c.tables

theorem mem_ptrCols_tbl {p : Ptr} {i : Nat} (hid : p.id = i) {k : CName} :
    (.ptr i, k) ∈ ptrCols p ↔ p.loc.cols k := by
  rw [mem_ptrCols, hid]
  constructor
  · rintro (h | ⟨h1, _, h2⟩)
    · obtain ⟨_, _, _, _, _, h⟩ := srcCol_eq_some.mp h; cases h
    · exact ⟨h1, h2⟩
  · rintro ⟨h1, h2⟩; exact Or.inr ⟨h1, rfl, h2⟩

theorem mem_ptrCols_src {p : Ptr} {t : Nat} (hs : p.src = some t) :
    (.obj t, colOf p.name p.id) ∈ ptrCols p ↔ p.loc.src = true := by
  rw [mem_ptrCols]
  constructor
  · rintro (h | ⟨_, h, _⟩)
    · exact Option.isSome_iff_exists.mpr ⟨_, h⟩
    · cases h
  · intro h
    obtain ⟨x, hx⟩ := Option.isSome_iff_exists.mp h
    obtain ⟨t', hs', _, _, _, rfl⟩ := srcCol_eq_some.mp hx
    rw [hs] at hs'; cases hs'
    exact Or.inl hx

theorem Holds.mem_cols_iff {c : Catalog} {p p' : Ptr} (h : Holds c p p'.loc) (hid : p'.id = p.id)
    (hsrc : p'.src = p.src) (hcol : colOf p'.name p'.id = colOf p.name p.id) {x : TName × CName}
    (hx : Foot p x) : x ∈ c.cols ↔ x ∈ ptrCols p' := by
  obtain ⟨x1, x2⟩ := x
  rcases hx with hx | ⟨t, hs, hx⟩
  · cases hx; rw [h.cols, mem_ptrCols_tbl hid]
  · cases hx; rw [h.src t hs, ← hcol, mem_ptrCols_src (hsrc.trans hs)]

/-- from any catalog that is `σ` on the footprint of `p`, `ops` succeed, change nothing else, and leave `σ'` -/
def Triple (p : Ptr) (σ : Loc) (ops : List Op) (σ' : Loc) : Prop :=
  ∀ c, Holds c p σ → ∃ c', execAll c ops = some c' ∧ Untouched p c c' ∧ Holds c' p σ'

/-- `ops` turn the storage of `p` into that of `p'` -/
def LocalOK (p p' : Ptr) (ops : List Op) : Prop := Triple p p.loc ops p'.loc

theorem Untouched.refl (p : Ptr) (c : Catalog) : Untouched p c c :=
  ⟨fun _ _ => .rfl, fun _ _ => .rfl⟩

theorem Untouched.trans {p : Ptr} {c c1 c2 : Catalog} (h1 : Untouched p c c1) (h2 : Untouched p c1 c2) :
    Untouched p c c2 :=
  ⟨fun t ht => (h2.tables t ht).trans (h1.tables t ht), fun x hx => (h2.cols x hx).trans (h1.cols x hx)⟩

theorem Triple.nil (p : Ptr) (σ : Loc) : Triple p σ [] σ :=
  fun c h => ⟨c, rfl, .refl p c, h⟩

theorem Triple.append {p : Ptr} {σ σ1 σ2 : Loc} {ops1 ops2 : List Op} (h1 : Triple p σ ops1 σ1)
    (h2 : Triple p σ1 ops2 σ2) : Triple p σ (ops1 ++ ops2) σ2 := by
  intro c h
  obtain ⟨c1, e1, u1, h⟩ := h1 c h
  obtain ⟨c2, e2, u2, h⟩ := h2 c1 h
  exact ⟨c2, by rw [execAll_append, e1]; exact e2, u1.trans u2, h⟩

theorem Triple.post {p : Ptr} {σ σ1 σ2 : Loc} {ops : List Op} (h : Triple p σ ops σ1)
    (ht : σ1.tbl = σ2.tbl) (hs : σ1.src = σ2.src) (hc : ∀ k, σ1.cols k ↔ σ2.cols k) :
    Triple p σ ops σ2 := by
  intro c hc0
  obtain ⟨c1, e1, u1, h⟩ := h c hc0
  exact ⟨c1, e1, u1, ht ▸ h.tbl, fun t hs' => hs ▸ h.src t hs', fun k => (h.cols k).trans (hc k), h.srcTbl⟩

theorem holds_of_equiv {s : Schema} {c : Catalog} (w : WF s) (he : c.Equiv (layout s))
    {p : Ptr} (hp : p ∈ s.ptrs) : Holds c p p.loc := by
  have cols : ∀ x, Foot p x → (x ∈ c.cols ↔ x ∈ ptrCols p) := by
    intro x hx
    rw [he.2, mem_layout_cols]
    constructor
    · rintro ⟨q, hq, h⟩
      rwa [w.foot_disjoint hp hq hx (foot_of_mem_ptrCols h)]
    · exact fun h => ⟨p, hp, h⟩
  refine ⟨?_, fun t hs => ?_, fun k => ?_, fun t ht => ?_⟩
  · rw [he.1, mem_layout_tables]
    constructor
    · rintro (⟨_, _, h⟩ | ⟨q, hq, h⟩)
      · cases h
      · obtain ⟨ht, hid⟩ := mem_ptrTables.mp h
        rwa [w.eq_of_id hp hq (TName.ptr.inj hid)]
    · exact fun h => .inr ⟨p, hp, mem_ptrTables.mpr ⟨h, rfl⟩⟩
  · rw [cols _ (.inr ⟨t, hs, rfl⟩), mem_ptrCols_src hs]
  · rw [cols _ (.inl rfl), mem_ptrCols_tbl rfl]
  · rw [he.1, mem_layout_tables]
    exact .inl ⟨t, w.srcs p hp t ht, rfl⟩

theorem mem_updPtr {s : Schema} (w : WF s) {i : Nat} {p : Ptr} (hf : s.findPtr i = some p)
    (f : Ptr → Ptr) {q' : Ptr} :
    q' ∈ (s.updPtr i f).ptrs ↔ q' = f p ∨ (q' ∈ s.ptrs ∧ q'.id ≠ i) := by
  obtain ⟨hp, rfl⟩ := findPtr_some hf
  exact Keyed.mem_modify w.ids hp fun _ => .rfl

theorem foot_congr {p p' : Ptr} (hid : p'.id = p.id) (hsrc : p'.src = p.src)
    (hcol : colOf p'.name p'.id = colOf p.name p.id) (x : TName × CName) : Foot p' x ↔ Foot p x := by
  unfold Foot
  rw [hid] at hcol
  rw [hid, hsrc, hcol]

theorem exists_ptr_split {s : Schema} (w : WF s) {i : Nat} {p : Ptr} (hf : s.findPtr i = some p)
    (f : Ptr → Ptr) (P : Ptr → Prop) :
    ((∃ q ∈ s.ptrs, P q) ↔ P p ∨ ∃ q ∈ s.ptrs, q.id ≠ i ∧ P q) ∧
    ((∃ q ∈ (s.updPtr i f).ptrs, P q) ↔ P (f p) ∨ ∃ q ∈ s.ptrs, q.id ≠ i ∧ P q) := by
  obtain ⟨hp, hpi⟩ := findPtr_some hf
  constructor
  · constructor
    · rintro ⟨q, hq, h⟩
      by_cases hqi : q.id = i
      · rw [w.eq_of_id hq hp (hqi.trans hpi.symm)] at h; exact .inl h
      · exact .inr ⟨q, hq, hqi, h⟩
    · rintro (h | ⟨q, hq, _, h⟩)
      · exact ⟨p, hp, h⟩
      · exact ⟨q, hq, h⟩
  · simp only [mem_updPtr w hf, or_and_right, exists_or, exists_eq_left, and_assoc]

theorem lift_local {s : Schema} {c : Catalog} (w : WF s) (he : c.Equiv (layout s))
    {i : Nat} {p : Ptr} (hf : s.findPtr i = some p) (f : Ptr → Ptr)
    (hid : (f p).id = p.id) (hsrc : (f p).src = p.src)
    (hcol : colOf (f p).name (f p).id = colOf p.name p.id)
    {ops : List Op} (hl : LocalOK p (f p) ops) :
    ∃ c', execAll c ops = some c' ∧ c'.Equiv (layout (s.updPtr i f)) := by
  obtain ⟨hp, hpi⟩ := findPtr_some hf
  obtain ⟨c', hex, ⟨hT, hC⟩, hh⟩ := hl c (holds_of_equiv w he hp)
  have split := exists_ptr_split w hf f
  refine ⟨c', hex, fun t => ?_, fun x => ?_⟩
  -- tables: the pointer's own is as `f p` wants it, every other is untouched and no table of `p` or `f p`
  · rw [mem_layout_tables, (split _).2]
    by_cases ht : t = .ptr p.id
    · subst ht
      rw [hh.tbl]
      constructor
      · exact fun h => .inr (.inl (mem_ptrTables.mpr ⟨h, by rw [hid]⟩))
      · rintro (⟨d, _, h⟩ | h | ⟨q, _, hqi, h⟩)
        · cases h
        · exact (mem_ptrTables.mp h).1
        · exact absurd ((TName.ptr.inj (mem_ptrTables.mp h).2).symm.trans hpi) hqi
    · rw [hT t ht, he.1, mem_layout_tables, (split _).1]
      exact or_congr_right (or_congr_left (iff_of_false (fun h => ht (mem_ptrTables.mp h).2)
        fun h => ht ((mem_ptrTables.mp h).2.trans (by rw [hid]))))
  -- columns: on the footprint only `f p` can own `x` (`foot_disjoint`), off it neither `p` nor `f p` does
  · rw [mem_layout_cols, (split _).2]
    by_cases hx : Foot p x
    · rw [hh.mem_cols_iff hid hsrc hcol hx]
      refine (or_iff_left ?_).symm
      rintro ⟨q, hq, hqi, h⟩
      exact hqi (w.foot_disjoint hp hq hx (foot_of_mem_ptrCols h) ▸ hpi)
    · rw [hC x hx, he.2, mem_layout_cols, (split _).1]
      exact or_congr_left (iff_of_false (fun h => hx (foot_of_mem_ptrCols h))
        fun h => hx ((foot_congr hid hsrc hcol x).mp (foot_of_mem_ptrCols h)))

theorem wf_updPtr {s : Schema} (w : WF s) {i : Nat} {p : Ptr} (hf : s.findPtr i = some p)
    (f : Ptr → Ptr) (hid : ∀ q, (f q).id = q.id) (hsrc : (f p).src = p.src)
    (hname : (f p).name = p.name ∨ s.nameUsed p.src (f p).name = false)
    (hlp : ((f p).lprops.map (·.id)).Nodup)
    (hln : ∀ lp ∈ (f p).lprops, lp.implicitName = false) : WF (s.updPtr i f) := by
  obtain ⟨hp, hpi⟩ := findPtr_some hf
  have other : ∀ b ∈ s.ptrs, b.id ≠ i → b.src = p.src → b.name ≠ (f p).name := by
    intro b hb hbi hs hn
    rcases hname with h | h
    · exact hbi ((w.names b hb p hp hs (hn.trans h)).trans hpi)
    · simp only [Schema.nameUsed, List.any_eq_false, Bool.and_eq_true, beq_iff_eq, not_and] at h
      exact h b hb hs hn
  refine ⟨?_, ?_, ?_, ?_, ?_⟩
  · show (List.map (·.id) (s.ptrs.map fun q => if q.id = i then f q else q)).Nodup
    rw [Keyed.map_modify fun q _ => hid q]; exact w.ids
  · intro a ha b hb hs hn
    rcases (mem_updPtr w hf f).mp ha with rfl | ⟨ha1, ha2⟩ <;>
      rcases (mem_updPtr w hf f).mp hb with rfl | ⟨hb1, hb2⟩
    · rfl
    · exact absurd hn.symm (other b hb1 hb2 (hs.symm.trans hsrc))
    · exact absurd hn (other a ha1 ha2 (hs.trans hsrc))
    · exact w.names a ha1 b hb1 hs hn
  · intro a ha t ht
    rcases (mem_updPtr w hf f).mp ha with rfl | ⟨ha1, _⟩
    · exact w.srcs p hp t (hsrc ▸ ht)
    · exact w.srcs a ha1 t ht
  · intro a ha
    rcases (mem_updPtr w hf f).mp ha with rfl | ⟨ha1, _⟩
    · exact hlp
    · exact w.lpids a ha1
  · intro a ha
    rcases (mem_updPtr w hf f).mp ha with rfl | ⟨ha1, _⟩
    · exact hln
    · exact w.lpnames a ha1

theorem WF.sub {s s' : Schema} (w : WF s) (hp : s'.ptrs.Sublist s.ptrs)
    (ht : ∀ p ∈ s'.ptrs, ∀ t, p.src = some t → t ∈ s'.typeIds) : WF s' :=
  ⟨w.ids.sublist (hp.map _), fun a ha b hb => w.names a (hp.subset ha) b (hp.subset hb), ht,
    fun a ha => w.lpids a (hp.subset ha), fun a ha => w.lpnames a (hp.subset ha)⟩

/-- a pointer without storage: it contributes nothing to the layout -/
def Dead (p : Ptr) : Prop := p.hasTable = false ∧ p.srcCol = none

theorem dead_tables {p : Ptr} (h : Dead p) : ptrTables p = [] := by
  unfold ptrTables; simp [h.1]

theorem dead_cols {p : Ptr} (h : Dead p) (x : TName × CName) : x ∉ ptrCols p := by
  rw [mem_ptrCols, h.1, h.2]; simp

theorem dead_of_computed {p : Ptr} (h : p.computed = true) : Dead p := by
  constructor
  · simp [Ptr.hasTable, h]
  · unfold Ptr.srcCol; cases p.src <;> simp [h]

theorem layout_congr {s1 s2 : Schema} (ht : ∀ t, t ∈ s1.typeIds ↔ t ∈ s2.typeIds)
    (hp : ∀ q, ¬ Dead q → (q ∈ s1.ptrs ↔ q ∈ s2.ptrs)) : (layout s1).Equiv (layout s2) := by
  have key : ∀ {P : Ptr → Prop}, (∀ q, P q → ¬ Dead q) → ((∃ q ∈ s1.ptrs, P q) ↔ ∃ q ∈ s2.ptrs, P q) :=
    fun hP => ⟨fun ⟨q, hq, h⟩ => ⟨q, (hp q (hP q h)).mp hq, h⟩, fun ⟨q, hq, h⟩ => ⟨q, (hp q (hP q h)).mpr hq, h⟩⟩
  refine ⟨fun t => ?_, fun x => ?_⟩
  · rw [mem_layout_tables, mem_layout_tables, key fun q h hd => by rw [dead_tables hd] at h; cases h]
    exact or_congr_left (exists_congr fun i => and_congr_left' (ht i))
  · rw [mem_layout_cols, mem_layout_cols, key fun q h hd => dead_cols hd x h]

/-- `ops` succeed on `c` and re-establish the invariant for `s'` -/
def Restores (c : Catalog) (s' : Schema) (ops : List Op) : Prop :=
  ∃ c', execAll c ops = some c' ∧ WF s' ∧ c'.Equiv (layout s')

theorem step_upd {s : Schema} {c : Catalog} (w : WF s) (he : c.Equiv (layout s))
    {i : Nat} {p : Ptr} (hf : s.findPtr i = some p) (f : Ptr → Ptr)
    (hid : ∀ q, (f q).id = q.id) (hsrc : (f p).src = p.src)
    (hcol : colOf (f p).name (f p).id = colOf p.name p.id)
    (hname : (f p).name = p.name ∨ s.nameUsed p.src (f p).name = false)
    (hlp : ((f p).lprops.map (·.id)).Nodup)
    (hln : ∀ lp ∈ (f p).lprops, lp.implicitName = false)
    {ops : List Op} (hl : LocalOK p (f p) ops) : Restores c (s.updPtr i f) ops := by
  obtain ⟨c', e, h⟩ := lift_local w he hf f (hid p) hsrc hcol hl
  exact ⟨c', e, wf_updPtr w hf f hid hsrc hname hlp hln, h⟩

theorem step_attr {s : Schema} {c : Catalog} (w : WF s) (he : c.Equiv (layout s))
    {i : Nat} {p : Ptr} (hf : s.findPtr i = some p) (f : Ptr → Ptr)
    (hid : ∀ q, (f q).id = q.id) (hsrc : (f p).src = p.src) (hname : (f p).name = p.name)
    (hlps : (f p).lprops = p.lprops) {ops : List Op} (hl : LocalOK p (f p) ops) :
    Restores c (s.updPtr i f) ops := by
  have hp := (findPtr_some hf).1
  exact step_upd w he hf f hid hsrc (by rw [hname, hid]) (Or.inl hname) (hlps ▸ w.lpids p hp)
    (hlps ▸ w.lpnames p hp) hl

end EdbVerif.Storage
