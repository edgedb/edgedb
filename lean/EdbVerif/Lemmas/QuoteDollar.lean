/-
C18, dollar-quoted strings: `dollar_quote_literal` read back by the tokenizer model; and, for the other tag
modules too, substring search and the generic tag loop (`tagLoop`), of which its loop is an instance.
-/
import EdbVerif.Lemmas.QuoteBasic
import EdbVerif.Lemmas.Digits

namespace EdbVerif.Lex
open EdbVerif.Quote

theorem findSub_eq_none_iff (m : List Char) : ∀ l, findSub m l = none ↔ ¬ m <:+: l
  | [] => by cases m <;> simp [findSub]
  | c :: cs => by
    rw [List.infix_cons_iff, ← List.isPrefixOf_iff_prefix, not_or, ← findSub_eq_none_iff m cs]
    cases hp : m.isPrefixOf (c :: cs) <;> cases hf : findSub m cs <;> simp [findSub, hp, hf]

theorem contains_iff (m l : List Char) : contains m l = true ↔ m <:+: l := by
  rw [contains, ← Option.ne_none_iff_isSome, Ne, findSub_eq_none_iff, Classical.not_not]

theorem findSub_spec (m : List Char) : ∀ l a b, findSub m l = some (a, b) → l = a ++ m ++ b
  | [], a, b, h => by cases m <;> simp_all [findSub]
  | c :: cs, a, b, h => by
    cases hp : m.isPrefixOf (c :: cs) with
    | true =>
      obtain ⟨rfl, rfl⟩ : [] = a ∧ (c :: cs).drop m.length = b := by simpa [findSub, hp] using h
      obtain ⟨t, ht⟩ := List.isPrefixOf_iff_prefix.mp hp
      simp [← ht]
    | false =>
      cases hf : findSub m cs with
      | none => simp [findSub, hp, hf] at h
      | some p =>
        obtain ⟨rfl, rfl⟩ : c :: p.1 = a ∧ p.2 = b := by simpa [findSub, hp, hf] using h
        simp [findSub_spec m cs p.1 p.2 hf]

/-- `h`: no occurrence of `pre ++ [x]` starts inside `t` -/
theorem findSub_first (pre : List Char) (x : Char) (t rest : List Char)
    (h : findSub (pre ++ [x]) (t ++ pre) = none) :
    findSub (pre ++ [x]) (t ++ (pre ++ [x]) ++ rest) = some (t, rest) := by
  rw [findSub_eq_none_iff] at h
  induction t with
  | nil =>
    have hp : (pre ++ [x]).isPrefixOf (pre ++ [x] ++ rest) = true :=
      List.isPrefixOf_iff_prefix.mpr (List.prefix_append _ _)
    cases hl : pre ++ [x] ++ rest with
    | nil => simp at hl
    | cons a as =>
      rw [List.nil_append, hl, findSub, ← hl, hp]
      simp
  | cons c t' ih =>
    rw [List.cons_append, List.infix_cons_iff, not_or] at h
    -- an occurrence at `c` would fit into `c :: t' ++ pre`, which is one character longer than `pre`
    have hnp : (pre ++ [x]).isPrefixOf (c :: (t' ++ (pre ++ [x]) ++ rest)) = false := by
      refine Bool.eq_false_iff.mpr fun hb => h.1 ?_
      rw [List.isPrefixOf_iff_prefix] at hb
      refine List.prefix_of_prefix_length_le hb (l₂ := c :: (t' ++ pre)) ?_ (by simp)
      simp
    have := ih h.2
    simp only [List.append_assoc, List.cons_append, List.nil_append] at this hnp ⊢
    simp [findSub, hnp, this]

theorem firstProhibited_none (s : List Char) (h : ∀ c ∈ s, checkProhibited c false = none) :
    firstProhibited false s = none := by
  induction s with
  | nil => rfl
  | cons c cs ih =>
    simp [firstProhibited, h c (by simp), ih (fun x hx => h x (by simp [hx]))]

theorem revHex_eq (n : Nat) : (revHex n).reverse = Nat.toDigits 16 n :=
  Digits.revDigits_eq_of_le (b := 16) (by decide) (dig := hexDigit) (by decide) (aux := revHexAux)
    rfl (fun _ _ => rfl) n n (Nat.le_refl n)

theorem isHexLower_revHex (n : Nat) : ∀ c ∈ revHex n, IsHexLower c := by
  intro c hc
  obtain ⟨d, hd, rfl⟩ := Digits.digitChar_of_mem_toDigits (by decide) n c (revHex_eq n ▸ List.mem_reverse.mpr hc)
  exact (by decide : ∀ d, d < 16 → IsHexLower (Nat.digitChar d)) d hd

theorem revHexAux_head (f n : Nat) : ∃ tl, revHexAux f n = hexDigit (n % 16) :: tl := by
  cases f with
  | zero => exact ⟨[], rfl⟩
  | succ f =>
    simp only [revHexAux]
    split
    · rename_i hn
      exact ⟨[], by rw [Nat.mod_eq_of_lt hn]⟩
    · exact ⟨_, rfl⟩

theorem isHexLower_tagChar (U : UClass) (c : Char) (h : IsHexLower c) :
    isTagChar U c = true ∧ c.toNat < 128 := by
  have hn := isHexLower_ascii c h
  refine ⟨?_, hn⟩
  simp only [isTagChar, isDigit, isAlpha, isAsciiLetter, hn, if_true, Bool.or_eq_true, Bool.and_eq_true,
    decide_eq_true_eq]
  omega

theorem dollarStr_lex (U : UClass) (name s rest : List Char)
    (hn : ∀ c ∈ name, isTagChar U c = true ∧ c.toNat < 128)
    (hd : ∀ d tl, name = d :: tl → isDigit d = false)
    (hp : ∀ c ∈ s, checkProhibited c false = none)
    (h : findSub ('$' :: name ++ ['$']) (s ++ '$' :: name) = none) :
    lexOne U (('$' :: name ++ ['$']) ++ s ++ ('$' :: name ++ ['$']) ++ rest) = .ok (⟨.str, .str s⟩, rest) := by
  have hany : (('$' :: name) ++ ['$']).any (fun x => decide (128 ≤ x.toNat)) = false := by
    simp only [List.any_eq_false]
    intro x hx
    simp at hx
    rcases hx with rfl | hx | rfl
    · decide
    · have := (hn x hx).2; simp; omega
    · decide
  -- `lexDollar` has one arm for `$$` and one for `$tag$`; in both, `hf` (the closing tag is the
  -- FIRST occurrence after the opening one) is the step that matters, the rest evaluates the arm:
  -- `hsp` reads the tag name, `hany` says it is ASCII, `hd` that it does not start with a digit
  cases name with
  | nil =>
    have hf := findSub_first ['$'] '$' s rest (by simpa using h)
    simp only [List.cons_append, List.append_assoc, List.nil_append] at hf
    simp [lexOne_dollar, lexDollar, hf, firstProhibited_none s hp]
  | cons c cs =>
    have hc := (hn c (by simp)).1
    have hne := isTagChar_ne U c hc
    have hf := findSub_first ('$' :: c :: cs) '$' s rest (by simpa using h)
    have hsp := spanTag_all U (c :: cs) ('$' :: (s ++ (('$' :: c :: cs) ++ ['$']) ++ rest)) (fun x hx => (hn x hx).1)
      (Or.inr ⟨_, _, rfl, rfl⟩)
    simp only [List.cons_append, List.append_assoc, List.nil_append, lexOne_dollar] at hf hsp hany ⊢
    simp only [lexDollar, hne, hc, if_true, if_false, hsp, hd c cs rfl]
    simp only [List.cons_append] at hany ⊢
    simp [hany, hf, firstProhibited_none s hp]

/-- a tag `dollar_quote_literal` can produce -/
def GoodTag (t : List Char) : Prop := t = ['$', '$'] ∨ ∃ n, 10 ≤ n % 16 ∧ t = tagOf n

theorem goodTag_name (t : List Char) (h : GoodTag t) :
    ∃ name, t = '$' :: name ++ ['$'] ∧ (∀ c ∈ name, IsHexLower c) ∧
      ∀ d tl, name = d :: tl → isDigit d = false := by
  rcases h with rfl | ⟨n, hn, rfl⟩
  · exact ⟨[], rfl, by simp, by simp⟩
  · refine ⟨revHex n, rfl, isHexLower_revHex n, fun d tl e => ?_⟩
    obtain ⟨tl', htl⟩ := revHexAux_head n n
    obtain rfl : hexDigit (n % 16) = d := (List.cons.inj (htl.symm.trans e)).1
    exact (hexDigit_table ⟨n % 16, Nat.mod_lt n (by decide)⟩).2.2 hn

theorem tagLoop_spec (tg : Nat → List Char) (body : List Char) :
    ∀ f n t, tagLoop tg body f n = some t →
      ∃ k, t = tg k ∧ contains (tg k) (body ++ (tg k).dropLast) = false := by
  intro f
  induction f with
  | zero => intro n t h; simp [tagLoop] at h
  | succ f ih =>
    intro n t h
    simp only [tagLoop] at h
    split at h
    · exact ih _ t h
    · rename_i hc
      simp at h
      exact ⟨n, h.symm, by simpa using hc⟩

/-- `qq` rounded up to the next number whose last hexadecimal digit is a letter -/
def bumpQq (qq : Nat) : Nat := if qq % 16 < 10 then qq + (10 - qq % 16) else qq

theorem bumpQq_mod (q : Nat) : 10 ≤ bumpQq q % 16 := by
  unfold bumpQq
  split <;> omega

theorem le_bumpQq (q : Nat) : q ≤ bumpQq q := by
  unfold bumpQq
  split <;> omega

/-- the counter `qq` when the `i`-th candidate is tried -/
def dollarCtr : Nat → Nat
  | 0 => 0
  | i + 1 => bumpQq (dollarCtr i) + 1

/-- the candidates of `dollar_quote_literal`: `$$`, `$a$`, `$b$`, … -/
def dollarCand : Nat → List Char
  | 0 => ['$', '$']
  | i + 1 => tagOf (bumpQq (dollarCtr i))

/-- `dollar_quote_literal` runs the same loop as the dbops tag searches, over its own candidates -/
theorem dollarLoop_eq_tagLoop (text : List Char) (f i : Nat) :
    dollarLoop text f (dollarCand i) (dollarCtr i) = tagLoop dollarCand text f i := by
  induction f generalizing i with
  | zero => rfl
  | succ f ih =>
    simp only [dollarLoop, tagLoop]
    split
    · exact ih (i + 1)
    · rfl

theorem dollarTag_eq_tagLoop (text : List Char) :
    dollarTag text = tagLoop dollarCand text (text.length + 2) 0 :=
  dollarLoop_eq_tagLoop text _ 0

theorem goodTag_dollarCand : ∀ i, GoodTag (dollarCand i)
  | 0 => Or.inl rfl
  | _ + 1 => Or.inr ⟨_, bumpQq_mod _, rfl⟩

theorem dollarTag_spec (s t : List Char) (h : dollarTag s = some t) :
    GoodTag t ∧ contains t (s ++ t.dropLast) = false := by
  rw [dollarTag_eq_tagLoop] at h
  obtain ⟨k, rfl, hc⟩ := tagLoop_spec dollarCand s _ _ t h
  exact ⟨goodTag_dollarCand k, hc⟩

/-- the texts a dollar string can carry at all: it has no escapes, so no NUL
    and no bidi control -/
def dollarExpressible (s : List Char) : Bool :=
  s.all (fun c => (checkProhibited c false).isNone)

theorem goodTag_lex (U : UClass) (t s rest : List Char) (hg : GoodTag t)
    (hp : ∀ c ∈ s, checkProhibited c false = none)
    (h : contains t (s ++ t.dropLast) = false) :
    lexOne U (t ++ s ++ t ++ rest) = .ok (⟨.str, .str s⟩, rest) := by
  obtain ⟨name, rfl, hhex, hd⟩ := goodTag_name t hg
  rw [List.dropLast_concat] at h
  exact dollarStr_lex U name s rest (fun c hc => isHexLower_tagChar U c (hhex c hc)) hd hp
    (by simpa [contains] using h)

end EdbVerif.Lex
