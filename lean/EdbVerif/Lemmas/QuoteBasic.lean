/-
Lemmas shared by the C18 proofs: the equations of `str.replace`, hexadecimal round trips, the bodies the string
scanner walks through (`scanOK`), un-escaping piece by piece (`UnqPiece`), which sub-lexer `lexOne` hands each
opening character to, the run of tag characters after `$` (`spanTag_all`), and the step from one token at the
head to the token stream (`lexAll_single`).
-/
import EdbVerif.Model.Quote

namespace EdbVerif.Quote

@[simp] theorem replaceChar_nil (q : Char) (rep : List Char) : replaceChar q rep [] = [] := rfl

theorem replaceChar_append (q : Char) (rep a b : List Char) :
    replaceChar q rep (a ++ b) = replaceChar q rep a ++ replaceChar q rep b :=
  List.flatMap_append

theorem replaceChar_cons_self (q : Char) (rep cs : List Char) :
    replaceChar q rep (q :: cs) = rep ++ replaceChar q rep cs := by
  simp [replaceChar]

theorem replaceChar_cons_ne (q : Char) (rep : List Char) (c : Char) (cs : List Char) (h : c ≠ q) :
    replaceChar q rep (c :: cs) = c :: replaceChar q rep cs := by
  simp [replaceChar, h]

theorem replaceChar_of_not_mem (q : Char) (rep v : List Char) (h : ∀ c ∈ v, c ≠ q) :
    replaceChar q rep v = v := by
  induction v with
  | nil => rfl
  | cons c cs ih => rw [replaceChar_cons_ne _ _ _ _ (h c (by simp)), ih (fun x hx => h x (by simp [hx]))]

theorem replaceChar_reverse (q : Char) (rep s : List Char) :
    (replaceChar q rep s).reverse = replaceChar q rep.reverse s.reverse := by
  simp only [replaceChar, List.reverse_flatMap]
  congr
  funext x
  simp only [Function.comp]
  split <;> rfl

end EdbVerif.Quote

namespace EdbVerif.Lex
open EdbVerif.Quote

/-- `c` is one of `0`–`9`, `a`–`f`.  Reducible, so `omega` reads a hypothesis `IsHexLower c` as the two ranges and
    `decide` evaluates it on a concrete character. -/
abbrev IsHexLower (c : Char) : Prop :=
  (48 ≤ c.toNat ∧ c.toNat ≤ 57) ∨ (97 ≤ c.toNat ∧ c.toNat ≤ 102)

theorem hexDigit_table : ∀ d : Fin 16,
    hexVal (hexDigit d.val) = some d.val ∧ IsHexLower (hexDigit d.val) ∧
    (10 ≤ d.val → isDigit (hexDigit d.val) = false) := by decide

theorem hexVal_hexDigit (x : Nat) : hexVal (hexDigit (x % 16)) = some (x % 16) :=
  (hexDigit_table ⟨x % 16, Nat.mod_lt x (by decide)⟩).1

theorem isHexLower_hexDigit (x : Nat) : IsHexLower (hexDigit (x % 16)) :=
  (hexDigit_table ⟨x % 16, Nat.mod_lt x (by decide)⟩).2.1

theorem isHexLower_ne {c : Char} (h : IsHexLower c) (d : Char) (hd : ¬ IsHexLower d) : c ≠ d :=
  fun e => hd (e ▸ h)

theorem isHexLower_ascii (c : Char) (h : IsHexLower c) : c.toNat < 128 := by
  omega

theorem isHexLower_hex (n : Nat) :
    (∀ c ∈ hex2 n, IsHexLower c) ∧ (∀ c ∈ hex4 n, IsHexLower c) ∧ (∀ c ∈ hex8 n, IsHexLower c) := by
  simp only [hex2, hex4, hex8, List.cons_append, List.nil_append, List.forall_mem_cons, isHexLower_hexDigit,
    List.not_mem_nil, false_imp_iff, implies_true, and_self]

theorem hexDigits_nibbles (n k : Nat) (t : List Char) (acc : Nat) :
    hexDigits (((List.range k).reverse.map fun i => hexDigit (n / 16 ^ i % 16)) ++ t) acc =
      hexDigits t (acc * 16 ^ k + n % 16 ^ k) := by
  induction k generalizing acc with
  | zero => simp [Nat.mod_one]
  | succ k ih =>
    simp only [List.range_succ, List.reverse_append, List.reverse_cons, List.reverse_nil, List.nil_append,
      List.cons_append, List.map_cons, hexDigits, hexVal_hexDigit, ih]
    congr 1
    -- `n % (16 ^ k * 16) = n % 16 ^ k + 16 ^ k * (n / 16 ^ k % 16)`
    rw [Nat.pow_succ, Nat.mod_mul, Nat.add_mul, Nat.mul_assoc, Nat.mul_comm 16, Nat.mul_comm (n / _ % 16)]
    omega

theorem hexDigits_hex2 (n : Nat) (t : List Char) (acc : Nat) :
    hexDigits (hex2 n ++ t) acc = hexDigits t (acc * 256 + n % 256) := by
  simpa [List.range, List.range.loop, hex2] using hexDigits_nibbles n 2 t acc

theorem hexDigits_hex4 (n : Nat) (t : List Char) (acc : Nat) :
    hexDigits (hex4 n ++ t) acc = hexDigits t (acc * 65536 + n % 65536) := by
  simpa [List.range, List.range.loop, hex4] using hexDigits_nibbles n 4 t acc

theorem parseHex_hexDigit (x : Nat) (t : List Char) :
    parseHex (hexDigit (x % 16) :: t) = hexDigits (hexDigit (x % 16) :: t) 0 := by
  simp [parseHex, isHexLower_ne (isHexLower_hexDigit x) '+' (by decide)]

theorem parseHex_hex2 (n : Nat) (h : n < 256) : parseHex (hex2 n) = some n := by
  have := hexDigits_hex2 n [] 0
  rw [List.append_nil] at this
  simpa [hex2, parseHex_hexDigit, hexDigits, Nat.mod_eq_of_lt h] using this

theorem parseHex_hex4 (n : Nat) (h : n < 65536) : parseHex (hex4 n) = some n := by
  have := hexDigits_hex4 n [] 0
  rw [List.append_nil] at this
  simpa [hex4, parseHex_hexDigit, hexDigits, Nat.mod_eq_of_lt h] using this

theorem parseHex_hex8 (n : Nat) (h : n < 4294967296) : parseHex (hex8 n) = some n := by
  refine (parseHex_hexDigit _ _).trans ?_
  show hexDigits (hex4 (n / 65536 % 65536) ++ (hex4 (n % 65536) ++ [])) 0 = some n
  rw [hexDigits_hex4, hexDigits_hex4, hexDigits, Nat.mod_mod, Nat.mod_mod,
    Nat.mod_eq_of_lt (Nat.div_lt_of_lt_mul h : n / 65536 < 65536), Nat.zero_mul, Nat.zero_add,
    Nat.div_add_mod']

/-- bodies that `scanStr false q` walks through without stopping -/
def scanOK (q : Char) : List Char → Bool
  | [] => true
  | [c] => c ≠ '\\' && c ≠ q && (checkProhibited c true).isNone
  | c :: d :: ds =>
    if c = '\\' then d ≠ '(' && scanOK q ds
    else c ≠ q && (checkProhibited c true).isNone && scanOK q (d :: ds)

theorem scanStr_of_scanOK (q : Char) (hq : q ≠ '\\') (body rest : List Char) (h : scanOK q body = true) :
    scanStr false q (body ++ q :: rest) = .ok (body, .closed, rest) := by
  fun_induction scanOK q body with
  | case1 => cases rest <;> simp [scanStr, hq]
  | case2 c =>
    simp only [Bool.and_eq_true, decide_eq_true_eq, Option.isNone_iff_eq_none] at h
    obtain ⟨⟨h1, h2⟩, h3⟩ := h
    cases rest <;> simp [scanStr, h1, h2, h3, hq]
  | case3 d ds ih =>
    simp only [Bool.and_eq_true, decide_eq_true_eq] at h
    simp [scanStr, h.1, ih h.2]
  | case4 c d ds hc ih =>
    simp only [Bool.and_eq_true, decide_eq_true_eq, Option.isNone_iff_eq_none] at h
    obtain ⟨⟨h1, h2⟩, h3⟩ := h
    have ih' := ih h3
    simp only [List.cons_append] at ih' ⊢
    simp [scanStr, hc, h1, h2, ih']

theorem scanOK_append (q : Char) (a b : List Char) (ha : scanOK q a = true) (hb : scanOK q b = true) :
    scanOK q (a ++ b) = true := by
  fun_induction scanOK q a with
  | case1 => simpa using hb
  | case2 c =>
    simp only [Bool.and_eq_true, decide_eq_true_eq, Option.isNone_iff_eq_none] at ha
    cases b with
    | nil => simp [scanOK, ha]
    | cons x xs => simp [scanOK, ha, hb]
  | case3 d ds ih =>
    simp only [Bool.and_eq_true, decide_eq_true_eq] at ha
    simp [scanOK, ha.1, ih ha.2]
  | case4 c d ds hc ih =>
    simp only [Bool.and_eq_true, decide_eq_true_eq, Option.isNone_iff_eq_none] at ha
    have := ih ha.2
    simp only [List.cons_append] at this ⊢
    simp [scanOK, hc, ha.1.1, ha.1.2, this]

theorem scanOK_flatMap {α : Type} (q : Char) (f : α → List Char) (s : List α)
    (h : ∀ c ∈ s, scanOK q (f c) = true) : scanOK q (s.flatMap f) = true := by
  induction s with
  | nil => simp [scanOK]
  | cons c cs ih =>
    simp only [List.flatMap_cons]
    exact scanOK_append q _ _ (h c (by simp)) (ih (fun x hx => h x (by simp [hx])))

theorem scanOK_plain (q c : Char) (h1 : c ≠ '\\') (h2 : c ≠ q) (h3 : checkProhibited c true = none)
    (l : List Char) : scanOK q (c :: l) = scanOK q l := by
  cases l <;> simp [scanOK, h1, h2, h3]

theorem scanOK_bs (q d : Char) (hd : d ≠ '(') (l : List Char) :
    scanOK q ('\\' :: d :: l) = scanOK q l := by
  simp [scanOK, hd]

theorem checkProhibited_none (c : Char) (e : Bool) (h0 : c.toNat ≠ 0) (hb : isBidi c = false) :
    checkProhibited c e = none := by
  simp [checkProhibited, h0, hb]

theorem isBidi_lt (c : Char) (h : c.toNat < 0x202A) : isBidi c = false := by
  simp only [isBidi, Bool.or_eq_false_iff, Bool.and_eq_false_iff, decide_eq_false_iff_not]
  omega

theorem scanOK_numEsc (q : Char) (hq : q = '\'' ∨ q = '"') (d : Char) (hd : d ≠ '(') (ds : List Char)
    (h : ∀ c ∈ ds, IsHexLower c) : scanOK q ('\\' :: d :: ds) = true := by
  rw [scanOK_bs q d hd]
  induction ds with
  | nil => rfl
  | cons c cs ih =>
    have hc : IsHexLower c := h c (by simp)
    have hp : checkProhibited c true = none :=
      checkProhibited_none c true (by omega) (isBidi_lt c (by omega))
    have hne : c ≠ q := by rcases hq with rfl | rfl <;> exact isHexLower_ne hc _ (by decide)
    rw [scanOK_plain q c (isHexLower_ne hc _ (by decide)) hne hp]
    exact ih (fun x hx => h x (by simp [hx]))

theorem scanOK_U (q : Char) (hq : q = '\'' ∨ q = '"') (n : Nat) :
    scanOK q ('\\' :: 'U' :: hex8 n) = true :=
  scanOK_numEsc q hq 'U' (by decide) _ (isHexLower_hex n).2.2

theorem scanStr_raw (q : Char) (body rest : List Char)
    (h : ∀ c ∈ body, c ≠ q ∧ checkProhibited c true = none) :
    scanStr true q (body ++ q :: rest) = .ok (body, .closed, rest) := by
  induction body with
  | nil => cases rest <;> simp [scanStr]
  | cons c cs ih =>
    have hc := h c (by simp)
    have ih' := ih (fun x hx => h x (by simp [hx]))
    cases cs <;> simp only [List.nil_append, List.cons_append] at ih' ⊢ <;> simp [scanStr, hc.1, hc.2, ih']

/-- `p` is a complete escape unit that `unqStr` decodes to `out` -/
def UnqPiece (p out : List Char) : Prop :=
  ∀ tl, unqStr 0 false (p ++ tl) =
    match unqStr 0 false tl with
    | .ok r => .ok (out ++ r)
    | .error e => .error e

theorem unqStr_flatMap (f : Char → List Char) (s : List Char)
    (h : ∀ c ∈ s, UnqPiece (f c) [c]) : unqStr 0 false (s.flatMap f) = .ok s := by
  induction s with
  | nil => simp [unqStr]
  | cons c cs ih =>
    have := h c (by simp) (cs.flatMap f)
    simp only [List.flatMap_cons, this, ih (fun x hx => h x (by simp [hx]))]
    simp

theorem unqPiece_plain (c : Char) (h : c ≠ '\\') : UnqPiece [c] [c] := by
  intro tl
  simp only [List.cons_append, List.nil_append, unqStr, Bool.false_and, Bool.false_eq_true, if_false, h]
  cases unqStr 0 false tl <;> rfl

theorem unqStr_drop (ws : Bool) (e tl : List Char) : unqStr e.length ws (e ++ tl) = unqStr 0 ws tl := by
  induction e with
  | nil => rfl
  | cons c cs ih => simpa [unqStr] using ih

theorem unqStr_drop1 (ws : Bool) (c : Char) (cs : List Char) : unqStr 1 ws (c :: cs) = unqStr 0 ws cs :=
  unqStr_drop ws [c] cs

theorem unqPiece_escape (e out : List Char)
    (h : ∀ tl, strEscape (e ++ tl) = .ok (out, e.length, false)) : UnqPiece ('\\' :: e) out := by
  intro tl
  simp only [List.cons_append, unqStr, Bool.false_and, Bool.false_eq_true, if_false, if_true, h tl,
    unqStr_drop]
  rfl

theorem charOfNat_toNat (n : Nat) (h : n < 0xd800) : (Char.ofNat n).toNat = n := by
  have hv : n.isValidChar := Or.inl h
  simp [Char.ofNat, hv, Char.ofNatAux, Char.toNat]

theorem charValid (c : Char) : c.toNat < 0xd800 ∨ (0xdfff < c.toNat ∧ c.toNat < 0x110000) := c.valid

theorem escChar?_toNat (c : Char) (h0 : c.toNat ≠ 0) : escChar? c.toNat = some c := by
  simp [escChar?, h0, charValid c, Char.ofNat_toNat]

theorem strEscape_x (a b : Char) (tl : List Char) (n : Nat) (hp : parseHex [a, b] = some n)
    (hn : n < 128) (h0 : n ≠ 0) : strEscape ('x' :: a :: b :: tl) = .ok ([Char.ofNat n], 3, false) := by
  have : ¬ (n > 127 ∨ n = 0) := by omega
  unfold strEscape
  simp [hp, this]

theorem strEscape_u (a b c e : Char) (tl : List Char) (n : Nat) (ch : Char)
    (hp : parseHex [a, b, c, e] = some n) (hc : escChar? n = some ch) :
    strEscape ('u' :: a :: b :: c :: e :: tl) = .ok ([ch], 5, false) := by
  unfold strEscape
  simp [hp, hc]

theorem strEscape_U (a b c e f g h i : Char) (tl : List Char) (n : Nat) (ch : Char)
    (hp : parseHex [a, b, c, e, f, g, h, i] = some n) (hc : escChar? n = some ch) :
    strEscape ('U' :: a :: b :: c :: e :: f :: g :: h :: i :: tl) = .ok ([ch], 9, false) := by
  unfold strEscape
  simp [hp, hc]

theorem unqPiece_x (c : Char) (hn : c.toNat < 128) (h0 : c.toNat ≠ 0) :
    UnqPiece ('\\' :: 'x' :: hex2 c.toNat) [c] := by
  refine unqPiece_escape ('x' :: hex2 c.toNat) [c] fun tl => ?_
  have := strEscape_x _ _ tl _ (parseHex_hex2 c.toNat (by omega)) hn h0
  rwa [Char.ofNat_toNat] at this

theorem unqPiece_u (c : Char) (hn : c.toNat < 65536) (h0 : c.toNat ≠ 0) :
    UnqPiece ('\\' :: 'u' :: hex4 c.toNat) [c] :=
  unqPiece_escape ('u' :: hex4 c.toNat) [c] fun tl =>
    strEscape_u _ _ _ _ tl _ c (parseHex_hex4 c.toNat hn) (escChar?_toNat c h0)

theorem unqPiece_U (c : Char) (h0 : c.toNat ≠ 0) :
    UnqPiece ('\\' :: 'U' :: hex8 c.toNat) [c] :=
  unqPiece_escape ('U' :: hex8 c.toNat) [c] fun tl =>
    strEscape_U _ _ _ _ _ _ _ _ tl _ c (parseHex_hex8 c.toNat (by have := charValid c; omega))
      (escChar?_toNat c h0)

theorem lexOne_identStart (U : UClass) (c : Char) (cs : List Char)
    (h : c = '_' ∨ isAlpha U c = true) : lexOne U (c :: cs) = lexIdent U c cs := by
  -- every character `lexOne` tests before the identifier arm is an ASCII non-letter other than `_`
  have key : ∀ p : Char, p.toNat < 128 ∧ isAsciiLetter p = false ∧ p ≠ '_' → (c = p) = False := by
    intro p ⟨hp1, hp2, hp3⟩
    refine eq_false fun e => ?_
    subst e
    rcases h with h | h
    · exact hp3 h
    · simp [isAlpha, hp1, hp2] at h
  unfold lexOne
  simp (disch := decide) only [key, false_or, if_false, h, if_true]

theorem lexOne_quote (U : UClass) (q : Char) (hq : q = '\'' ∨ q = '"') (cs : List Char) :
    lexOne U (q :: cs) = lexString false false q cs := by
  unfold lexOne
  rcases hq with rfl | rfl <;> simp

theorem lexOne_raw (U : UClass) (q : Char) (hq : q = '\'' ∨ q = '"') (cs : List Char) :
    lexOne U ('r' :: q :: cs) = lexString true false q cs := by
  rw [lexOne_identStart U 'r' _ (Or.inr rfl)]
  rcases hq with rfl | rfl <;> simp [lexIdent, identLoop]

theorem lexOne_b (U : UClass) (cs : List Char) :
    lexOne U ('b' :: '\'' :: cs) = lexString false true '\'' cs := by
  rw [lexOne_identStart U 'b' _ (Or.inr rfl)]
  simp [lexIdent, identLoop]

theorem lexOne_backtick (U : UClass) (cs : List Char) : lexOne U ('`' :: cs) = lexBacktick cs := by
  unfold lexOne
  simp

theorem lexOne_dollar (U : UClass) (cs : List Char) : lexOne U ('$' :: cs) = lexDollar U cs := by
  unfold lexOne
  simp [isAlpha, isAsciiLetter, isDigit]

theorem isTagChar_ne (U : UClass) (c : Char) (h : isTagChar U c = true) : c ≠ '$' ∧ c ≠ '`' := by
  constructor <;> (rintro rfl; simp [isTagChar, isDigit, isAlpha, isAsciiLetter] at h)

theorem spanTag_all (U : UClass) (t rest : List Char) (h : ∀ c ∈ t, isTagChar U c = true)
    (hd : rest = [] ∨ ∃ c cs, rest = c :: cs ∧ isTagChar U c = false) :
    spanTag U (t ++ rest) = (t, rest) := by
  induction t with
  | nil =>
    rcases hd with rfl | ⟨c, cs, rfl, hc⟩
    · simp [spanTag]
    · simp [spanTag, hc]
  | cons c cs ih =>
    simp [spanTag, h c (by simp), ih (fun x hx => h x (by simp [hx]))]

/-- `lexAll` skips white space before the first token, hence `skipWs q = q`; the token must use up
    the whole text, so that the next round of the stream sees the end of input. -/
theorem lexAll_single (U : UClass) (q : List Char) (t : Tok) (hws : skipWs q = q)
    (h : lexOne U q = .ok (t, [])) (hk : t.kind ≠ .eoi) : lexAll U q = ([t], none) := by
  have hend : ∀ f, lexAllAux U f (skipWs []) = ([], none) := fun f => by cases f <;> rfl
  simp only [lexAll, hws, lexAllAux, h, hk, if_false, hend]

end EdbVerif.Lex
