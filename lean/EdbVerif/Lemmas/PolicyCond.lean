/-
C07 — whether (and in which shape) a rewrite is registered for a key does not
depend on what the policy conditions are: `entry` commutes with any renaming of
the opaque conditions.
-/
import EdbVerif.Lemmas.PolicyPlan

namespace EdbVerif.Policy

def Pol.mapCond (f : CondId → CondId) (p : Pol) : Pol := { p with cond := f p.cond }
def PolRef.mapCond (f : CondId → CondId) (r : PolRef) : PolRef := { r with pol := r.pol.mapCond f }
def TypeDecl.mapCond (f : CondId → CondId) (d : TypeDecl) : TypeDecl :=
  { d with pols := d.pols.map (PolRef.mapCond f) }
def mapCondS (f : CondId → CondId) (sch : Schema) : Schema := sch.map (TypeDecl.mapCond f)

def BExpr.mapCond (f : CondId → CondId) : BExpr → BExpr
  | .const b => .const b
  | .cond c  => .cond (f c)
  | .or a b  => .or (a.mapCond f) (b.mapCond f)
  | .and a b => .and (a.mapCond f) (b.mapCond f)
  | .not a   => .not (a.mapCond f)
  | .bogus   => .bogus

def Entry.mapCond (f : CondId → CondId) : Entry → Entry
  | .none => .none
  | .filter g => .filter (g.mapCond f)
  | .union ks => .union ks

variable (f : CondId → CondId) (sch : Schema)

theorem find_mapCondS (t : TypeId) :
    find (mapCondS f sch) t = (find sch t).map (TypeDecl.mapCond f) :=
  Keyed.find_map (g := TypeDecl.mapCond f) (fun _ => rfl) sch t

theorem polRefs_mapCondS (t : TypeId) :
    polRefs (mapCondS f sch) t = (polRefs sch t).map (PolRef.mapCond f) := by
  unfold polRefs
  rw [find_mapCondS]
  cases find sch t <;> rfl

theorem polsOf_mapCondS (t : TypeId) :
    polsOf (mapCondS f sch) t = (polsOf sch t).map (Pol.mapCond f) := by
  unfold polsOf
  rw [polRefs_mapCondS, List.map_map, List.map_map]
  rfl

theorem isAbstract_mapCondS (t : TypeId) :
    isAbstract (mapCondS f sch) t = isAbstract sch t := by
  unfold isAbstract; rw [find_mapCondS]; cases find sch t <;> rfl

theorem isMaterial_mapCondS (t : TypeId) :
    isMaterial (mapCondS f sch) t = isMaterial sch t := by
  unfold isMaterial; rw [find_mapCondS]; cases find sch t <;> rfl

theorem children_mapCondS (t : TypeId) :
    children (mapCondS f sch) t = children sch t := by
  unfold children mapCondS
  rw [List.filter_map, List.map_map]
  rfl

theorem descendants_mapCondS (t : TypeId) :
    descendants (mapCondS f sch) t = descendants sch t := by
  unfold descendants mapCondS
  rw [List.filter_map, List.map_map]
  rfl

theorem length_mapCondS : (mapCondS f sch).length = sch.length :=
  List.length_map _

theorem hasOwn_mapCondS (n : Nat) (c s : TypeId) :
    hasOwn (mapCondS f sch) n c s = hasOwn sch n c s := by
  induction n generalizing c s with
  | zero => rfl
  | succ n ih =>
    rw [hasOwn_succ, hasOwn_succ, polRefs_mapCondS, children_mapCondS, List.any_map]
    exact congrArg _ (List.any_congr rfl fun g => ih g c)

theorem chp_mapCondS (k : Key) :
    childrenHavePolicies (mapCondS f sch) k = childrenHavePolicies sch k := by
  unfold childrenHavePolicies
  rw [children_mapCondS, length_mapCondS]
  exact congrArg _ (List.any_congr rfl fun c => hasOwn_mapCondS f sch _ c k.ty)

theorem allDescs_mapCondS (t : TypeId) :
    allDescs (mapCondS f sch) t = allDescs sch t := by
  rw [allDescs, children_mapCondS, funext (descendants_mapCondS f sch)]
  rfl

theorem childrenOverlap_mapCondS (k : Key) :
    childrenOverlap (mapCondS f sch) k = childrenOverlap sch k := by
  unfold childrenOverlap
  rw [chp_mapCondS, allDescs_mapCondS]

theorem orChain_mapCond (e : BExpr) (es : List BExpr) :
    orChain (e.mapCond f) (es.map (BExpr.mapCond f)) = (orChain e es).mapCond f := by
  induction es generalizing e with
  | nil => rfl
  | cons x xs ih => exact ih (.or e x)

theorem allowPart_mapCond (l : List BExpr) :
    allowPart (l.map (BExpr.mapCond f)) = (allowPart l).mapCond f := by
  cases l with
  | nil => rfl
  | cons a as => exact orChain_mapCond f a as

theorem denyPart_mapCond (g : BExpr) (l : List BExpr) :
    denyPart (g.mapCond f) (l.map (BExpr.mapCond f)) = (denyPart g l).mapCond f := by
  cases l with
  | nil => rfl
  | cons a as =>
    show BExpr.and _ (BExpr.not (orChain _ _)) = _
    rw [orChain_mapCond]; rfl

theorem conds_mapCond (mode : Kind) (q : Pol → Bool) (hq : q ∘ Pol.mapCond f = q) (pols : List Pol) :
    ((((pols.map (Pol.mapCond f)).filter (applies mode)).filter q).map (fun p => BExpr.cond p.cond))
      = ((((pols.filter (applies mode)).filter q).map (fun p => BExpr.cond p.cond)).map (BExpr.mapCond f)) := by
  rw [List.filter_map, List.filter_map, hq, List.map_map, List.map_map]
  rfl

theorem formula_mapCond (mode : Kind) (pols : List Pol) :
    formula mode (pols.map (Pol.mapCond f)) = (formula mode pols).mapCond f := by
  unfold formula
  rw [conds_mapCond f mode (·.allow) rfl, conds_mapCond f mode (fun p => !p.allow) rfl,
    allowPart_mapCond, denyPart_mapCond]

theorem rewriteFilter_mapCond (mode : Kind) (pols : List Pol) :
    rewriteFilter mode (pols.map (Pol.mapCond f)) = (rewriteFilter mode pols).map (BExpr.mapCond f) := by
  rw [rewriteFilter_eq, rewriteFilter_eq, List.isEmpty_map, formula_mapCond]
  cases pols.isEmpty
  · exact congrArg some (by split <;> rfl)
  · rfl

theorem parts_mapCondS (k : Key) : parts (mapCondS f sch) k = parts sch k := by
  unfold parts
  simp only [isAbstract_mapCondS, childrenOverlap_mapCondS, allDescs_mapCondS, children_mapCondS, isMaterial_mapCondS]

/-- `try_type_rewrite` commutes with replacing the policy conditions: only the leaves of the
    filter formula change -/
theorem entry_mapCondS (k : Key) :
    entry (mapCondS f sch) k = (entry sch k).mapCond f := by
  rw [entry_eq, entry_eq, chp_mapCondS, parts_mapCondS, polsOf_mapCondS, rewriteFilter_mapCond]
  cases childrenHavePolicies sch k
  · cases rewriteFilter .select (polsOf sch k.ty) <;> rfl
  · rfl

theorem entry_registered_iff (k : Key) :
    entry (mapCondS f sch) k = .none ↔ entry sch k = .none := by
  rw [entry_mapCondS]
  cases entry sch k <;> simp [Entry.mapCond]

end EdbVerif.Policy
