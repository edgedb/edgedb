/- C03: what `describe` prints for a valid schema is well-formed text. -/
import EdbVerif.Lemmas.DescribeTokens
import EdbVerif.Lemmas.Describe

namespace EdbVerif.Describe

theorem refWF_toRef (q : QName) (h : q.mod ≠ []) : RefWF q.toRef := by
  intro hh
  simp only [QName.toRef, Option.some.injEq] at hh
  exact h hh

theorem atomWF_map (a : Atom QName) (h : ∀ q ∈ atomNames [a], q.mod ≠ []) :
    AtomWF (a.map QName.toRef) := by
  cases a with
  | sym s => trivial
  | name n => exact refWF_toRef n (h n List.mem_cons_self)
  | tname n => exact refWF_toRef n (h n List.mem_cons_self)

theorem fieldsWF_map (fs : Fields QName) (h : ∀ q ∈ fieldsNames fs, q.mod ≠ []) :
    FieldsWF (fs.map (fieldMap QName.toRef)) := by
  intro f hf a ha
  obtain ⟨x, hx, rfl⟩ := List.mem_map.1 hf
  simp only [fieldMap] at ha
  obtain ⟨a', ha', rfl⟩ := List.mem_map.1 ha
  exact atomWF_map a' (fun q hq => h q (List.mem_flatMap.2
    ⟨x, hx, mem_atomNames_of_mem a' x.2 q ha' hq⟩))

theorem headWF_map (h : Head QName) (hq : ∀ q ∈ h.names, q.mod ≠ []) :
    HeadWF (h.map QName.toRef) :=
  ⟨atomWF_map h.name (List.forall_mem_append.1 hq).1,
   fieldsWF_map h.fields (List.forall_mem_append.1 hq).2⟩

theorem bal_map {ν μ : Type} (f : ν → μ) (d : Nat) (is : List (Item ν)) (h : Bal d is) :
    Bal d (is.map (Item.map f)) := by
  induction is generalizing d with
  | nil => exact h
  | cons i is ih =>
    cases i with
    | enter hd => exact ih (d + 1) h
    | leave =>
      cases d with
      | zero => exact h.elim
      | succ d => exact ih d h

theorem kidWF_map (k : Kid QName) (hq : ∀ q ∈ k.names, q.mod ≠ []) (hb : Bal 0 k.body) :
    KidWF (k.map QName.toRef) := by
  refine ⟨headWF_map k.head (List.forall_mem_append.1 hq).1, ?_,
    bal_map QName.toRef 0 k.body hb⟩
  intro i hi
  simp only [Kid.map] at hi
  obtain ⟨i', hi', rfl⟩ := List.mem_map.1 hi
  cases i' with
  | leave => trivial
  | enter hd =>
    exact headWF_map hd (List.forall_mem_flatMap.1 (List.forall_mem_append.1 hq).2 _ hi')

theorem Valid.printed_wf {tbl : FieldTable} {std : Env} {S : Schema} (hv : Valid tbl std S)
    {o : Top QName} (ho : o ∈ S.objs) :
    RefWF o.name.toRef ∧
    FieldsWF ((filterFields tbl o.cls o.fields).map (fieldMap QName.toRef)) ∧
    ∀ k ∈ o.kids, KidWF ((k.printed tbl).map QName.toRef) := by
  refine ⟨refWF_toRef o.name (hv.mods_real o.name (mem_mentioned_name ho)).1, ?_, fun k hk => ?_⟩
  · rw [filterFields_covered tbl o.cls o.fields (hv.covered o ho).1]
    exact fieldsWF_map o.fields fun q hq =>
      (hv.mods_real q (mem_mentioned_ref ho (List.mem_append_left _ hq))).1
  · rw [Kid.printed_covered tbl k ((hv.covered o ho).2 k hk)]
    exact kidWF_map k (fun q hq =>
      (hv.mods_real q (mem_mentioned_ref ho (List.mem_append_right _ (mem_kidNames hk hq)))).1)
      (hv.balanced o ho k hk)

theorem describeStmts_wf (tbl : FieldTable) (std : Env) (S : Schema) (hv : Valid tbl std S)
    (ss : List Stmt) (h : describeStmts tbl S = .ok ss) : ∀ s ∈ ss, StmtWF s := by
  obtain ⟨l, hsort, hperm, _⟩ := sortShells_spec S hv.acyclic
  simp only [describeStmts, hsort, Except.ok.injEq] at h
  subst h
  intro s hs
  simp only [List.mem_append, List.mem_map, List.mem_flatMap, kidStmts] at hs
  rcases hs with (⟨m, hm, rfl⟩ | ⟨o, ho, rfl⟩) | ⟨o, ho, k, hk, rfl⟩
  · exact hv.mods_ne m ((sortMods_perm _).mem_iff.1 hm)
  · obtain ⟨h1, h2, _⟩ := hv.printed_wf (hperm.mem_iff.1 ho)
    exact ⟨h1, h2⟩
  · obtain ⟨h1, _, h3⟩ := hv.printed_wf (hperm.mem_iff.1 ho)
    exact ⟨h1, h3 k hk⟩

theorem describeSDLDoc_wf (tbl : FieldTable) (std : Env) (S : Schema) (hv : Valid tbl std S) :
    ∀ b ∈ describeSDLDoc tbl S, BlockWF b := by
  intro b hb
  obtain ⟨m, hm, rfl⟩ := List.mem_map.1 hb
  refine ⟨hv.mods_ne m hm, fun x hx => ?_⟩
  obtain ⟨o, ho, rfl⟩ := List.mem_map.1 hx
  have := hv.printed_wf (List.mem_filter.1 ho).1
  exact ⟨this.2.1, fun k hk => by
    obtain ⟨k', hk', rfl⟩ := List.mem_map.1 hk
    exact this.2.2 k' hk'⟩

end EdbVerif.Describe
