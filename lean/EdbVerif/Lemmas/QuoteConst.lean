/-
C18, the string form chosen by `visit_Constant` (`ppStr`): plain / raw /
`$$` / `$tag$` / escaped, read back by the tokenizer model.
-/
import EdbVerif.Lemmas.QuoteStr
import EdbVerif.Lemmas.QuoteDollarTotal

namespace EdbVerif.Lex
open EdbVerif.Quote

theorem not_nonPrintable_not_nul_not_bidi (c : Char) (h : isNonPrintableRE c = false) : c.toNat ≠ 0 ∧ isBidi c = false := by
  simp only [isNonPrintableRE, Bool.or_eq_false_iff, decide_eq_false_iff_not] at h
  simp only [isBidi, Bool.or_eq_false_iff]
  exact ⟨by omega, h.1.2, h.2⟩

/-- the forms of `visit_Constant`; `$$` is the first candidate of `dollar_quote_literal` -/
theorem ppStr_cases (s : List Char) :
    (s.any isNonPrintableRE = true ∧ ppStr s = some (quoteLiteral s)) ∨
    (s.any isNonPrintableRE = false ∧
      ((∃ q, (q = '\'' ∨ q = '"') ∧ q ∉ s ∧
          ppStr s = some (if '\\' ∈ s then 'r' :: q :: s ++ [q] else q :: s ++ [q])) ∨
        ppStr s = dollarQuoteLiteral s)) := by
  unfold ppStr
  by_cases hnp : s.any isNonPrintableRE = true
  · exact Or.inl ⟨hnp, if_pos hnp⟩
  refine Or.inr ⟨by simpa using hnp, ?_⟩
  rw [if_neg hnp]
  by_cases hs : '\'' ∈ s
  · by_cases hd : '"' ∈ s
    · right
      by_cases hc : contains ['$', '$'] (s ++ ['$']) = true
      · simp [hs, hd, hc]
      · simp [hs, hd, hc, dollarQuoteLiteral, dollarTag, dollarLoop]
    · exact Or.inl ⟨'"', Or.inr rfl, hd, by simp [hs, hd, apply_ite some]⟩
  · exact Or.inl ⟨'\'', Or.inl rfl, hs, by simp [hs, apply_ite some]⟩

theorem plainQuoted_lex (U : UClass) (q : Char) (hq : q = '\'' ∨ q = '"') (s rest : List Char)
    (hnq : q ∉ s) (hp : ∀ c ∈ s, checkProhibited c true = none) :
    lexOne U ((if '\\' ∈ s then 'r' :: q :: s ++ [q] else q :: s ++ [q]) ++ rest) =
      .ok (⟨.str, .str s⟩, rest) := by
  have hne : ∀ c ∈ s, c ≠ q := fun c hc e => hnq (e ▸ hc)
  split
  · have := scanStr_raw q s rest (fun c hc => ⟨hne c hc, hp c hc⟩)
    simp only [List.cons_append, List.append_assoc, List.nil_append, lexOne_raw U q hq]
    simp [lexString, this]
  · rename_i hb
    have hnb : ∀ c ∈ s, c ≠ '\\' := fun c hc e => hb (e ▸ hc)
    have := lexString_pieces q (by rcases hq with rfl | rfl <;> decide) (fun c => [c]) s rest
      (fun c hc => by simp [scanOK, hnb c hc, hne c hc, hp c hc])
      (fun c hc => unqPiece_plain c (hnb c hc))
    rw [List.flatMap_singleton'] at this
    simpa only [List.cons_append, List.append_assoc, List.nil_append, lexOne_quote U q hq] using this

theorem ppStr_lex (U : UClass) (s : List Char) (h0 : ∀ c ∈ s, c.toNat ≠ 0) :
    ∃ q, ppStr s = some q ∧ skipWs q = q ∧
      ∀ rest, lexOne U (q ++ rest) = .ok (⟨.str, .str s⟩, rest) := by
  rcases ppStr_cases s with ⟨_, hq⟩ | ⟨hnp, hq⟩
  · exact ⟨_, hq, rfl, fun rest => quoteLiteral_lex U s rest h0⟩
  have hnp' : ∀ c ∈ s, c.toNat ≠ 0 ∧ isBidi c = false := fun c hc =>
    not_nonPrintable_not_nul_not_bidi c (by simpa using List.any_eq_false.mp hnp c hc)
  rcases hq with ⟨q, hq, hnq, hpp⟩ | hpp
  · refine ⟨_, hpp, ?_, fun rest => plainQuoted_lex U q hq s rest hnq fun c hc =>
      checkProhibited_none c true (hnp' c hc).1 (hnp' c hc).2⟩
    rcases hq with rfl | rfl <;> split <;> rfl
  · rw [hpp]
    exact dollarQuote_lex U s (List.all_eq_true.mpr fun c hc => by
      simp [checkProhibited_none c false (hnp' c hc).1 (hnp' c hc).2])

end EdbVerif.Lex
