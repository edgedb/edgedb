/-
C17: "identities never come back" — ghost bookkeeping and the invariant it supports.
-/
import EdbVerif.Lemmas.SyncInv

namespace EdbVerif.Sync

theorem supply_cur (g : Ghost) (σ τ : Slot) (t : Tok) :
    (g.supply σ t).cur τ = if τ = σ then some t else g.cur τ := rfl

theorem supply_ret_mono (g : Ghost) (σ τ : Slot) (t x : Tok) (h : x ∈ g.ret τ) :
    x ∈ (g.supply σ t).ret τ := by
  simp only [Ghost.supply]
  split
  · rename_i h'; subst h'
    split
    · split
      · exact h
      · exact List.mem_cons_of_mem _ h
    · exact h
  · exact h

theorem supply_retires (g : Ghost) (σ : Slot) (t x : Tok) (h : g.cur σ = some x) (hne : x ≠ t) :
    x ∈ (g.supply σ t).ret σ := by
  simp [Ghost.supply, h, hne]

/-- `x` has been supplied for `σ`: it is the current identity or a superseded one -/
def Ghost.Seen (g : Ghost) (σ : Slot) (x : Tok) : Prop := g.cur σ = some x ∨ x ∈ g.ret σ

theorem seen_supply (g : Ghost) (σ : Slot) (t : Tok) (τ : Slot) (x : Tok) (h : g.Seen τ x) :
    (g.supply σ t).Seen τ x := by
  rcases h with h | h
  · by_cases hτ : τ = σ
    · subst hτ
      by_cases hx : x = t
      · exact .inl (by rw [supply_cur, if_pos rfl, hx])
      · exact .inr (supply_retires g τ t x h hx)
    · exact .inl (by rw [supply_cur, if_neg hτ]; exact h)
  · exact .inr (supply_ret_mono g σ τ t x h)

theorem supplyAll_ret_mono (ps : List (Slot × Tok)) (g : Ghost) (σ : Slot) (x : Tok)
    (h : x ∈ g.ret σ) : x ∈ (g.supplyAll ps).ret σ := by
  induction ps generalizing g with
  | nil => exact h
  | cons p ps ih => exact ih _ (supply_ret_mono g p.1 σ p.2 x h)

theorem seen_supplyAll (ps : List (Slot × Tok)) (g : Ghost) (σ : Slot) (x : Tok)
    (h : g.Seen σ x) : (g.supplyAll ps).Seen σ x := by
  induction ps generalizing g with
  | nil => exact h
  | cons p ps ih => exact ih _ (seen_supply g p.1 p.2 σ x h)

theorem seen_of_supplied (ps : List (Slot × Tok)) (g : Ghost) (σ : Slot) (x : Tok)
    (h : (σ, x) ∈ ps) : (g.supplyAll ps).Seen σ x := by
  induction ps generalizing g with
  | nil => cases h
  | cons p ps ih =>
    rcases List.mem_cons.1 h with h | h
    · subst h
      exact seen_supplyAll ps _ σ x (.inl (by rw [supply_cur, if_pos rfl]))
    · exact ih _ h

theorem supplyAll_retires (ps : List (Slot × Tok)) (g : Ghost) (σ : Slot) (t x : Tok)
    (h : (σ, t) ∈ ps) (hs : g.Seen σ x) (hne : x ≠ t) : x ∈ (g.supplyAll ps).ret σ := by
  induction ps generalizing g with
  | nil => cases h
  | cons p ps ih =>
    rcases List.mem_cons.1 h with h | h
    · subst h
      refine supplyAll_ret_mono ps (g.supply σ t) σ x ?_
      rcases seen_supply g σ t σ x hs with h' | h'
      · rw [supply_cur, if_pos rfl] at h'
        cases h'; exact absurd rfl hne
      · exact h'
    · exact ih _ h (seen_supply g p.1 p.2 σ x hs)

/-- every believed identity has been supplied, and one the worker does not hold has been
    superseded since -/
def GInv (g : Ghost) (ws : WState) : Prop :=
  ∀ σ x, ws.bel.get σ = some x → (ws.act.get σ = some x ∨ x ∈ g.ret σ) ∧ g.Seen σ x

theorem ginv_supplyAll (ps : List (Slot × Tok)) {g : Ghost} {ws : WState} (h : GInv g ws) :
    GInv (g.supplyAll ps) ws :=
  fun σ x hx => ⟨(h σ x hx).1.imp_right (supplyAll_ret_mono ps g σ x),
    seen_supplyAll ps g σ x (h σ x hx).2⟩

theorem ginv_compile (env : Env) (g : Ghost) (st : State) (r : CReq) (h : ∀ i, GInv g (st i))
    (i : Nat) : GInv (g.supplyAll r.slots) ((stepCompile env st r).1 i) := by
  by_cases hi : i = r.w
  case neg => rw [stepCompile_frame' env st r i hi]; exact ginv_supplyAll _ (h i)
  subst hi
  obtain ⟨ws', hst, _, hc⟩ := stepCompile_spec env st r
  rw [hst, upd_same]
  intro σ x hx
  have same : ws'.bel.get σ = (st r.w).bel.get σ → ws'.act.get σ = (st r.w).act.get σ →
      (ws'.act.get σ = some x ∨ x ∈ (g.supplyAll r.slots).ret σ) ∧ (g.supplyAll r.slots).Seen σ x :=
    fun hb ha => by rw [hb] at hx; rw [ha]; exact ginv_supplyAll _ (h _) σ x hx
  rcases hc with hf | ⟨_, hr⟩
  · exact same (hf.bel σ) (by rw [hf.act])
  have ha := hr.act
  cases hs : (preargs (st r.w).bel r).at r.db σ with
  | none =>
    -- nothing sent for `σ`: neither side moves
    refine same ?_ (by rw [ha, hs]; rfl)
    rcases hr.bel with ⟨_, hb⟩ | ⟨_, hb⟩
    · exact hb σ
    · rw [hb, hs]; rfl
  | some t =>
    -- `t` was sent: the worker holds it; the belief is `t` too, or (status 2) stays behind
    have hm := mem_slots_of_sent _ r σ t hs
    have hat : ws'.act.get σ = some t := by rw [ha, hs]; rfl
    by_cases hxt : x = t
    · subst hxt; exact ⟨.inl hat, seen_of_supplied _ g σ x hm⟩
    · rcases hr.bel with ⟨_, hb⟩ | ⟨_, hb⟩
      · rw [hb] at hx
        have := (h _ σ x hx).2
        exact ⟨.inr (supplyAll_retires _ g σ t x hm this hxt), seen_supplyAll _ g σ x this⟩
      · rw [hb, hs] at hx; cases hx; exact absurd rfl hxt

theorem ginv_tx (env : Env) (g : Ghost) (st : State) (r : TReq) (h : ∀ i, GInv g (st i)) (i : Nat) :
    GInv g ((stepTx env st r).1 i) := by
  intro σ x hx
  rw [(stepTx_get env st r i σ).1] at hx
  rw [(stepTx_get env st r i σ).2]
  exact h i σ x hx

theorem ginv_init (s : Side) (i : Nat) : GInv (Ghost.init s) (initState s i) :=
  fun _ _ hx => ⟨.inl hx, .inl hx⟩

theorem safe_of_ginv (g : Ghost) (ws : WState) (r : CReq) (h : GInv g ws)
    (hok : ∀ p ∈ r.slots, p.2 ∉ g.ret p.1) : Safe ws r :=
  fun _ p hp hbel => (h p.1 p.2 hbel).1.resolve_right (hok p hp)

theorem noReturn_exec (env : Env) (h : List Req) :
    ∀ (g : Ghost) (st : State), (∀ i, GInv g (st i)) → ∀ q, NoReturnFrom g (h ++ [q]) →
      ∃ g', (∀ i, GInv g' (exec env st h i)) ∧ NoReturnFrom g' [q] := by
  induction h with
  | nil => intro g st hi q hq; exact ⟨g, hi, hq⟩
  | cons x xs ih =>
    intro g st hi q hq
    cases x with
    | compile r => exact ih _ _ (ginv_compile env g st r hi) q hq.2
    | tx r => exact ih _ _ (ginv_tx env g st r hi) q hq.2

end EdbVerif.Sync
