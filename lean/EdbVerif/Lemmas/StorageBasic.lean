/-
The backend operations (`exec_*`) and the layout (`mem_layout_*`, `mem_ptrCols`) as membership facts; the
footprint of a pointer (`Foot`), disjoint for distinct pointers of a well-formed schema; `Ptr.hasTable` and
`Ptr.srcCol` against the decision functions of `types.py`.
-/
import EdbVerif.Model.StorageSpec
import EdbVerif.Lemmas.Keyed

namespace EdbVerif.Storage

theorem exec_createTable_new {c : Catalog} {t : TName} (cs : List CName) (b : Bool)
    (h : t ∉ c.tables) :
    ∃ c', exec c (.createTable t cs b) = some c' ∧
      (∀ u, u ∈ c'.tables ↔ u = t ∨ u ∈ c.tables) ∧
      (∀ x, x ∈ c'.cols ↔ (x.1 = t ∧ x.2 ∈ cs) ∨ x ∈ c.cols) := by
  refine ⟨{ tables := t :: c.tables, cols := cs.map (fun x => (t, x)) ++ c.cols },
    by simp [exec, h], by simp, ?_⟩
  intro x
  obtain ⟨x1, x2⟩ := x
  simp only [List.mem_append, List.mem_map, Prod.mk.injEq]
  constructor
  · rintro (⟨a, ha, rfl, rfl⟩ | h)
    · exact Or.inl ⟨rfl, ha⟩
    · exact Or.inr h
  · rintro (⟨rfl, h2⟩ | h)
    · exact Or.inl ⟨x2, h2, rfl, rfl⟩
    · exact Or.inr h

theorem exec_createTable_exists {c : Catalog} {t : TName} (cs : List CName)
    (h : t ∈ c.tables) : exec c (.createTable t cs true) = some c := by
  simp [exec, h]

theorem exec_dropTable {c : Catalog} {t : TName} (b : Bool) (h : t ∈ c.tables) :
    ∃ c', exec c (.dropTable t b) = some c' ∧
      (∀ u, u ∈ c'.tables ↔ u ≠ t ∧ u ∈ c.tables) ∧
      (∀ x, x ∈ c'.cols ↔ x.1 ≠ t ∧ x ∈ c.cols) := by
  refine ⟨{ tables := c.tables.filter (fun u => u ≠ t), cols := c.cols.filter (fun x => x.1 ≠ t) },
    by simp [exec, h], ?_, ?_⟩
  · intro u; simp [List.mem_filter, and_comm]
  · intro x; simp [List.mem_filter, and_comm]

theorem exec_dropTable_missing {c : Catalog} {t : TName} (h : t ∉ c.tables) :
    exec c (.dropTable t true) = some c := by
  simp [exec, h]

theorem exec_addCol {c : Catalog} {t : TName} {x : CName} (b : Bool)
    (h1 : (t, x) ∉ c.cols) (h2 : t ∈ c.tables) :
    ∃ c', exec c (.addCol t x b) = some c' ∧ c'.tables = c.tables ∧
      (∀ y, y ∈ c'.cols ↔ y = (t, x) ∨ y ∈ c.cols) := by
  refine ⟨{ c with cols := (t, x) :: c.cols }, by simp [exec, h1, h2], rfl, by simp⟩

theorem exec_addCol_exists {c : Catalog} {t : TName} {x : CName} (h : (t, x) ∈ c.cols) :
    exec c (.addCol t x true) = some c := by
  simp [exec, h]

theorem exec_dropCol {c : Catalog} {t : TName} {x : CName} (h : (t, x) ∈ c.cols) :
    ∃ c', exec c (.dropCol t x) = some c' ∧ c'.tables = c.tables ∧
      (∀ y, y ∈ c'.cols ↔ y ≠ (t, x) ∧ y ∈ c.cols) := by
  refine ⟨{ c with cols := c.cols.filter (fun y => y ≠ (t, x)) }, by simp [exec, h], rfl, ?_⟩
  intro y; simp [List.mem_filter, and_comm]

theorem execAll_nil (c : Catalog) : execAll c [] = some c := rfl

theorem execAll_cons {c c' : Catalog} {o : Op} (os : List Op) (h : exec c o = some c') :
    execAll c (o :: os) = execAll c' os := by
  simp [execAll, h]

theorem execAll_single {c c' : Catalog} {o : Op} (h : exec c o = some c') : execAll c [o] = some c' := by
  rw [execAll_cons [] h]; rfl

theorem execAll_append (c : Catalog) (os1 os2 : List Op) :
    execAll c (os1 ++ os2) = (execAll c os1).bind (fun c' => execAll c' os2) := by
  induction os1 generalizing c with
  | nil => simp [execAll]
  | cons o os ih =>
    simp only [List.cons_append, execAll]
    cases exec c o with
    | none => simp
    | some c' => simpa using ih c'

theorem equiv_trans {a b c : Catalog} (h1 : a.Equiv b) (h2 : b.Equiv c) : a.Equiv c :=
  ⟨fun t => (h1.1 t).trans (h2.1 t), fun x => (h1.2 x).trans (h2.2 x)⟩

theorem equiv_refl (a : Catalog) : a.Equiv a := ⟨fun _ => Iff.rfl, fun _ => Iff.rfl⟩

theorem equiv_symm {a b : Catalog} (h : a.Equiv b) : b.Equiv a :=
  ⟨fun t => (h.1 t).symm, fun x => (h.2 x).symm⟩

theorem mem_layout_tables {s : Schema} {t : TName} :
    t ∈ (layout s).tables ↔ (∃ i ∈ s.typeIds, t = .obj i) ∨ ∃ p ∈ s.ptrs, t ∈ ptrTables p := by
  simp only [layout, Schema.typeIds, List.mem_append, List.mem_map, List.mem_flatMap]
  refine or_congr_left ⟨?_, ?_⟩
  · rintro ⟨d, hd, rfl⟩; exact ⟨_, ⟨d, hd, rfl⟩, rfl⟩
  · rintro ⟨_, ⟨d, hd, rfl⟩, rfl⟩; exact ⟨d, hd, rfl⟩

theorem mem_layout_cols {s : Schema} {x : TName × CName} :
    x ∈ (layout s).cols ↔ ∃ p ∈ s.ptrs, x ∈ ptrCols p := by
  simp [layout, List.mem_flatMap]

theorem mem_ptrTables {p : Ptr} {t : TName} :
    t ∈ ptrTables p ↔ p.hasTable = true ∧ t = .ptr p.id := by
  unfold ptrTables
  split <;> simp_all

theorem userProps_iff {p : Ptr} : p.userProps = true ↔ ∃ lp ∈ p.lprops, lp.computed = false := by
  simp [Ptr.userProps]

theorem mem_lpropCols {p : Ptr} {c : CName} :
    c ∈ p.lpropCols ↔ ∃ lp ∈ p.lprops, lp.computed = false ∧ c = lp.col := by
  simp only [Ptr.lpropCols, List.mem_map, List.mem_filter, Bool.not_eq_eq_eq_not, Bool.not_true]
  constructor
  · rintro ⟨lp, ⟨h1, h2⟩, rfl⟩; exact ⟨lp, h1, h2, rfl⟩
  · rintro ⟨lp, h1, h2, rfl⟩; exact ⟨lp, ⟨h1, h2⟩, rfl⟩

theorem mem_ptrCols {p : Ptr} {x : TName × CName} :
    x ∈ ptrCols p ↔ p.srcCol = some x ∨
      (p.hasTable = true ∧ x.1 = .ptr p.id ∧ (x.2 = .source ∨ x.2 = .target ∨ x.2 ∈ p.lpropCols)) := by
  obtain ⟨x1, x2⟩ := x
  unfold ptrCols
  cases p.hasTable
  · simp
  · simp only [List.mem_append, Option.mem_toList, if_true, List.mem_cons, Prod.mk.injEq, List.mem_map, true_and]
    refine or_congr_right ⟨?_, ?_⟩
    · rintro (⟨rfl, rfl⟩ | ⟨rfl, rfl⟩ | ⟨a, ha, rfl, rfl⟩)
      · exact ⟨rfl, .inl rfl⟩
      · exact ⟨rfl, .inr (.inl rfl)⟩
      · exact ⟨rfl, .inr (.inr ha)⟩
    · rintro ⟨rfl, rfl | rfl | h⟩
      · exact .inl ⟨rfl, rfl⟩
      · exact .inr (.inl ⟨rfl, rfl⟩)
      · exact .inr (.inr ⟨x2, h, rfl, rfl⟩)

theorem col_of_plain {lp : LProp} (h : lp.implicitName = false) : lp.col = .col lp.id := by
  unfold LProp.implicitName at h
  unfold LProp.col
  cases hn : lp.name <;> simp_all

theorem mem_lpropCols_plain {p : Ptr} (hpl : ∀ lp ∈ p.lprops, lp.implicitName = false) {c : CName} :
    c ∈ p.lpropCols ↔ ∃ lp ∈ p.lprops, lp.computed = false ∧ c = .col lp.id := by
  rw [mem_lpropCols]
  exact exists_congr fun lp => and_congr_right fun h1 => by rw [col_of_plain (hpl lp h1)]

theorem mem_mapLProp {p : Ptr} (hnd : (p.lprops.map (·.id)).Nodup) {lp : LProp} (hlp : lp ∈ p.lprops)
    (f : LProp → LProp) {a : LProp} :
    a ∈ (p.mapLProp lp.id f).lprops ↔ a = f lp ∨ (a ∈ p.lprops ∧ a.id ≠ lp.id) :=
  Keyed.mem_modify hnd hlp fun _ => .rfl

theorem col_mem_lpropCols {p : Ptr} (hnd : (p.lprops.map (·.id)).Nodup)
    (hpl : ∀ l ∈ p.lprops, l.implicitName = false) {lp : LProp} (hlp : lp ∈ p.lprops) :
    CName.col lp.id ∈ p.lpropCols ↔ lp.computed = false := by
  rw [mem_lpropCols_plain hpl]
  constructor
  · rintro ⟨l, hl, h1, h2⟩
    rwa [Keyed.eq_of_key hnd hl hlp (CName.col.inj h2).symm] at h1
  · exact fun h => ⟨lp, hlp, h, rfl⟩

theorem userProps_iff_lpropCols {p : Ptr} : p.userProps = true ↔ ∃ c, c ∈ p.lpropCols := by
  rw [userProps_iff]
  constructor
  · rintro ⟨lp, h1, h2⟩; exact ⟨lp.col, mem_lpropCols.mpr ⟨lp, h1, h2, rfl⟩⟩
  · rintro ⟨c, h⟩
    obtain ⟨lp, h1, h2, _⟩ := mem_lpropCols.mp h
    exact ⟨lp, h1, h2⟩

theorem lpropCols_nil_of_not_userProps {p : Ptr} (h : p.userProps = false) : p.lpropCols = [] :=
  List.eq_nil_iff_forall_not_mem.mpr fun c hc =>
    Bool.false_ne_true (h.symm.trans (userProps_iff_lpropCols.mpr ⟨c, hc⟩))

theorem hasTable_some {p : Ptr} {t : Nat} (h : p.src = some t) :
    p.hasTable = (!p.computed && (!p.single || p.userProps)) := by
  simp [Ptr.hasTable, h]

theorem srcCol_eq_some {p : Ptr} {x : TName × CName} :
    p.srcCol = some x ↔ ∃ t, p.src = some t ∧ p.computed = false ∧ p.single = true ∧ p.name ≠ .type_ ∧
      x = (.obj t, colOf p.name p.id) := by
  unfold Ptr.srcCol
  cases p.src with
  | none => simp
  | some t =>
    simp only [Option.ite_none_right_eq_some, Option.some.injEq, exists_eq_left', Bool.and_eq_true,
      Bool.not_eq_eq_eq_not, Bool.not_true, bne_iff_ne, ne_eq, and_assoc, eq_comm (a := x)]

theorem srcCol_lprops (p : Ptr) (l : List LProp) : ({ p with lprops := l } : Ptr).srcCol = p.srcCol := rfl

theorem hasTable_mono {p p' : Ptr} (hc : p'.computed = p.computed) (hs : p'.src = p.src)
    (hk : p'.kind = p.kind) (hsg : p'.single = p.single)
    (hu : ∀ k, k ∈ p.lpropCols → k ∈ p'.lpropCols) : p.hasTable = true → p'.hasTable = true := by
  have hu' : p.userProps = true → p'.userProps = true := by
    rw [userProps_iff_lpropCols, userProps_iff_lpropCols]; exact fun ⟨k, hk⟩ => ⟨k, hu k hk⟩
  unfold Ptr.hasTable
  rw [hc, hs, hk, hsg]
  cases p.src with
  | none => exact id
  | some t =>
    simp only [Bool.and_eq_true, Bool.or_eq_true]
    exact fun h => ⟨h.1, h.2.imp_right hu'⟩

theorem lpropCols_nil_of_new_table {p p' : Ptr} (hc : p'.computed = p.computed) (hs : p'.src = p.src)
    (hk : p'.kind = p.kind) (hsg : p'.single = p.single) (h1 : p.hasTable = false)
    (h2 : p'.hasTable = true) : p.lpropCols = [] := by
  apply lpropCols_nil_of_not_userProps
  unfold Ptr.hasTable at h1 h2
  rw [hc, hs, hk, hsg] at h2
  revert h1 h2
  cases p.src with
  | none => exact fun h1 h2 => nomatch h1.symm.trans h2
  | some t =>
    simp only [Bool.and_eq_true, Bool.or_eq_true]
    intro h1 h2
    simp only [h2.1, Bool.true_and, Bool.or_eq_false_iff] at h1
    exact h1.2

/-- the columns a pointer can ever own: everything in its own table and one
    column of its source's table -/
def Foot (p : Ptr) (x : TName × CName) : Prop :=
  x.1 = .ptr p.id ∨ ∃ t, p.src = some t ∧ x = (.obj t, colOf p.name p.id)

theorem foot_of_mem_ptrCols {p : Ptr} {x : TName × CName} (h : x ∈ ptrCols p) : Foot p x := by
  rcases mem_ptrCols.mp h with h | ⟨_, h1, _⟩
  · obtain ⟨t, hs, _, _, _, rfl⟩ := srcCol_eq_some.mp h
    exact Or.inr ⟨t, hs, rfl⟩
  · exact Or.inl h1

theorem colOf_inj {n m : PName} {i j : Nat} (h : colOf n i = colOf m j) :
    n = m ∨ (i = j ∧ ∃ a b, n = .plain a ∧ m = .plain b) := by
  cases n <;> cases m <;> simp_all [colOf]

/-- filtering by `g` when, on the elements that matter (`P`), `g` decides one proposition `K`: the shape
    `step_dropType` needs, where `K` is "this table stays" -/
theorem exists_mem_filter_iff {α : Type} {l : List α} {g : α → Bool} {P : α → Prop} {K : Prop}
    (h : ∀ a ∈ l, P a → (K ↔ g a = true)) : (∃ a ∈ l.filter g, P a) ↔ (∃ a ∈ l, P a) ∧ K := by
  constructor
  · rintro ⟨a, ha, hP⟩
    obtain ⟨ha, hg⟩ := List.mem_filter.mp ha
    exact ⟨⟨a, ha, hP⟩, (h a ha hP).mpr hg⟩
  · rintro ⟨⟨a, ha, hP⟩, hK⟩
    exact ⟨a, List.mem_filter.mpr ⟨ha, (h a ha hP).mp hK⟩, hP⟩

theorem WF.eq_of_id {s : Schema} (w : WF s) {p q : Ptr} (hp : p ∈ s.ptrs) (hq : q ∈ s.ptrs)
    (h : p.id = q.id) : p = q :=
  Keyed.eq_of_key w.ids hp hq h

theorem WF.foot_disjoint {s : Schema} (w : WF s) {p q : Ptr} (hp : p ∈ s.ptrs) (hq : q ∈ s.ptrs)
    {x : TName × CName} (h1 : Foot p x) (h2 : Foot q x) : p = q := by
  apply w.eq_of_id hp hq
  rcases h1 with h1 | ⟨t, hs, rfl⟩ <;> rcases h2 with h2 | ⟨u, hu, h2⟩
  · rw [h1] at h2; exact TName.ptr.inj h2
  · rw [h2] at h1; simp at h1
  · simp at h2
  · simp only [Prod.mk.injEq, TName.obj.injEq] at h2
    obtain ⟨rfl, hc⟩ := h2
    rcases colOf_inj hc with hn | ⟨hi, _⟩
    · exact w.names p hp q hq (by rw [hs, hu]) hn
    · exact hi

theorem mem_ptrIds_of_mem {s : Schema} {p : Ptr} (h : p ∈ s.ptrs) : p.id ∈ s.ptrIds :=
  List.mem_map_of_mem h

theorem findPtr_some {s : Schema} {i : Nat} {p : Ptr} (h : s.findPtr i = some p) :
    p ∈ s.ptrs ∧ p.id = i :=
  Keyed.find_some h

theorem findPtr_none {s : Schema} {i : Nat} (h : s.findPtr i = none) : ∀ p ∈ s.ptrs, p.id ≠ i :=
  Keyed.find_eq_none.mp h

/-- `Ptr.hasTable` is `has_table` on the pointer's view, for every pointer (abstract ones included) -/
theorem hasTable_eq_view (p : Ptr) : p.hasTable = hasTableV p.view := by
  obtain ⟨id, src, kind, name, single, required, computed, lprops⟩ := p
  simp only [Ptr.hasTable, hasTableV, Ptr.view, storagePlain, Ptr.userProps]
  cases computed
  · cases src
    · simp
    · rcases Bool.eq_false_or_eq_true (lprops.any fun lp => !lp.computed) with hu | hu <;>
        cases single <;> simp [hu]
  · rfl

theorem layout_decisions (p : Ptr) (t : Nat) (hs : p.src = some t) (hn : p.name ≠ .type_) :
    p.hasTable = hasTableV p.view ∧
    (p.computed = false →
      (p.srcCol.isSome ↔ ∃ c, storageInfo p.view false = some ⟨.source, false, c⟩) ∧
      (p.hasTable = true ↔ ∃ c, storageInfo p.view true = some ⟨.self, true, c⟩)) := by
  refine ⟨hasTable_eq_view p, fun hc => ?_⟩
  obtain ⟨id, src, kind, name, single, required, computed, lprops⟩ := p
  cases hs
  cases hc
  have hne : (name != PName.type_) = true := by simpa using hn
  simp only [Ptr.hasTable, storageInfo, Ptr.view, storagePlain, Ptr.userProps, Ptr.srcCol, hne]
  rcases Bool.eq_false_or_eq_true (lprops.any fun lp => !lp.computed) with hu | hu <;>
    cases single <;> simp [hu]

end EdbVerif.Storage
