/-
C03: name resolution.  What the session aliases do to a qualified module name,
and the lookup of a qualified reference in closed form.
-/
import EdbVerif.Model.DescribeSpec

namespace EdbVerif.Describe

/-- where the named aliases send a module: only the first component is looked up -/
def redirect (al : List (String × ModName)) : ModName → ModName
  | [] => []
  | f :: rest => match al.lookup f with
    | some fq => fq ++ rest
    | none => f :: rest

theorem redirect_nil (m : ModName) : redirect [] m = m := by
  cases m <;> rfl

/-- neither the current module nor the `None` alias is consulted -/
theorem applyAliasesG_some (cur na : Option ModName) (al : List (String × ModName)) (m : ModName)
    (hm : ∀ rest, rest ≠ [] → m ≠ "__current__" :: rest) :
    applyAliasesG cur na al (some m) = (false, some (redirect al m)) := by
  cases m with
  | nil => rfl
  | cons f rest =>
    have hc : ¬ (f = "__current__" ∧ rest ≠ []) := fun hc => hm rest hc.2 (by rw [hc.1])
    simp only [applyAliasesG, hc, ↓reduceIte, redirect]
    cases al.lookup f <;> rfl

theorem not_current_of_applyAliasesG {cur na : Option ModName} {al : List (String × ModName)}
    {m : ModName} {x : Option ModName} (h : applyAliasesG cur na al (some m) = (false, x)) :
    ∀ rest, rest ≠ [] → m ≠ "__current__" :: rest := by
  rintro rest hr rfl
  simp [applyAliasesG, hr] at h

theorem redirect_of_safe {c : Ctx} {m : ModName} (h : applyAliases c (some m) = (false, some m)) :
    redirect c.aliases m = m := by
  rw [applyAliases, applyAliasesG_some _ _ _ _ (not_current_of_applyAliasesG h)] at h
  injection h with _ h
  exact Option.some.inj h

theorem applyAliasesG_nil {m : ModName} (hm : ∀ rest, rest ≠ [] → m ≠ "__current__" :: rest)
    (cur na : Option ModName) : applyAliasesG cur na [] (some m) = (false, some m) := by
  rw [applyAliasesG_some _ _ _ _ hm, redirect_nil]

theorem modSafe_empty (m : ModName) (hne : m ≠ []) (hstd : m ≠ ["__std__"])
    (hcur : ∀ rest, rest ≠ [] → m ≠ "__current__" :: rest) : ModSafe {} m :=
  ⟨hne, hstd, applyAliasesG_nil hcur _ _⟩

/-- the last resort of `_search_with_getter`: `std::m::n`, unless the first
    component of `m` is itself a module -/
def tryStd (e : Env) (n : String) : ModName → Option QName
  | f :: rest => if e.hasModule [f] then none else tryName e ("std" :: f :: rest) n
  | [] => none

/-- a qualified reference sees the context only through what the aliases make of its module -/
theorem resolveRef_qualified (e : Env) (c : Ctx) (m m' : ModName) (n : String)
    (h : applyAliases c (some m) = (false, some m')) :
    resolveRef e c ⟨some m, n⟩ =
      if m = ["__std__"] then tryName e stdMod n else (tryName e m' n).or (tryStd e n m') := by
  by_cases hstd : m = ["__std__"]
  · rw [if_pos hstd, hstd]
    unfold resolveRef
    exact if_pos rfl
  · have hstd' : ¬ (some m = some ["__std__"]) := fun hh => hstd (Option.some.inj hh)
    simp only [resolveRef, h, hstd, hstd', ↓reduceIte, Bool.false_and, Bool.false_eq_true,
      Option.isNone_some]
    cases m' <;> cases tryName e _ n <;> rfl

theorem resolveRef_qualified_safe (e : Env) (c : Ctx) (m : ModName) (n : String)
    (hs : ModSafe c m) (hex : e.has ⟨m, n⟩ = true) :
    resolveRef e c ⟨some m, n⟩ = some ⟨m, n⟩ := by
  rw [resolveRef_qualified e c m m n hs.2.2, if_neg hs.2.1, tryName, if_pos hex]
  rfl

theorem eq_of_tryName {e : Env} {k : ModName} {n : String} {q : QName}
    (h : tryName e k n = some q) : q = ⟨k, n⟩ := by
  unfold tryName at h
  split at h
  · exact (Option.some.inj h).symm
  · cases h

theorem resolveRef_qualified_mod (e : Env) (c : Ctx) (m m' : ModName) (n : String) (q : QName)
    (hstd : m ≠ ["__std__"]) (h : applyAliases c (some m) = (false, some m'))
    (hq : resolveRef e c ⟨some m, n⟩ = some q) : q = ⟨m', n⟩ ∨ q = ⟨"std" :: m', n⟩ := by
  rw [resolveRef_qualified e c m m' n h, if_neg hstd, Option.or_eq_some_iff] at hq
  rcases hq with hq | ⟨_, hq⟩
  · exact Or.inl (eq_of_tryName hq)
  · cases m' with
    | nil => cases hq
    | cons f rest =>
      simp only [tryStd] at hq
      split at hq
      · cases hq
      · exact Or.inr (eq_of_tryName hq)

theorem classname_qualified_safe (c : Ctx) (m : ModName) (n : String) (hs : ModSafe c m) :
    classname c ⟨some m, n⟩ = .ok ⟨m, n⟩ := by
  have hr := redirect_of_safe hs.2.2
  match m, hs.1, hr with
  | [k], _, hr =>
    -- `redirect` and `classname` look up the same key `k`
    simp only [classname]
    cases hl : c.aliases.lookup k with
    | none => rfl
    | some fq =>
      have : fq ++ [] = [k] := by simpa only [redirect, hl] using hr
      rw [← this, List.append_nil]
  | _ :: _ :: _, _, _ => rfl

theorem classname_toRef (c : Ctx) (q : QName) (hs : ModSafe c q.mod) : classname c q.toRef = .ok q :=
  classname_qualified_safe c q.mod q.name hs

theorem resolveShell_qualified_safe (e : Env) (c : Ctx) (m : ModName) (n : String)
    (hs : ModSafe c m) (hex : e.has ⟨m, n⟩ = true) :
    resolveShell e c ⟨some m, n⟩ = some ⟨m, n⟩ := by
  unfold resolveShell
  rw [resolveRef_qualified_safe e c m n hs hex]

theorem resolveE_safe (e : Env) (c : Ctx) (shell : Bool) (q : QName)
    (hs : ModSafe c q.mod) (hex : e.has q = true) :
    resolveE e c shell q.toRef = .ok q := by
  cases shell <;>
    simp only [resolveE, QName.toRef, resolveRef_qualified_safe e c q.mod q.name hs hex,
      resolveShell_qualified_safe e c q.mod q.name hs hex, Bool.false_eq_true, ↓reduceIte]

end EdbVerif.Describe
