/-
C01 — everything the parser model returns is in parser normal form (`WF`): first that the reducing
constructors `negate`, `mkIndex`, `mkPath` keep it, then `WfAll f` for the five parser functions
together, by induction on the fuel; the step follows their arms in the order of `Model/QL.lean`.
-/
import EdbVerif.Model.QLSpec

namespace EdbVerif.QL
open EdbVerif.QLLex

theorem wf_negate (e : Expr) (h : wf e = true) : wf (negate e) = true := by
  -- off a numeral, `wf (.unop .minus e)` evaluates to `wf e && true`; on one, only the sign count changes
  cases e <;> first | exact (Bool.and_true _).trans h | exact h

theorem wfList_append (xs : List Expr) (i : Expr) (hx : wfList xs = true) (hi : wf i = true) :
    wfList (xs ++ [i]) = true := by
  induction xs with
  | nil => simp [wfList, hi]
  | cons x xs ih =>
      simp only [wfList, Bool.and_eq_true] at hx
      simp [wfList, hx.1, ih hx.2]

theorem wf_mkIndex (l i : Expr) (hl : wf l = true) (hi : wf i = true) : wf (mkIndex l i) = true := by
  -- off an index, `wf (.index l [i])` evaluates to `wf l && (wf i && true) && true && true`
  have off : ∀ a b : Bool, a = true → b = true → (a && (b && true) && true && true) = true :=
    fun _ _ ha hb => by subst ha hb; rfl
  cases l
  case index a idx =>
    simp only [wf, Bool.and_eq_true] at hl
    simp [mkIndex, wf, hl, wfList_append idx i hl.1.1.2 hi]
  all_goals exact off _ _ hl hi

theorem wf_mkPath (l : Expr) (s : String) (hl : wf l = true) : wf (mkPath l s) = true := by
  -- off a path, `wf (.path l s [])` evaluates to `wf l && true`; a path is extended in place
  cases l <;> first | exact (Bool.and_true _).trans hl | exact hl

theorem isAtomTok_lit (k : LitKind) (s : String) (h : ¬ k.isNum = true) :
    isAtomTok (.lit k s) = true := by
  cases k <;> first | rfl | exact absurd rfl h

def WfAll (f : Nat) : Prop :=
  (∀ m ts e r, parseE f m ts = some (e, r) → wf e = true) ∧
  (∀ ts e r, parseOperand f ts = some (e, r) → wf e = true) ∧
  (∀ m na lhs ts e r, wf lhs = true → loop f m na lhs ts = some (e, r) → wf e = true) ∧
  (∀ c ts es r, parseArgs f c ts = some (es, r) → wfList es = true) ∧
  (∀ c ts es r, parseArgs1 f c ts = some (es, r) → wfList es = true)

theorem wfAll_zero : WfAll 0 :=
  ⟨fun _ _ _ _ h => (nomatch h), fun _ _ _ h => (nomatch h), fun _ _ _ _ _ _ _ h => (nomatch h),
    fun _ _ _ _ h => (nomatch h), fun _ _ _ _ h => (nomatch h)⟩

theorem wfAll_succ (f : Nat) (ih : WfAll f) : WfAll (f + 1) := by
  obtain ⟨ihE, ihO, ihL, ihA, ihA1⟩ := ih
  refine ⟨?_, ?_, ?_, ?_, ?_⟩
  · intro m ts e r h
    dsimp only [parseE] at h
    split at h
    · next hx => exact ihL _ _ _ _ _ _ (ihO _ _ _ hx) h
    · cases h
  · intro ts e r h
    dsimp only [parseOperand] at h
    split at h
    -- the seven prefix productions
    iterate 7
      · split at h
        · next hx => cases h; simp [wf, wf_negate, ihE _ _ _ _ hx]
        · cases h
    -- `IF c THEN a ELSE b`
    · split at h
      · next hc =>
        split at h
        · next ha =>
          split at h
          · next hb => cases h; simp [wf, ihE _ _ _ _ hc, ihE _ _ _ _ ha, ihE _ _ _ _ hb]
          · cases h
        · cases h
      · cases h
    -- `()`
    · cases h; rfl
    -- `( e )` and `( e , … )`
    · split at h
      · next hx => cases h; exact ihE _ _ _ _ hx
      · next hx =>
        split at h
        · next hes => cases h; simp [wf, wfList, ihE _ _ _ _ hx, ihA _ _ _ _ hes]
        · cases h
      · cases h
    -- array, set, call
    iterate 3
      · split at h
        · next hes => cases h; simp [wf, ihA _ _ _ _ hes]
        · cases h
    -- identifier; literal; any other token; end of input
    · cases h; rfl
    · split at h
      · cases h; assumption
      · next hk => cases h; exact isAtomTok_lit _ _ hk
    · split at h
      · cases h; assumption
      · cases h
    · cases h
  · intro m na lhs ts e r hl h
    dsimp only [loop] at h
    split at h
    -- a binary operator: looser than `m` ends the loop, the level `na` of a non-associative
    -- production just reduced is an error, otherwise the right operand follows
    · split at h
      · cases h; exact hl
      · split at h
        · cases h
        · split at h
          · next hx => exact ihL _ _ _ _ _ _ (by simp [wf, hl, ihE _ _ _ _ hx]) h
          · cases h
    · split at h
      -- `IS [NOT] T`
      · split at h
        · cases h; exact hl
        · split at h
          · cases h
          · split at h
            · exact ihL _ _ (.isop _ lhs _) _ _ _ hl h
            · exact ihL _ _ (.isop _ lhs _) _ _ _ hl h
            · cases h
      -- `IF c ELSE b`
      · split at h
        · cases h; exact hl
        · split at h
          · next hc =>
            split at h
            · next hb =>
              exact ihL _ _ _ _ _ _ (by simp [wf, hl, ihE _ _ _ _ hc, ihE _ _ _ _ hb]) h
            · cases h
          · cases h
      -- `[ i ]`
      · split at h
        · cases h; exact hl
        · split at h
          · next hi => exact ihL _ _ _ _ _ _ (wf_mkIndex _ _ hl (ihE _ _ _ _ hi)) h
          · cases h
      -- `. s`
      · split at h
        · cases h; exact hl
        · exact ihL _ _ _ _ _ _ (wf_mkPath _ _ hl) h
      -- anything else ends the loop
      · cases h; exact hl
  · intro c ts es r h
    dsimp only [parseArgs] at h
    split at h
    · split at h
      · cases h; rfl
      · exact ihA1 _ _ _ _ h
    · exact ihA1 _ _ _ _ h
  · intro c ts es r h
    dsimp only [parseArgs1] at h
    split at h
    · next hx =>
      split at h
      · cases h; simp [wfList, ihE _ _ _ _ hx]
      · split at h
        · split at h
          · next hes => cases h; simp [wfList, ihE _ _ _ _ hx, ihA _ _ _ _ hes]
          · cases h
        · cases h
    · cases h

theorem wfAll : ∀ f, WfAll f
  | 0 => wfAll_zero
  | f + 1 => wfAll_succ f (wfAll f)

theorem parse_wf (ts : List Tok) (e : Expr) (h : parse ts = some e) : WF e := by
  unfold parse at h
  split at h
  · next e' heq =>
      cases h
      exact (wfAll _).1 _ _ _ _ heq
  · cases h

end EdbVerif.QL
