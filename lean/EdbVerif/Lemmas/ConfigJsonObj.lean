/-
C19: JSON round trip of configuration objects
(`CompositeConfigType.to_json_value` then `from_pyvalue`), and `ValOK → RT`.
-/
import EdbVerif.Lemmas.ConfigJson
import EdbVerif.Lemmas.Duration
import EdbVerif.Lemmas.Memory
namespace EdbVerif.Config

theorem elems_roundtrip (t : STy) (l : List Scalar) (h : ∀ x ∈ l, ElemOK t x) :
    ∃ js, mapE rawToJson l = .ok js ∧ mapO (instOf t) js = some l := by
  induction l with
  | nil => exact ⟨[], rfl, rfl⟩
  | cons x r ih =>
    obtain ⟨j, h1, h2⟩ := h x (by simp)
    obtain ⟨js, h3, h4⟩ := ih (fun y hy => h y (by simp [hy]))
    exact ⟨j :: js, mapE_cons_ok h1 h3, by simp [mapO, h2, h4]⟩

theorem instOf_list (t : STy) (js : List JV) : instOf t (.list js) = none := by
  cases t <;> rfl

def nonNull : JV → Bool
  | .null => false
  | _ => true

/-- what `from_pyvalue` makes of the JSON written for one field -/
def FieldBack (f : Field) (v : FVal) (j : JV) : Prop :=
  (j = .null ∧ v = .sc .none ∧ f.default = some (.sc .none)) ∨
  (nonNull j = true ∧ coerceField f j = .ok v)

theorem elemOK_cases (t : STy) (x : Scalar) (h : ElemOK t x) :
    (t = .bool ∨ t = .int ∨ t = .str) ∧ x ≠ .none ∧ Raw x := by
  obtain ⟨j, h1, h2⟩ := h
  unfold instOf at h2
  split at h2 <;> cases h2 <;> simp [Raw]

theorem field_roundtrip (o : Obj) (f : Field) (v : FVal) (hget : o.getattr f.name = some v)
    (hok : FieldOK f v) : ∃ j, o.fieldToJson f = .ok (f.name, j) ∧ FieldBack f v j := by
  unfold Obj.fieldToJson FieldBack coerceField
  unfold FieldOK at hok
  split at hok
  · -- frozenset[t]
    rename_i t l hty
    obtain ⟨js, h1, h2⟩ := elems_roundtrip t l hok.1
    exact ⟨.list js, by simp [hget, hty, h1, Except.map, nonNull, instOf_list, containerItems, h2,
      mkSet_of_PD l hok.2]⟩
  · -- duration
    rename_i us hty
    exact ⟨.str (String.ofList (Duration.toIso us)), by simp [hget, hty, STy.isScalarType, scalarToJson,
      Except.map, nonNull, mkDurationIso, Duration.parseIso_toIso]⟩
  · -- memory
    rename_i n hty
    obtain ⟨k, rfl⟩ := Int.eq_ofNat_of_zero_le hok
    exact ⟨.str (String.ofList (Memory.memToStr k)), by simp [hget, hty, STy.isScalarType, scalarToJson,
      Except.map, nonNull, mkMemory, Memory.memory_roundtrip]⟩
  · exact hok.elim
  · -- `None`: written as null, restored from the default
    rename_i t hne hty
    refine ⟨.null, ?_, Or.inl ⟨rfl, rfl, hok⟩⟩
    cases t <;> simp [hget, hty, STy.isScalarType, scalarToJson, rawToJson, Except.map] at hne ⊢
  · -- bool / int / str (`hx`: the arm for `None` did not match; `hty`: the field's type)
    rename_i t x _ _ _ hx hty
    obtain ⟨ht, _, _⟩ := elemOK_cases t x hok
    obtain ⟨j, h1, h2⟩ := hok
    have hnn : nonNull j = true := by cases x <;> simp [rawToJson] at h1 hx <;> subst h1 <;> rfl
    refine ⟨j, ?_, Or.inr ⟨hnn, ?_⟩⟩ <;>
      rcases ht with rfl | rfl | rfl <;> simp [hget, hty, STy.isScalarType, h1, h2, Except.map]
  · exact hok.elim

theorem collectItems_of_fieldBack (t : TSpec) (hnd : (t.fields.map (·.name)).Nodup) (V : Field → FVal)
    (Jf : Field → JV) : ∀ (fs : List Field), (∀ f ∈ fs, f ∈ t.fields) →
    (∀ f ∈ fs, FieldBack f (V f) (Jf f)) →
    collectItems t (fs.map fun f => (f.name, Jf f)) =
      .ok (fs.filterMap (fun f => if nonNull (Jf f) then some (f.name, V f) else none), false) := by
  intro fs
  induction fs with
  | nil => intro _ _; rfl
  | cons f r ih =>
    intro hsub H
    have hfind := Keyed.find_of_mem hnd (hsub f (by simp))
    have ihr := ih (fun g hg => hsub g (by simp [hg])) (fun g hg => H g (by simp [hg]))
    simp only [List.map_cons]
    unfold collectItems
    simp only [hfind]
    rcases H f (by simp) with ⟨hj, _, _⟩ | ⟨hnn, hco⟩
    · simp only [hj, ihr, List.filterMap_cons, nonNull]
      simp
    · rw [List.filterMap_cons]
      simp only [hnn, if_true]
      split
      · rename_i hj; rw [hj] at hnn; cases hnn
      · simp only [hco, ihr]

theorem lookupItem_filterMap (c : Field → Bool) (V : Field → FVal) : ∀ (fs : List Field),
    (fs.map (·.name)).Nodup → ∀ f ∈ fs,
    lookupItem (fs.filterMap (fun g => if c g then some (g.name, V g) else none)) f.name =
      if c f then some (V f) else none := by
  -- the field of that name decides
  have key : ∀ (fs : List Field), (fs.map (·.name)).Nodup → ∀ k,
      lookupItem (fs.filterMap (fun g => if c g then some (g.name, V g) else none)) k =
        (fs.find? (·.name == k)).bind fun g => if c g then some (V g) else none := by
    intro fs
    induction fs with
    | nil => intro _ _; rfl
    | cons g r ih =>
      intro hnd k
      simp only [List.map_cons, List.nodup_cons] at hnd
      by_cases hk : g.name = k
      · by_cases hc : c g = true
        · simp [lookupItem, hk, hc]
        · have : r.find? (·.name == k) = none := Keyed.find_eq_none_iff.2 (hk ▸ hnd.1)
          simp [hk, hc, ih hnd.2 k, this]
      · by_cases hc : c g = true <;> simp [lookupItem, hk, hc, ← ih hnd.2 k]
  intro fs hnd f hf
  rw [key fs hnd, Keyed.find_of_mem hnd hf]
  rfl

theorem buildVals_of_lookup (items : List (String × FVal)) (V : Field → FVal) : ∀ (fs : List Field),
    (∀ f ∈ fs, lookupItem items f.name = some (V f) ∨
      (lookupItem items f.name = none ∧ f.default = some (.sc .none) ∧ V f = .sc .none)) →
    buildVals false items fs = .ok (fs.map fun f => (f.name, V f)) := by
  intro fs
  induction fs with
  | nil => intro _; rfl
  | cons f r ih =>
    intro h
    have ihr := ih (fun g hg => h g (by simp [hg]))
    unfold buildVals
    rcases h f (by simp) with h1 | ⟨h1, h2, h3⟩
    · simp [h1, ihr]
    · simp [h1, h2, h3, ihr]

theorem aligned_map : ∀ (fs : List Field) (vs : List (String × FVal)), Aligned fs vs →
    (fs.map (·.name)).Nodup →
    ∃ V : Field → FVal, vs = fs.map (fun f => (f.name, V f)) ∧ ∀ f ∈ fs, FieldOK f (V f) := by
  intro fs vs h
  induction h with
  | nil => intro _; exact ⟨fun _ => .sc .none, rfl, by simp⟩
  | @cons f kv fs vs hk hok _ ih =>
    intro hnd
    simp only [List.map_cons, List.nodup_cons] at hnd
    obtain ⟨V, rfl, hV⟩ := ih hnd.2
    have hne : ∀ g ∈ fs, g ≠ f := fun g hg e => hnd.1 (e ▸ List.mem_map_of_mem hg)
    refine ⟨fun g => if g = f then kv.2 else V g, ?_, ?_⟩
    · simp only [List.map_cons, if_true, ← hk]
      exact congrArg _ (List.map_congr_left fun g hg => by simp [hne g hg])
    · intro g hg
      rcases List.mem_cons.mp hg with rfl | hg
      · simpa using hok
      · simpa [hne g hg] using hV g hg

theorem obj_roundtrip (sp : Spec) (o : Obj) (t0 : TSpec) (h : ObjOK sp o) :
    ∃ j, o.toJson = .ok j ∧ fromPyValue sp t0 false j = .ok (some o) := by
  obtain ⟨hreg, hnd, hnt, hal⟩ := h
  -- names being distinct, the attribute list is a function `V` of the field
  obtain ⟨V, hvals, hV⟩ := aligned_map _ _ hal hnd
  have hget : ∀ f ∈ o.tspec.fields, o.getattr f.name = some (V f) := by
    intro f hf
    simp only [Obj.getattr, hvals, List.find?_map, Function.comp_def, Keyed.find_of_mem hnd hf, Option.map_some]
  -- … and so is the JSON written for it (`fieldToJson` succeeds on every field: `hfield`)
  let Jf : Field → JV := fun f => match o.fieldToJson f with | .ok p => p.2 | .error _ => .null
  have hfield : ∀ f ∈ o.tspec.fields,
      o.fieldToJson f = .ok (f.name, Jf f) ∧ FieldBack f (V f) (Jf f) := by
    intro f hf
    obtain ⟨j, h1, h2⟩ := field_roundtrip o f _ (hget f hf) (hV f hf)
    have hJ : Jf f = j := by simp only [Jf, h1]
    rw [hJ]; exact ⟨h1, h2⟩
  have htojson : o.toJson =
      .ok (.obj (("_tname", .str o.tspec.name) :: o.tspec.fields.map (fun f => (f.name, Jf f)))) := by
    unfold Obj.toJson
    rw [mapE_map o.fieldToJson (fun f => (f.name, Jf f)) _ (fun f hf => (hfield f hf).1)]
  refine ⟨_, htojson, ?_⟩
  unfold fromPyValue
  have hfilter : (("_tname", JV.str o.tspec.name) :: o.tspec.fields.map (fun f => (f.name, Jf f))).filter
      (·.1 != "_tname") = o.tspec.fields.map (fun f => (f.name, Jf f)) := by
    rw [List.filter_cons_of_neg (by simp), List.filter_eq_self]
    intro kv hkv
    obtain ⟨f, hf, rfl⟩ := List.mem_map.1 hkv
    simpa using fun (e : f.name = "_tname") => hnt (e ▸ List.mem_map_of_mem hf)
  have hres : resolveType sp t0 (("_tname", JV.str o.tspec.name) :: o.tspec.fields.map (fun f => (f.name, Jf f)))
      = .ok o.tspec := by
    simp [resolveType, List.find?, hreg]
  have hbuild : buildObj o.tspec false (o.tspec.fields.map (fun f => (f.name, Jf f))) = .ok o := by
    unfold buildObj
    rw [collectItems_of_fieldBack o.tspec hnd V Jf o.tspec.fields (fun _ h => h) (fun f hf => (hfield f hf).2)]
    simp only [Bool.false_eq_true, if_false]
    rw [buildVals_of_lookup _ V o.tspec.fields, ← hvals]
    intro f hf
    rw [lookupItem_filterMap (fun g => nonNull (Jf g)) V _ hnd f hf]
    rcases (hfield f hf).2 with ⟨hj, hv, hd⟩ | ⟨hnn, _⟩
    · right; simp [hj, nonNull, hd, hv]
    · left; simp [hnn]
  simp only [hres, hfilter, hbuild]

theorem dedupObjs_of_pairwise : ∀ (l acc : List Obj),
    (acc ++ l).Pairwise (fun a b => a.pyEq b = false) →
    l.foldl (fun acc o => if acc.any (·.pyEq o) then acc else acc ++ [o]) acc = acc ++ l := by
  intro l
  induction l with
  | nil => intro acc _; simp
  | cons x r ih =>
    intro acc h
    have hx : acc.any (·.pyEq x) = false :=
      List.any_eq_false.2 fun a ha => by
        simp [(List.pairwise_append.1 h).2.2 a ha x List.mem_cons_self]
    simp only [List.foldl_cons, hx, Bool.false_eq_true, if_false]
    rw [ih (acc ++ [x]) (by rw [List.append_assoc]; exact h), List.append_assoc]
    rfl

theorem RT_of_ValOK (sp : Spec) (s : Setting) (v : Val) (h : ValOK sp s v) : RT sp s v := by
  unfold ValOK at h
  unfold RT valueToJson valueFromJson
  split at h
  · -- scalar setting
    rename_i t x hty hso
    unfold ScalarOK at h
    split at h
    case h_1 | h_2 | h_3 =>
      obtain ⟨j, h1, h2⟩ := raw_roundtrip _ h
      exact ⟨j, by simpa [hty, hso, STy.isScalarType] using h1, by simp [hty, hso, h2]⟩
    · -- duration
      rename_i us
      exact ⟨.str (String.ofList (Duration.toIso us)), by
        simp [hty, hso, STy.isScalarType, scalarToJson, mkDurationIso, Duration.parseIso_toIso, Except.map]⟩
    · -- memory
      obtain ⟨k, rfl⟩ := Int.eq_ofNat_of_zero_le h
      exact ⟨.str (String.ofList (Memory.memToStr k)), by
        simp [hty, hso, STy.isScalarType, scalarToJson, mkMemory, Memory.memory_roundtrip, Except.map]⟩
    · -- enum
      rename_i x
      exact ⟨.str x, by simp [hty, hso, STy.isScalarType, scalarToJson, mkEnum, h, Except.map]⟩
    · exact h.elim
  · -- set of scalars
    rename_i l hty hso
    obtain ⟨js, h1, h2⟩ := mapE_roundtrip rawToJson atomOfJson l fun x hx => raw_roundtrip x (h.1 x hx)
    exact ⟨.list js, by simp [hty, hso, h1, sizedItems, h2, mkSet_of_PD l h.2, Except.map]⟩
  · -- single object setting holding `None`
    rename_i hty hso
    exact ⟨.list [], by simp [hty, hso]⟩
  · -- single object
    rename_i t o hty hso
    obtain ⟨j, h1, h2⟩ := obj_roundtrip sp o t h
    exact ⟨.list [j], by simp [hty, hso, h1, h2, Except.map]⟩
  · -- set of objects
    rename_i t l hty hso
    obtain ⟨js, h1, h2⟩ := mapE_roundtrip Obj.toJson (objOfJson sp t) l fun o ho => by
      obtain ⟨j, h1, h2⟩ := obj_roundtrip sp o t (h.1 o ho)
      exact ⟨j, h1, by simp [objOfJson, h2]⟩
    have := dedupObjs_of_pairwise l [] (by simpa using h.2)
    exact ⟨.list js, by simp only [hty, hso, h1, sizedItems, h2, this, Except.map, List.nil_append, and_self]⟩
  · exact h.elim

theorem json_roundtrip_typed (sp : Spec) (m : SMap) (h : MapOK sp m) :
    ∃ j, toJson sp m = .ok j ∧ fromJson sp j = .ok m := by
  apply json_roundtrip sp m h.wf
  intro kv hkv
  obtain ⟨s, h1, h2, h3⟩ := h.entries kv hkv
  exact ⟨s, h1, h2, RT_of_ValOK sp s _ h3⟩

end EdbVerif.Config
