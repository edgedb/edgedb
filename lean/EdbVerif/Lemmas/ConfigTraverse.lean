/-
C19: the model's traversals `mapE` (first error wins) and `mapO`, and `Except.map`.
-/
import EdbVerif.Model.Config
namespace EdbVerif.Config

theorem mapE_cons_ok {α β : Type} {f : α → Except Err β} {x : α} {r : List α} {y : β} {ys : List β}
    (h1 : f x = .ok y) (h2 : mapE f r = .ok ys) : mapE f (x :: r) = .ok (y :: ys) := by
  simp [mapE, h1, h2]

theorem mapE_map {α β : Type} (f : α → Except Err β) (g : α → β) (l : List α)
    (h : ∀ x ∈ l, f x = .ok (g x)) : mapE f l = .ok (l.map g) := by
  induction l with
  | nil => rfl
  | cons x r ih =>
    exact mapE_cons_ok (h x (by simp)) (ih (fun y hy => h y (by simp [hy])))

theorem mapE_mem {α β : Type} {f : α → Except Err β} {l : List α} {ys : List β}
    (h : mapE f l = .ok ys) : ∀ y ∈ ys, ∃ x ∈ l, f x = .ok y := by
  induction l generalizing ys with
  | nil => cases h; nofun
  | cons x r ih =>
    intro y hy
    unfold mapE at h
    split at h
    · cases h
    · split at h <;> cases h
      rcases List.mem_cons.mp hy with rfl | hy
      · exact ⟨x, List.mem_cons_self, ‹_›⟩
      · obtain ⟨x', hx', hfx⟩ := ih ‹_› y hy
        exact ⟨x', List.mem_cons_of_mem _ hx', hfx⟩

theorem mapE_roundtrip {α β : Type} (f : α → Except Err β) (g : β → Except Err α) (l : List α)
    (h : ∀ x ∈ l, ∃ j, f x = .ok j ∧ g j = .ok x) :
    ∃ js, mapE f l = .ok js ∧ mapE g js = .ok l := by
  induction l with
  | nil => exact ⟨[], rfl, rfl⟩
  | cons x r ih =>
    obtain ⟨j, h1, h2⟩ := h x (by simp)
    obtain ⟨js, h3, h4⟩ := ih (fun y hy => h y (by simp [hy]))
    exact ⟨j :: js, mapE_cons_ok h1 h3, mapE_cons_ok h2 h4⟩

theorem map_eq_ok {α β : Type} {e : Except Err α} {f : α → β} {v : β} (h : e.map f = .ok v) :
    ∃ x, e = .ok x ∧ f x = v := by
  cases e <;> simp [Except.map] at h
  exact ⟨_, rfl, h⟩

theorem mapO_map {α β : Type} (f : α → Option β) (g : α → β) (l : List α)
    (h : ∀ x ∈ l, f x = some (g x)) : mapO f l = some (l.map g) := by
  induction l with
  | nil => rfl
  | cons x r ih =>
    simp [mapO, h x (by simp), ih (fun y hy => h y (by simp [hy]))]

theorem mapO_mem {α β : Type} {f : α → Option β} {l : List α} {ys : List β}
    (h : mapO f l = some ys) : ∀ y ∈ ys, ∃ x ∈ l, f x = some y := by
  induction l generalizing ys with
  | nil => cases h; nofun
  | cons x r ih =>
    intro y hy
    unfold mapO at h
    split at h
    · cases h
    · split at h <;> cases h
      rcases List.mem_cons.mp hy with rfl | hy
      · exact ⟨x, List.mem_cons_self, ‹_›⟩
      · obtain ⟨x', hx', hfx⟩ := ih ‹_› y hy
        exact ⟨x', List.mem_cons_of_mem _ hx', hfx⟩

end EdbVerif.Config
