/-
C01 — the notions of the round-trip proof (`LoopStops`, `After`, `Round`) and the facts about the
printer's output that do not involve the parser.
-/
import EdbVerif.Lemmas.QLSteps

namespace EdbVerif.QL
open EdbVerif.QLLex EdbVerif.Gen.Prec

/-- the continuation loop at level `p` leaves `rest` untouched, whatever the left operand -/
def LoopStops (p : Nat) (rest : List Tok) : Prop :=
  ∀ f na lhs, loop (f + 1) p na lhs rest = some (lhs, rest)

theorem stopper_close {close : P} (hc : Closer close) (rest : List Tok) :
    Stopper (.p close :: rest) := by
  rcases hc with rfl | rfl | rfl <;> rfl

theorem loopStops_of_stopper {rest : List Tok} (h : Stopper rest) (p : Nat) : LoopStops p rest := by
  intro f na lhs
  cases rest with
  | nil => rfl
  | cons t r => obtain rfl | rfl | rfl | rfl | rfl | rfl := stopTok_cases h <;> rfl

theorem loop_stop {f p na : Nat} {lhs : Expr} {rest : List Tok} (hf : 1 ≤ f) (hst : Stopper rest) :
    loop f p na lhs rest = some (lhs, rest) := by
  obtain ⟨g, rfl⟩ := Nat.exists_eq_add_of_le' hf
  exact loopStops_of_stopper hst p g na lhs

/-- text admissible after an expression whose open prefix levels are `O` -/
def After (O : List Nat) (rest : List Tok) : Prop :=
  (∀ p ∈ O, LoopStops p rest) ∧ NoCall rest

theorem after_stopper {rest : List Tok} (h : Stopper rest) (O : List Nat) : After O rest := by
  refine ⟨fun p _ => loopStops_of_stopper h p, fun r hr => ?_⟩
  subst hr
  exact Bool.noConfusion h

theorem after_bin {O : List Nat} (op : BOp) (r : List Tok) (h : ∀ p ∈ O, op.laLvl < p) :
    After O (op.toks ++ r) := by
  refine ⟨fun p hp f na lhs => ?_, toks_ne_lparen op r⟩
  dsimp only [loop]
  rw [matchBin_toks]
  exact if_pos (h p hp)

theorem after_is {O : List Nat} (r : List Tok) (h : ∀ p ∈ O, isLaLvl < p) :
    After O (.kw .is :: r) :=
  ⟨fun p hp _ _ _ => if_pos (h p hp), fun _ => nofun⟩

theorem after_if {O : List Nat} (r : List Tok) (h : ∀ p ∈ O, ifLaLvl < p) :
    After O (.kw .if :: r) :=
  ⟨fun p hp _ _ _ => if_pos (h p hp), fun _ => nofun⟩

theorem after_dot (r : List Tok) : After [] (.p .dot :: r) :=
  ⟨nofun, fun _ => nofun⟩

theorem After.mono {O O' : List Nat} {rest : List Tok} (h : After O rest)
    (hs : ∀ p ∈ O', p ∈ O) : After O' rest :=
  ⟨fun p hp => h.1 p (hs p hp), h.2⟩

/-- `NOT` is the loosest prefix production -/
theorem openLvls_ge (e : Expr) : ∀ p ∈ openLvls e, notLvl ≤ p := by
  fun_induction openLvls e with
  | case1 => exact List.forall_mem_singleton.2 (not_le_unop .minus)
  | case2 op e h => exact List.forall_mem_singleton.2 (not_le_unop op)
  | case3 op e h ih => exact List.forall_mem_cons.2 ⟨not_le_unop op, ih⟩
  | case4 ty e ih => exact List.forall_mem_cons.2 ⟨not_le_typecast, ih⟩
  | case5 e ih => exact List.forall_mem_cons.2 ⟨not_le_detached, ih⟩
  | case6 => nofun

theorem if_lt_open (e : Expr) : ∀ p ∈ openLvls e, ifLaLvl < p :=
  fun p hp => Nat.lt_of_lt_of_le if_lt_not (openLvls_ge e p hp)

theorem bracket_le_unit (e : Expr) : bracketLvl ≤ unitLvl e := by
  cases e
  case index => exact Nat.le_refl _
  case path => exact bracket_le_dot
  all_goals exact bracket_le_top

theorem bare_facts (b : Expr) (h : bareBase b = true) :
    unitLvl b = topLvl ∧ openLvls b = [] ∧ idxCount b = 0 := by
  cases b <;> first | exact Bool.noConfusion h | exact ⟨rfl, rfl, rfl⟩

theorem length_ppSteps (ss : List String) : (ppSteps ss).length = 2 * ss.length := by
  induction ss with
  | nil => rfl
  | cons s ss ih => simp only [ppSteps, List.length_cons, ih]; omega

theorem length_le_needList (es : List Expr) : es.length ≤ needList es := by
  induction es with
  | nil => exact Nat.zero_le _
  | cons e es ih => simp only [needList, List.length_cons]; omega

theorem idxCount_add_two_le_need (e : Expr) : idxCount e + 2 ≤ need e := by
  cases e
  case index a idx =>
    have := length_le_needList idx
    show idx.length + 2 ≤ need a + needList idx + 4
    omega
  case path b s ss =>
    show ss.length + 1 + 2 ≤ need b + ss.length + 4
    omega
  all_goals exact Nat.le_add_left 2 _

/-- round trip of one expression in context: `parseE` reads `e` as the left operand and enters
    the continuation loop on `rest` with `f` units of fuel left.  On the way it has spent
    `idxCount e + 1`: one unit for the operand, one for each `[i]` / `.s` turn of the loop.
    Fuel bounds depth, not work: a call hands one unit less to each of its callees, so the
    sub-expressions of a production share what is left.  `need` adds their needs up, with the
    calls the production makes itself; that over-estimates, and keeps every side goal linear. -/
def Round (e : Expr) : Prop :=
  ∀ f m rest, need e ≤ f + (idxCount e + 1) → m ≤ unitLvl e → After (openLvls e) rest →
    parseE (f + (idxCount e + 1)) m (pp e ++ rest) = loop f m 0 e rest

theorem Round.closed {e : Expr} (h : Round e) {f m : Nat} {rest : List Tok} (hf : need e ≤ f)
    (hm : m ≤ unitLvl e) (ha : After (openLvls e) rest) (hl : LoopStops m rest) :
    parseE f m (pp e ++ rest) = some (e, rest) := by
  obtain ⟨k, rfl⟩ := Nat.exists_eq_add_of_le' (Nat.le_trans (idxCount_add_two_le_need e) hf)
  rw [← Nat.succ_add_eq_add_succ k (idxCount e + 1)] at hf ⊢
  rw [h (k + 1) m rest hf hm ha]
  exact hl k 0 e

theorem Round.stop {e : Expr} (h : Round e) {f m : Nat} {rest : List Tok} (hf : need e ≤ f)
    (hm : m ≤ unitLvl e) (hst : Stopper rest) : parseE f m (pp e ++ rest) = some (e, rest) :=
  h.closed hf hm (after_stopper hst _) (loopStops_of_stopper hst m)

theorem Round.last {e : Expr} (h : Round e) {f m : Nat} {rest : List Tok} (hf : need e ≤ f)
    (hm : m ≤ bracketLvl) :
    parseE f m (pp e ++ .p .rparen :: rest) = some (e, .p .rparen :: rest) :=
  h.stop hf (Nat.le_trans hm (bracket_le_unit e)) rfl

end EdbVerif.QL
