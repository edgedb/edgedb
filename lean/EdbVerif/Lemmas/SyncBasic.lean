/-
C17: `__sync__` and the acknowledgement callback act on a side slot by slot as
`x'.get σ = (p.at db σ).or (x.get σ)`; `preargs_at` says what is sent.
-/
import EdbVerif.Model.SyncSpec

namespace EdbVerif.Sync

theorem upd_same (st : State) (w : Nat) (ws : WState) : upd st w ws w = ws := by
  simp [upd]

theorem upd_other {st : State} {w : Nat} {ws : WState} {i : Nat} (h : i ≠ w) :
    upd st w ws i = st i := by
  simp [upd, h]

theorem setDb_same (m : Nat → Option Db3) (k : Nat) (v : Db3) : setDb m k v k = some v := by
  simp [setDb]

theorem setDb_other (m : Nat → Option Db3) (k : Nat) (v : Db3) (i : Nat) (h : i ≠ k) :
    setDb m k v i = m i := by
  simp [setDb, h]

/-- the part of a wire message that concerns slot `σ` when the request is for database `db` -/
def Parts.at (p : Parts) (db : Nat) : Slot → Option Tok
  | .schema d => if d = db then p.schema else none
  | .refl d => if d = db then p.refl else none
  | .dbcfg d => if d = db then p.dbcfg else none
  | .glob => p.glob
  | .sys => p.sys

theorem Parts.at_of_isEmpty (p : Parts) (db : Nat) (h : p.isEmpty = true) (σ : Slot) :
    p.at db σ = none := by
  simp only [Parts.isEmpty, Bool.and_eq_true, Option.isNone_iff_eq_none] at h
  cases σ <;> simp [Parts.at, h]

theorem viaMemo_faithful (memo : Tok → Tok) (h : MemoFaithful memo) (p : Parts) :
    p.viaMemo memo = p := by
  have : memo = id := funext h
  subst this
  cases p
  simp [Parts.viaMemo]

theorem or_agree {s b a : Option Tok} (h : ∀ x, b = some x → a = some x) (x : Tok)
    (hx : s.or b = some x) : s.or a = some x := by
  cases s with
  | none => exact h x hx
  | some t => exact hx

/-- `d`: the parts sent laid over the record held before -/
theorem get_of_stored {s s' : Side} {db : Nat} {p : Parts} {d : Db3}
    (hdbs : ∀ i, s'.dbs i = if i = db then some d else s.dbs i)
    (h1 : some d.schema = p.schema.or ((s.dbs db).map (·.schema)))
    (h2 : some d.refl = p.refl.or ((s.dbs db).map (·.refl)))
    (h3 : some d.dbcfg = p.dbcfg.or ((s.dbs db).map (·.dbcfg)))
    (hg : s'.glob = p.glob.getD s.glob) (hy : s'.sys = p.sys.getD s.sys) (σ : Slot) :
    s'.get σ = (p.at db σ).or (s.get σ) := by
  cases σ <;> simp only [Side.get, Parts.at, hdbs, hg, hy, Option.or_some]
  all_goals split
  · rename_i h; rw [h, ← h1]; rfl
  · rfl
  · rename_i h; rw [h, ← h2]; rfl
  · rfl
  · rename_i h; rw [h, ← h3]; rfl
  · rfl

/-- `if DBS.get(dbname) is not db: DBS = DBS.set(dbname, db)` stores the old record again -/
theorem stored_dbs (m : Nat → Option Db3) (db : Nat) (p : Parts) (d0 : Db3) (h : m db = some d0)
    (i : Nat) :
    (if p.schema.isSome || p.refl.isSome || p.dbcfg.isSome then
        setDb m db ⟨p.schema.getD d0.schema, p.refl.getD d0.refl, p.dbcfg.getD d0.dbcfg⟩ else m) i =
      if i = db then some ⟨p.schema.getD d0.schema, p.refl.getD d0.refl, p.dbcfg.getD d0.dbcfg⟩
      else m i := by
  split
  · rfl
  · rename_i hn
    simp only [Bool.or_eq_true, Option.isSome_iff_ne_none, not_or, Decidable.not_not] at hn
    split
    · rename_i hi; rw [hi, h, hn.1.1, hn.1.2, hn.2]; rfl
    · rfl

theorem wsync_spec (env : Env) (a : Side) (db : Nat) (p : Parts) :
    wsync env a db p = (a, none) ∨
    ∃ a' d, wsync env a db p = (a', some d) ∧ a'.dbs db = some d ∧ a'.last = a.last ∧
      ∀ σ, a'.get σ = (p.at db σ).or (a.get σ) := by
  unfold wsync
  split
  · split
    · rename_i s r c hs hr hc
      -- `split` on the `if` is slow here: name the condition and take its two values
      generalize (env.bad s || env.bad r || env.bad c || badO env p.glob || badO env p.sys) = bad
      cases bad
      · exact .inr ⟨_, _, rfl, setDb_same .., rfl, get_of_stored (fun _ => rfl) (by rw [hs]; rfl)
          (by rw [hr]; rfl) (by rw [hc]; rfl) rfl rfl⟩
      · exact .inl rfl
    · exact .inl rfl
  · rename_i d0 hd0
    generalize (badO env p.schema || badO env p.refl || badO env p.dbcfg || badO env p.glob ||
      badO env p.sys) = bad
    cases bad
    · have hdbs := stored_dbs a.dbs db p d0 hd0
      refine .inr ⟨_, _, rfl, (hdbs db).trans (if_pos rfl), rfl, get_of_stored hdbs ?_ ?_ ?_ rfl rfl⟩
      all_goals rw [hd0]; exact Option.or_some.symm
    · exact .inl rfl

theorem wsync_last (env : Env) (a : Side) (db : Nat) (p : Parts) :
    (wsync env a db p).1.last = a.last := by
  rcases wsync_spec env a db p with h | ⟨_, _, h, _, hl, _⟩
  · rw [h]
  · rw [h]; exact hl

theorem mem_slots (r : CReq) (σ : Slot) (t : Tok) :
    (σ, t) ∈ r.slots ↔ σ = .schema r.db ∧ t = r.schema ∨ σ = .refl r.db ∧ t = r.refl ∨
      σ = .glob ∧ t = r.glob ∨ σ = .dbcfg r.db ∧ t = r.dbcfg ∨ σ = .sys ∧ t = r.sys := by
  simp [CReq.slots]

theorem preargs_at (b : Side) (r : CReq) (σ : Slot) (t : Tok) (h : (σ, t) ∈ r.slots) :
    (preargs b r).at r.db σ = if b.dbs r.db ≠ none ∧ b.get σ = some t then none else some t := by
  rw [mem_slots] at h
  unfold preargs
  cases hb : b.dbs r.db <;> rcases h with ⟨rfl, rfl⟩ | ⟨rfl, rfl⟩ | ⟨rfl, rfl⟩ | ⟨rfl, rfl⟩ | ⟨rfl, rfl⟩ <;>
    simp [Parts.at, Side.get, hb]

theorem preargs_or_eq_some (b : Side) (r : CReq) (σ : Slot) (t : Tok) (h : (σ, t) ∈ r.slots)
    (x : Option Tok) :
    ((preargs b r).at r.db σ).or x = some t ↔ (b.dbs r.db ≠ none → b.get σ = some t → x = some t) := by
  rw [preargs_at b r σ t h]
  split
  · rename_i hc; exact ⟨fun hx _ _ => hx, fun hx => hx hc.1 hc.2⟩
  · rename_i hc; exact ⟨fun _ h1 h2 => absurd ⟨h1, h2⟩ hc, fun _ => rfl⟩

theorem at_none_or_mem (r : CReq) (p : Parts) (σ : Slot) :
    p.at r.db σ = none ∨ ∃ t, (σ, t) ∈ r.slots := by
  cases σ
  case glob => exact .inr ⟨r.glob, by simp [mem_slots]⟩
  case sys => exact .inr ⟨r.sys, by simp [mem_slots]⟩
  all_goals
    rename_i d
    by_cases h : d = r.db
    · subst h; exact .inr (by simp [mem_slots])
    · exact .inl (if_neg h)

theorem mem_slots_of_sent (b : Side) (r : CReq) (σ : Slot) (t : Tok)
    (h : (preargs b r).at r.db σ = some t) : (σ, t) ∈ r.slots := by
  rcases at_none_or_mem r (preargs b r) σ with h' | ⟨t', h'⟩
  · rw [h'] at h; cases h
  · rw [preargs_at b r σ t' h'] at h
    split at h <;> cases h
    exact h'

theorem withAck_defined (b : Side) (r : CReq) :
    ∃ b', withAck b r.db (preargs b r) = some b' := by
  unfold withAck
  split
  · exact ⟨_, rfl⟩
  · cases hb : b.dbs r.db with
    | none => simp [ack, preargs, hb]
    | some d => simp [ack, hb]

theorem withAck_spec {b b' : Side} {db : Nat} {p : Parts} (h : withAck b db p = some b') :
    (∀ σ, b'.get σ = (p.at db σ).or (b.get σ)) ∧ b'.last = b.last := by
  unfold withAck at h
  split at h
  · rename_i he
    cases h
    exact ⟨fun σ => by rw [Parts.at_of_isEmpty p db he]; rfl, rfl⟩
  · unfold ack at h
    split at h
    · split at h
      · rename_i hb _ _ _ _ _ s r g c y hs hr hg hc hy
        cases h
        exact ⟨get_of_stored (d := ⟨s, r, c⟩) (fun _ => rfl) (by rw [hs]; rfl) (by rw [hr]; rfl)
          (by rw [hc]; rfl) (by rw [hg]; rfl) (by rw [hy]; rfl), rfl⟩
      · cases h
    · rename_i d0 hd0
      cases h
      refine ⟨get_of_stored (stored_dbs b.dbs db p d0 hd0) ?_ ?_ ?_ rfl rfl, rfl⟩
      all_goals rw [hd0]; exact Option.or_some.symm

theorem withAck_last (b b' : Side) (db : Nat) (p : Parts)
    (h : withAck b db p = some b') : b'.last = b.last :=
  (withAck_spec h).2

theorem withAck_get {b b' : Side} {db : Nat} {p : Parts} (h : withAck b db p = some b') (σ : Slot) :
    b'.get σ = (p.at db σ).or (b.get σ) :=
  (withAck_spec h).1 σ

end EdbVerif.Sync
