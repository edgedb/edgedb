/-
C01 — EdgeQL text survives a print / re-parse round trip (expression core, token level).

Model: `EdbVerif.QL` (`Model/QL.lean`): `pp : Expr → List Tok` mirrors
`edb/edgeql/codegen.py::EdgeQLSourceGenerator` for the expression core, `parse : List Tok →
Option Expr` is a precedence-climbing parser driven by the table generated from
`edb/edgeql/parser/grammar/{precedence,expressions}.py` (`Gen/Prec.lean`).  Both are tied to the
real printer / tokenizer / LR parser by the differential run of `harness/props/c01.py`.

Reading guide.  `Safe e` (`Model/QLSpec.lean`, decidable) = the normal form the parser produces
(`WF e`) + the parenthesisation side conditions under which the printer's output denotes `e`
again.  The side conditions are NOT implied by `WF`: the real printer writes prefix operators
(`-x`, `NOT (x)`, `<T>x`, `DETACHED x`, folded negative literals) and `(arg)[i]` without enclosing
parentheses, so e.g. `(-1) ^ x` is printed as `(-1 ^ x)`, which denotes `-(1 ^ x)`.  The model
also contains `Path`s with outbound pointer steps (`base.s.t`, `Expr.path`): `visit_Path` writes
`base.s` bare or `(base).s` and never parenthesises the whole path, so `DETACHED (x.y)` is printed
as `DETACHED x.y`, which denotes `(DETACHED x).y` (`P_DETACHED` is above `P_DOT`); the side
condition `detachedLvl ≤ unitLvl e` of `Safe` excludes exactly that.  Still outside the model:
slices, named tuples / named args, `@prop` / `.<back` / `[IS T]` / `.0` steps, partial paths.
The `…_counterexample` theorems below prove that for the model; the harness replays the same
inputs on the real printer + parser (they fail there in the same way).
-/
import EdbVerif.Lemmas.QLRound
import EdbVerif.Lemmas.QLWf

namespace EdbVerif.C01
open EdbVerif.QL EdbVerif.QLLex EdbVerif.Gen.Prec

/-- **Round trip.**  For every expression in parser normal form that satisfies the printer's
    parenthesisation side conditions, parsing the printed tokens gives the expression back. -/
theorem C01_roundtrip (e : Expr) (h : Safe e) : parse (pp e) = some e :=
  QL.parse_pp e h

/-- **Print idempotence**: printing the re-parsed expression gives the same tokens. -/
theorem C01_idempotent (e : Expr) (h : Safe e) : (parse (pp e)).map pp = some (pp e) := by
  rw [QL.parse_pp e h]; rfl

/-- **Normal form**: every tree the parser returns is in parser normal form (no unary minus over a
    numeric constant, flattened non-empty `Indirection`, flattened `Path`, atoms are atom tokens) — so `WF` is exactly
    the shape of ASTs the printer is ever handed by the parser. -/
theorem C01_parse_wf (ts : List Tok) (e : Expr) (h : parse ts = some e) : WF e :=
  QL.parse_wf ts e h

/-- **The property, for token texts**: whenever the parser accepts a token sequence and the resulting
    tree meets the printer's side conditions, the printed form is accepted again, denotes the same
    tree, and printing it again gives the same tokens. -/
theorem C01_tokens (ts : List Tok) (e : Expr) (_h : parse ts = some e) (hs : Safe e) :
    parse (pp e) = some e ∧ (parse (pp e)).map pp = some (pp e) :=
  ⟨C01_roundtrip e hs, C01_idempotent e hs⟩

/-- The statement without the side conditions (`∀ e, WF e → parse (pp e) = some e`) is FALSE of
    the printer: the folded negative literal `-1` as left operand of `^` is printed without
    parentheses, `(-1 ^ x)`, and re-parses as `-(1 ^ x)`.
    Real code: `select (-1) ^ x` prints as `select (-1 ^ x)`. -/
theorem C01_roundtrip_counterexample_neg_pow :
    let e := Expr.binop .o_circumflex (.num 1 .int "1") (.name "x")
    WF e ∧ parse (pp e) = some (.unop .minus (.binop .o_circumflex (.num 0 .int "1") (.name "x")))
      ∧ parse (pp e) ≠ some e :=
  ⟨rfl, eq_and_ne rfl nofun⟩

/-- `(NOT a) = b` is printed as `(NOT (a) = b)`, which denotes `NOT (a = b)`.
    Real code: `select (not a) = b`. -/
theorem C01_roundtrip_counterexample_not_eq :
    let e := Expr.binop .o_equals (.unop .not (.name "a")) (.name "b")
    WF e ∧ parse (pp e) = some (.unop .not (.binop .o_equals (.name "a") (.name "b")))
      ∧ parse (pp e) ≠ some e :=
  ⟨rfl, eq_and_ne rfl nofun⟩

/-- `DETACHED (x[1])` is printed as `DETACHED (x)[1]`, which denotes `(DETACHED x)[1]`
    (`DETACHED` binds tighter than `[`).  Real code: `select detached (x[1])`. -/
theorem C01_roundtrip_counterexample_detached_index :
    let e := Expr.detached (.index (.name "x") [.num 0 .int "1"])
    WF e ∧ parse (pp e) = some (.index (.detached (.name "x")) [.num 0 .int "1"])
      ∧ parse (pp e) ≠ some e :=
  ⟨rfl, eq_and_ne rfl nofun⟩

/-- `DETACHED (x.y)` is printed as `DETACHED x.y`, which denotes `(DETACHED x).y`
    (`DETACHED` binds tighter than `.`; `visit_Path` never parenthesises the path).
    Real code: `select detached (x.y)`. -/
theorem C01_roundtrip_counterexample_detached_path :
    let e := Expr.detached (.path (.name "x") "y" [])
    WF e ∧ parse (pp e) = some (.path (.detached (.name "x")) "y" [])
      ∧ parse (pp e) ≠ some e :=
  ⟨rfl, eq_and_ne rfl nofun⟩

/-! ### Non-vacuity: concrete non-trivial expressions meeting `Safe` -/

/-- `(f(-1, <T>x) + (a IF NOT (b) ELSE [1, 2][0])) IS NOT T`-like nesting -/
def ex1 : Expr :=
  .isop true
    (.binop .o_plus
      (.call "f" [.num 1 .int "1", .cast "T" (.name "x")])
      (.ifelse true (.unop .not (.name "b")) (.name "a")
        (.index (.array [.num 0 .int "1", .num 0 .int "2"]) [.num 0 .int "0"])))
    "T"

example : Safe ex1 := by decide
example : parse (pp ex1) = some ex1 := C01_roundtrip ex1 (by decide)

/-- prefix operators are fine as RIGHT operands and under looser operators on the left -/
def ex2 : Expr :=
  .binop .o_and (.unop .not (.name "a"))
    (.binop .o_circumflex (.name "x") (.unop .minus (.cast "T" (.num 2 .float "1.5"))))

example : Safe ex2 := by decide

/-- paths: `-(((f(1)).a.b)[x.y]).c + <T>{1}.d`: bare and parenthesised bases, several steps, a path
    as index / under an index, under prefix operators below `.` -/
def ex3 : Expr :=
  .binop .o_plus
    (.unop .minus
      (.path (.index (.path (.call "f" [.num 0 .int "1"]) "a" ["b"]) [.path (.name "x") "y" []]) "c" []))
    (.cast "T" (.path (.set [.num 0 .int "1"]) "d" []))

example : Safe ex3 := by decide
example : parse (pp ex3) = some ex3 := C01_roundtrip ex3 (by decide)
/-- `DETACHED` over a path is the one prefix operator that is NOT safe -/
example : ¬ Safe (.detached (.path (.name "x") "y" [])) := by decide

end EdbVerif.C01
