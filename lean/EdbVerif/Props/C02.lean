/-
C02 — A computed migration turns the old schema into exactly the new one.

Two layers (see `Model/Schema.lean`):

* the planner `planObjs`, a line-by-line model of `edb/schema/delta.py::delta_objects`
  (tied to the real function by the level-1 differential run), for which the
  *partition* theorems hold for EVERY similarity function, tie-break, rename
  table, guidance and inheritance order;
* the flat schema algebra (`apply`, `diff`, `migrate`), an abstraction of
  `delta_schemas` + `linearize_delta` + `Command.apply`, for which
  `applyAll A (diff sim A B)` is `B` as a finite map (`Same`; the association
  list may come out in another order) for every similarity function that is
  sound at 1.0 (`SimSound`: what `Object.compare` guarantees by construction).
-/
import EdbVerif.Lemmas.SchemaDiff

namespace EdbVerif.C02
open EdbVerif.Schema

/-- **Planner completeness, new side.**  Whatever `compare` returns, every new
    object is exactly one of: created, the target of an alter, identical to an
    old object, or suppressed (creation banned by the guidance / its name is the
    target of a rename the context has already decided on). -/
theorem diff_partition_new (e : Env) (old new : List String) (p : Plan)
    (h : planObjs e old new = .ok p) (x : String) (hx : x ∈ new) :
    ExactlyOne4 (Created p x) (AlteredTo p x) (IdenticalNew p x) (SuppressedNew e old p x) :=
  exactlyOne4_of_matching (plan_matched_nodup h).1 ((createdX_spec h).1 x) hx

/-- **Planner completeness, old side.** -/
theorem diff_partition_old (e : Env) (old new : List String) (p : Plan)
    (h : planObjs e old new = .ok p) (y : String) (hy : y ∈ old) :
    ExactlyOne4 (Deleted p y) (AlteredFrom p y) (IdenticalOld p y) (SuppressedOld e old p y) :=
  exactlyOne4_of_matching (plan_matched_nodup h).2 ((deletedY_spec h).1 y) hy

/-- The matching is injective both ways, only pairs that `delta_objects`
    compares are ever matched (same name, or new-only name with old-only name),
    and nothing is created or deleted twice. -/
theorem diff_matching (e : Env) (old new : List String) (p : Plan)
    (h : planObjs e old new = .ok p) :
    p.matchedX.Nodup ∧ p.matchedY.Nodup ∧ (∀ m ∈ p.matched, Candidate old new m.x m.y) ∧
    (new.Nodup → p.createdX.Nodup) ∧ (old.Nodup → p.deletedY.Nodup) :=
  ⟨(plan_matched_nodup h).1, (plan_matched_nodup h).2, plan_matched_candidate h,
   (createdX_spec h).2, (deletedY_spec h).2⟩

/-- Without guidance and pre-decided renames (the first pass of
    `delta_schemas`) nothing is suppressed: created / altered-to / identical
    is a partition of the new objects, deleted / altered-from / identical of
    the old ones. -/
theorem diff_partition (e : Env) (old new : List String) (p : Plan)
    (hg : e.guidance = none) (hr : e.renames = [])
    (h : planObjs e old new = .ok p) :
    (∀ x ∈ new, ExactlyOne3 (Created p x) (AlteredTo p x) (IdenticalNew p x)) ∧
    (∀ y ∈ old, ExactlyOne3 (Deleted p y) (AlteredFrom p y) (IdenticalOld p y)) :=
  ⟨fun x hx => (diff_partition_new e old new p h x hx).drop (not_suppressedNew hg hr x),
   fun y hy => (diff_partition_old e old new p h y hy).drop (not_suppressedOld hg hr y)⟩

/-- The thresholds: a pair is left alone only at similarity 1.0; without
    guidance and pre-decided rename it is altered only strictly between 0.6 and 1.0. -/
theorem diff_thresholds (e : Env) (old new : List String) (p : Plan)
    (h : planObjs e old new = .ok p) (m : Match) (hm : m ∈ p.matched) :
    (m.conf = none → effSim e m.x m.y = 1000) ∧
    (m.conf.isSome = true → e.guidance = none → m.x ∉ renamesX e.renames old →
        600 < e.sim m.y m.x ∧ e.sim m.y m.x < 1000) :=
  ⟨matched_none_sim h hm, matched_some_sim h hm⟩

/-- **C02.**  For valid schemas `A`, `B` and any similarity function that is
    sound at 1.0, a computed migration — whichever plan the matching picked —
    applies without error and ends in `B` as a finite map.  (`diff` fails rather than
    produce a wrong plan when the commands cannot be ordered or an untouched
    object refers to a dropped one; the statement is about accepted migrations,
    as the property is.) -/
theorem C02_apply_diff (sim : Sim) (A B : Schema) (hA : Valid A) (hB : Valid B) (hs : SimSound sim)
    (cmds : List Cmd) (h : diff sim A B = .ok cmds) :
    ∃ s, applyAll A cmds = .ok s ∧ Same s B :=
  apply_diff hA hB hs h

/-- The scheduling core of C02, usable on its own: ANY order of a correct set
    of create/alter/delete commands that respects `needs` works. -/
theorem C02_any_order (A' B : Schema) (cmds order : List Cmd) (hS : Sched A' B cmds)
    (hnd : cmds.Nodup) (hp : order.Perm cmds) (hdep : DepClosed A' cmds order) :
    ∃ s, applyAll A' order = .ok s ∧ Same s B :=
  sched_apply hS hnd hp hdep

/-
Not proved here (stays at level 2, see notes/C02.md):
  theorem C02_text : applyAll A (parseCmds (printCmds (diff sim A B))) = .ok B
needs the print/parse round-trip of C03, which is not part of this package;
the DDL-text replay is checked on the real engine by the differential run.
-/

/-! ### Non-vacuity -/

/-- similarity 1.0 iff equal after renames, 0.8 for the same name, 0.7 for the same payload -/
def exSim : Sim := fun ctx y x =>
  if renameObj ctx.renames y = x ∧ y.name = x.name then 1000
  else if y.name = x.name then 800 else if y.data = x.data then 700 else 300

theorem exSim_sound : SimSound exSim := by
  intro ctx y x _ h
  by_cases hc : renameObj ctx.renames y = x ∧ y.name = x.name
  · exact hc
  · rw [exSim, if_neg hc] at h
    split at h
    · cases h
    · split at h <;> cases h

/-- class 1 = types, class 2 = pointers (referring to their source type) -/
def exA : Schema :=
  [⟨1, "Foo", 1, []⟩, ⟨2, "name", 5, [(1, "Foo")]⟩, ⟨1, "Old", 2, []⟩, ⟨2, "o", 1, [(1, "Old")]⟩]
def exB : Schema :=
  [⟨1, "Foo2", 1, []⟩, ⟨2, "name", 6, [(1, "Foo2")]⟩, ⟨2, "age", 7, [(1, "Foo2")]⟩]

example : Valid exA ∧ Valid exB :=
  ⟨⟨by decide +kernel, by decide +kernel⟩, ⟨by decide +kernel, by decide +kernel⟩⟩

/-- rename + create + alter + two ordered deletes -/
example : (diff exSim exA exB).toOption = some
    [.rename 1 "Foo" "Foo2", .delete 2 "o", .delete 1 "Old",
     .create ⟨2, "age", 7, [(1, "Foo2")]⟩, .alter 2 "name" 6 [(1, "Foo2")]] := by decide +kernel

example : (migrate exSim exA exB).toOption = some exB := by decide +kernel

/-- the planner on a tie: `b` and `c` both at 0.7 against `d` — the name order decides -/
example : (planObjs { sim := fun y x => if y = "a" ∧ x = "a" then 1000 else 700 } ["a", "b", "c"] ["a", "d"]).toOption
    = some { creates := [], matched := [⟨"a", "a", none⟩, ⟨"d", "b", some 700⟩], deletes := [("c", 700)] } := by
  decide +kernel

end EdbVerif.C02
