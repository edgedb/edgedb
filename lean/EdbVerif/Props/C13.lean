/-
C13 — Generated SQL is well-scoped, parameter-consistent and deterministic.

This property is decided by TRANSLATION VALIDATION: the compiler
(`edb/pgsql/compiler/*`, ~15 kloc) is not modelled.  What is proved here is the
correctness of the validator and of the two small deterministic helpers:

* `check_sound` / `check_complete`: the executable scope checker `check` of
  `Model/PgAst.lean` accepts a statement exactly when it is `WellScoped`, the
  declarative statement of PostgreSQL's scoping rules in `Model/PgAstSpec.lean`
  (rules R1–R9 there: level-by-level lookup, LATERAL visibility, JOIN ON scope,
  alias uniqueness, WITH / WITH RECURSIVE, exported column names, set
  operations, DML targets and `excluded`).  The harness exports every SQL tree
  the real compiler emits and runs it through `check`.
* `argmap_*`: the numbering `populate_argmap` produces.
* `alias_fresh`: `AliasGenerator.get` never returns the same alias twice.

The specification itself (the rules as stated) is trusted: no PostgreSQL server
exists in the sandbox.  Hand-written accept/reject cases from the PostgreSQL
documentation are replayed against `check` on every run (harness/props/c13.py)
and a few are kept below as kernel-checked `example`s.
-/
import EdbVerif.Lemmas.PgScope
import EdbVerif.Lemmas.ArgmapPg

namespace EdbVerif.C13
open EdbVerif.PgAst EdbVerif.Argmap

/-! ### The scope checker -/

/-- Soundness: whatever `check` accepts is well-scoped. -/
theorem check_sound (q : Query) (h : check q = true) : WellScoped q :=
  (PgAst.check_iff q).1 h

/-- Completeness: `check` rejects nothing that is well-scoped (so a rejection
    of an emitted statement is a real scoping violation under the stated rules). -/
theorem check_complete (q : Query) (h : WellScoped q) : check q = true :=
  (PgAst.check_iff q).2 h

/-- The same for a sub-query checked in an arbitrary environment. -/
theorem check_query_iff (env : Env) (q : Query) : checkQuery env q = true ↔ WSQuery env q :=
  PgAst.checkQuery_iff env q

/-- Name resolution is decided level by level exactly as the declarative
    relation says (R1). -/
theorem resolves_iff (levels : List Level) (parts : List Name) :
    resolves levels parts = true ↔ Resolves levels parts :=
  PgAst.resolves_iff levels parts

/-! ### populate_argmap -/

/-- The assignment sequence of `populate_argmap`: the processed parameters
    (ordinary ones first, `__edb_arg_*` extras second) numbered from (1, 1),
    then the globals from the next free physical index. -/
theorem argmap_shape (np : Bool) (params : List Param) (globals : List Global) :
    assigns np params globals =
      number (processed np params) 1 1
        ++ globalPass globals (1 + realCount (processed np params)) := by
  simp only [assigns, paramPass_eq, processed, number_append, realCount_append, Nat.add_assoc]

/-- Physical parameter indexes are exactly `1..n`, in order and without gaps:
    the non-tuple parameters take `1..R` in processing order, the globals (each
    followed directly by its `present__` companion, if any) take `R+1..R+G`. -/
theorem argmap_contig (np : Bool) (params : List Param) (globals : List Global) :
    let ps := processed np params
    ((ps.zip (number ps 1 1)).filter (fun x => !x.1.hasSub)).map (·.2.2.index)
        ++ (globalPass globals (1 + realCount ps)).map (·.2.index)
      = List.range' 1 (realCount ps + globalSlots globals) := by
  intro ps
  rw [Argmap.number_phys, Argmap.globalPass_index, ← List.range'_append_1]

/-- A tuple parameter does not consume an index: every parameter sits at
    `1 +` the number of non-tuple parameters before it (so a tuple parameter
    shares the index of the next physical slot, its first sub-parameter). -/
theorem argmap_index_closed (ps : List Param) (i : Nat) (h : i < (number ps 1 1).length) :
    ((number ps 1 1)[i]).2.index = 1 + realCount (ps.take i) :=
  (Argmap.number_getElem ps 1 1 i h).1

/-- Logical indexes skip sub-parameters: over the parameters that are not
    sub-parameters they are exactly `1..m` in order … -/
theorem argmap_logical (ps : List Param) :
    ((ps.zip (number ps 1 1)).filter (fun x => !isSubParam x.1.name)).map (·.2.2.logical)
      = (List.range' 1 (logicalCount ps)).map Int.ofNat :=
  Argmap.number_logical ps 1 1

/-- … every entry has logical index `1 +` the number of non-sub-parameters
    before it … -/
theorem argmap_logical_closed (ps : List Param) (i : Nat) (h : i < (number ps 1 1).length) :
    ((number ps 1 1)[i]).2.logical = ((1 + logicalCount (ps.take i) : Nat) : Int) :=
  (Argmap.number_getElem ps 1 1 i h).2

/-- … and globals have logical index -1. -/
theorem argmap_globals_logical (gs : List Global) (phys : Nat) :
    ∀ kv ∈ globalPass gs phys, kv.2.logical = -1 := by
  fun_induction globalPass gs phys with
  | case1 => nofun
  | case2 _ _ _ _ _ ih => exact List.forall_mem_cons.2 ⟨rfl, List.forall_mem_cons.2 ⟨rfl, ih⟩⟩
  | case3 _ _ _ _ _ ih => exact List.forall_mem_cons.2 ⟨rfl, ih⟩

/-- Keys are written in processing order; when they are pairwise distinct the
    resulting dict is the assignment sequence itself (no entry is overwritten,
    hence the numbering above is the numbering of the dict). -/
theorem argmap_dict (np : Bool) (params : List Param) (globals : List Global)
    (h : ((processed np params).map (·.name) ++ globalKeys globals).Nodup) :
    populateArgmap np params globals = assigns np params globals := by
  apply Argmap.populateArgmap_of_nodup
  rw [argmap_shape, List.map_append, Argmap.number_keys, Argmap.globalPass_keys]
  exact h

/-! ### AliasGenerator -/

/-- Successive `AliasGenerator.get` results are pairwise distinct, from any
    generator state and for any hints — including hints that already end in
    `~digits`, contain `~`, are empty, or end in a newline: the alias is
    `key ++ "~" ++ decimal(counter[key])`, the decimal part contains no `~`, so
    the last `~` splits it uniquely and the per-key counter only grows. -/
theorem alias_fresh (cs : Counts) (hints : List (List Char)) : (aliasRun cs hints).Nodup := by
  induction hints generalizing cs with
  | nil => exact List.nodup_nil
  | cons h hs ih =>
    refine List.nodup_cons.2 ⟨fun hmem => ?_, ih _⟩
    obtain ⟨k, n, heq, hlt⟩ := aliasRun_form hs _ _ hmem
    rw [aliasGet_eq] at heq hlt
    obtain ⟨rfl, rfl⟩ := aliasOf_inj heq
    rw [Counts.get_set, if_pos rfl] at hlt
    exact Nat.lt_irrefl _ hlt

/-- An alias determines the (normalised hint, counter) pair it was built from. -/
theorem alias_inj {k k' : List Char} {n n' : Nat} (h : aliasOf k n = aliasOf k' n') :
    k = k' ∧ n = n' :=
  Argmap.aliasOf_inj h

/-- FINDING: freshness is FALSE of the generator the SQL compiler actually uses
    (`edb/pgsql/compiler/aliases.py`: `edgedb_name_to_pg_name(super().get(hint))`).
    An alias longer than `MAX_NAME_LENGTH` = 51 is replaced by
    `base64(md5(alias)) + ':' + alias[-28:]`, which still ends in `~1`; when that
    shortened alias is later used as a hint (the compiler does this:
    `env.aliases.get(rel.name)`), the suffix is stripped, the counter of the
    49-character key starts at 1, and the very same alias comes back.  Holds for
    every 22-character digest function and every hint longer than 51 characters
    without a `~digits` suffix.  The harness replays the witness `'x' * 60` on the
    real class (key `alias-collision-pg:witness`). -/
theorem alias_fresh_pg_counterexample (hash : List Char → List Char)
    (hlen : ∀ s, (hash s).length = 22) (h : List Char) (hlong : maxNameLength < h.length)
    (hkey : hintKey h = h) :
    ¬ (pgAliasRun hash [] [h, (pgAliasRun hash [] [h]).headD []]).Nodup := by
  rw [Argmap.pgAlias_collision hash hlen h hlong hkey]
  simp

/-- the hypotheses are satisfiable: the witness used by the harness -/
example : maxNameLength < (List.replicate 60 'x').length ∧
    hintKey (List.replicate 60 'x') = List.replicate 60 'x' := by decide +kernel

/-! ### Non-vacuity: concrete statements, and mutants that are rejected -/

/-- `SELECT q.y FROM s.t AS a, LATERAL (SELECT a.x AS y) AS q` -/
def exLateral (lateral : Bool) : Query :=
  .select [.mk none (.col ["q", "y"])]
    [.rel (some "s") "t" (some "a") [] none,
     .subq lateral (.select [.mk (some "y") (.col ["a", "x"])] [] [] [] []) "q" []] [] [] []

example : check (exLateral true) = true := by decide +kernel
/-- K: `include_rvar` dropping LATERAL — the same tree without the flag is rejected. -/
example : check (exLateral false) = false := by decide
example : WellScoped (exLateral true) := check_sound _ (by decide +kernel)
example : ¬ WellScoped (exLateral false) := fun h =>
  absurd (check_complete _ h) (by decide)

/-- K: `get_path_var` returning a column of an rvar that is not in the FROM list. -/
example : check (.select [.mk none (.col ["b", "x"])] [.rel (some "s") "t" (some "a") [] none] [] [] [])
    = false := by decide

/-- a column that the sub-select does not export -/
example : check (.select [.mk none (.col ["q", "z"])]
    [.subq false (.select [.mk (some "y") .leaf] [] [] [] []) "q" []] [] [] []) = false := by decide +kernel

/-- `relctx.unpack_var`: `FROM p, ROWS FROM (unnest(p.arr) AS (_t0, _t1)) u1,
    ROWS FROM (unnest(ARRAY[_t1]) AS (_t2, _t3)) u2` — the inner unnest uses the column `_t1`
    that the outer one defines; `swap` puts the inner one first. -/
def exUnpack (swap : Bool) : Query :=
  let p := FromItem.subq false (.select [.mk (some "arr") .leaf] [] [] [] []) "p" []
  let u1 := FromItem.func false [.node [.col ["p", "arr"]]] "u1" (some ["_t0", "_t1"])
  let u2 := FromItem.func false [.node [.col ["_t1"]]] "u2" (some ["_t2", "_t3"])
  .select [.mk none (.col ["_t0"]), .mk none (.col ["_t3"])]
    (if swap then [p, u2, u1] else [p, u1, u2]) [] [] []

example : check (exUnpack false) = true := by decide +kernel
/-- K: `qry.from_clause.insert(0, …)` → `append(…)` in `unpack_var`: a function in FROM is implicitly
    LATERAL but sees PRECEDING items only. -/
example : check (exUnpack true) = false := by decide +kernel
example : ¬ WellScoped (exUnpack true) := fun h =>
  absurd (check_complete _ h) (by decide +kernel)

/-- `WITH c1 AS (SELECT $1 AS v), c2 AS (SELECT k.v AS w FROM c1 AS k) SELECT c2.w FROM c2 LIMIT $2` -/
def exCtes (swap : Bool) : Query :=
  let c1 := Cte.mk "c1" [] (.select [.mk (some "v") (.param 1)] [] [] [] [])
  let c2 := Cte.mk "c2" [] (.select [.mk (some "w") (.col ["k", "v"])] [.cref "c1" (some "k") []] [] [] [])
  .withq false (if swap then [c2, c1] else [c1, c2])
    (.select [.mk none (.col ["c2", "w"])] [.cref "c2" none []] [] [] [.param 2])

example : check (exCtes false) = true := by decide +kernel
/-- K: CTE referenced before its definition. -/
example : check (exCtes true) = false := by decide
example : paramsQuery (exCtes false) = [1, 2] := by decide

/-- `INSERT INTO s.t AS a VALUES (…) ON CONFLICT (k) DO UPDATE SET v = excluded.v RETURNING a.k` -/
example : check (.insert (some "s") "t" (some "a") (some ["k", "v"]) (.values 1 [.leaf]) [.col ["k"]]
    [.col ["excluded", "v"]] [.mk none (.col ["a", "k"])]) = true := by decide +kernel
example : check (.insert (some "s") "t" (some "a") (some ["k", "v"]) (.values 1 [.leaf]) [] []
    [.mk none (.col ["excluded", "k"])]) = false := by decide +kernel
/-- a column the target table does not have (known catalog columns) -/
example : check (.insert (some "s") "t" (some "a") (some ["k", "v"]) (.values 1 [.leaf]) [] []
    [.mk none (.col ["a", "w"])]) = false := by decide +kernel

/-- argmap of `select (<optional str>$x, <tuple<…>>$z)` : x, z (tuple), two sub-parameters, one
    global with a `present__` companion -/
example :
    populateArgmap false
      [⟨"x".toList, false, false⟩, ⟨"z".toList, true, true⟩,
       ⟨"__edb_decoded_z_0__".toList, true, false⟩, ⟨"__edb_decoded_z_1__".toList, true, false⟩]
      [⟨"g".toList, false, true⟩]
    = [("x".toList, ⟨1, 1, false⟩), ("z".toList, ⟨2, 2, true⟩),
       ("__edb_decoded_z_0__".toList, ⟨2, 3, true⟩), ("__edb_decoded_z_1__".toList, ⟨3, 3, true⟩),
       ("g".toList, ⟨4, -1, false⟩), ("gpresent__".toList, ⟨5, -1, true⟩)] := by
  -- a string literal is `String.ofList` of its characters: rewritten so, the kernel gets the character lists
  -- instead of decoding the bytes of each string, the dearer part of this evaluation
  repeat rw [String.toList_ofList]
  decide +kernel

/-- hints that already carry a `~digits` suffix, twice over -/
example : aliasRun [] ["a".toList, "a~1".toList, "a~1~2".toList, "a~1~1".toList, [], "v~7".toList]
    = ["a~1".toList, "a~2".toList, "a~1~1".toList, "a~1~2".toList, "v~1".toList, "v~2".toList] := by
  decide +kernel

end EdbVerif.C13
