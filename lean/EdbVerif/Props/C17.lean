/-
C17 — Compiler workers always compile against the caller's current state.

Property theorems about `EdbVerif.Sync`, the model of the delta-sync protocol
between `edb/server/compiler_pool/pool.py` (server: belief per worker,
`_compute_compile_preargs`, `sync_worker_state_cb`, `BaseWorker.call`,
`compile`, `compile_in_tx`) and `edb/server/compiler_pool/worker.py` (worker:
`__sync__`, `compile`, `compile_in_tx`) — the code AFTER the repairs
2709780 (callback merges with `old if new is None else new`), 03eafed
(`__sync__` unpickles everything before installing anything), ae526a3
(`LAST_STATE` assigned after pickling; the pool forgets `_last_pickled_state`
when `worker.call` raises) and 3499a3b (a request that `worker_proc.worker` /
`handle_client_call` cannot unpickle is answered with a `FailedStateSync`).  Helper lemmas and proofs are in
`EdbVerif/Lemmas/Sync*.lean`; the pre-repair transitions survive in
`Model/SyncBuggy.lean` for the `C17_repaired_…` theorems only.

Reading guide.  Values are identity tokens; `env.bad t` says that the object
behind `t` cannot be unpickled by the worker.  A *slot* is one of the places a
worker keeps a part (schema / reflection cache / config of a database, global
schema, system config); `ws.bel.get σ` is what the server believes worker `ws`
holds in `σ`, `ws.act.get σ` what it holds.  `exec env (initState init) pre`
is the state after the history `pre` started from workers initialised with
`init`; which worker serves a request is part of the request, so every
statement holds for every scheduling decision of the pool.  Histories contain
falsy values, sync failures at every failure point, compiler errors (with and
without in-place mutation of the transaction state), unpicklable compiler
states and unserialisable results, unless a hypothesis says otherwise.

Outcome.  `C17_intx` holds at full strength (given the dbview invariant that a
transaction passes its pickled state).  `C17_used` and `C17_belief` hold for
every history without a *status 2* reply ("could not serialize result in
worker subprocess": the worker has synced, but `BaseWorker.call` gets neither
a result nor an exception object and does not acknowledge) — that defect is
not repaired; the theorems carrying that hypothesis are named `…_partial`, the
full statements are refuted by `…_counterexample_status2`.  Independently,
`C17_used_noreturn` shows that even then nothing wrong is compiled as long as
identities never come back, and `C17_used_exact` gives the exact condition.
-/
import EdbVerif.Lemmas.SyncGhost
import EdbVerif.Lemmas.SyncMTThm
import EdbVerif.Model.SyncBuggy

namespace EdbVerif.C17
open EdbVerif.Sync

/-! ## C17_used — the compiler receives what the caller supplied -/

/-- **Exact condition.**  Whatever happened before: if a `compile` request
    reaches the worker-side compiler, the 5-tuple the compiler receives is the
    5-tuple the caller supplied **iff** the request is `Safe`: no part that
    the server elides (belief `is` supplied) is held differently by the
    worker.  (When the belief does not know the database everything is sent
    and the request is always safe.) -/
theorem C17_used_exact (env : Env) (st : State) (r : CReq) (u : Used)
    (h : (stepCompile env st r).2.used = some u) : u = r.supplied ↔ Safe (st r.w) r := by
  obtain ⟨_, _, _, hf | ⟨_, hr⟩⟩ := stepCompile_spec env st r
  · rw [hf.used] at h; cases h
  · rw [hr.used] at h; cases h; exact hr.safe

/-- **C17_used** (partial: one hypothesis).  If no earlier `compile` request
    ended with status 2, every `compile` request is served with exactly the
    five parts it supplied — however identities are re-used, with falsy values
    and sync failures at every failure point before it.

    Full statement (FALSE, see `C17_used_counterexample_status2`):
    `∀ env init pre r, (stepCompile env (exec env (initState init) pre) r).2.usedSupplied r`.
    Missing: `BaseWorker.call` cannot acknowledge after status 2. -/
theorem C17_used_partial (env : Env) (init : Side) (pre : List Req) (r : CReq)
    (hl : NoStatus2 pre) :
    (stepCompile env (exec env (initState init) pre) r).2.usedSupplied r :=
  fun u hu => (C17_used_exact env _ r u hu).2 fun _ p _ =>
    agreeAt_exec env p.1 pre _ (agreeAt_init init p.1) hl r.w p.2

/-- **C17_used when identities never come back.**  In every history — status 2
    replies included — in which no request supplies, for a slot, an identity
    that an earlier request had already replaced by another one (`NoReturn`),
    every `compile` request is served with exactly the five parts it supplied:
    a stale belief only causes harmless re-sends. -/
theorem C17_used_noreturn (env : Env) (init : Side) (pre : List Req) (r : CReq)
    (h : NoReturn init (pre ++ [.compile r])) :
    (stepCompile env (exec env (initState init) pre) r).2.usedSupplied r := by
  obtain ⟨g', hi, hq⟩ := noReturn_exec env pre _ _ (ginv_init init) _ h
  exact fun u hu => (C17_used_exact env _ r u hu).2 (safe_of_ginv g' _ r (hi r.w) hq.1)

/-- `compile_in_tx` (partial): whenever the call (re)sets the root user schema
    of the transaction's compiler state, it sets it to the supplied one — also
    when that is an old schema identity, the normal case
    (`_in_tx_root_user_schema_pickle`) — provided no earlier `compile` ended
    with status 2.

    Full statement (FALSE, see `C17_used_tx_counterexample_status2`): the same
    without `NoStatus2 pre`. -/
theorem C17_used_tx_partial (env : Env) (init : Side) (pre : List Req) (r : TReq)
    (hl : NoStatus2 pre) :
    (stepTx env (exec env (initState init) pre) r).2.usedRoot r :=
  usedRoot_of_agree env _ r (agreeAt_exec env _ pre _ (agreeAt_init init _) hl r.w _)

/-- … or provided identities never come back (which here also demands that the
    transaction's root schema has not been superseded). -/
theorem C17_used_tx_noreturn (env : Env) (init : Side) (pre : List Req) (r : TReq)
    (h : NoReturn init (pre ++ [.tx r])) :
    (stepTx env (exec env (initState init) pre) r).2.usedRoot r := by
  obtain ⟨g', hi, hq⟩ := noReturn_exec env pre _ _ (ginv_init init) _ h
  exact usedRoot_of_agree env _ r fun hb => (hi r.w _ _ hb).1.resolve_right hq.1

/-! ## C17_belief — "belief says x ⇒ the worker holds x" -/

/-- **C17_belief** (partial: one hypothesis).  After every history without a
    status 2 reply, for every worker and every slot: what the server believes
    the worker holds is what it holds.

    Full statement (FALSE, see `C17_belief_counterexample_status2`):
    `∀ env init h w, Agree (exec env (initState init) h w)`. -/
theorem C17_belief_partial (env : Env) (init : Side) (h : List Req) (hl : NoStatus2 h) (w : Nat) :
    Agree (exec env (initState init) h w) :=
  fun σ => agreeAt_exec env σ h _ (agreeAt_init init σ) hl w

/-- **Second sentence of the property, at full strength.**  A failed state
    transfer (`FailedStateSync`) changes no believed slot and leaves every
    worker process exactly as it was … -/
theorem C17_failed_sync_changes_nothing (env : Env) (st : State) (r : CReq)
    (h : (stepCompile env st r).2.res = .syncFail) (i : Nat) :
    (∀ σ, ((stepCompile env st r).1 i).bel.get σ = (st i).bel.get σ) ∧
      ((stepCompile env st r).1 i).act = (st i).act := by
  by_cases hi : i = r.w
  case neg => rw [stepCompile_frame' env st r i hi]; exact ⟨fun _ => rfl, rfl⟩
  subst hi
  obtain ⟨ws', hst, _, hc⟩ := stepCompile_spec env st r
  rw [hst, upd_same]
  rcases hc with hf | ⟨_, hr⟩
  · exact ⟨hf.bel, hf.act⟩
  · exact absurd h hr.res

/-- … hence it never leaves the server believing the worker holds state it does
    not hold, from whatever state it starts. -/
theorem C17_failed_sync_preserves_agreement (env : Env) (st : State) (r : CReq)
    (h : (stepCompile env st r).2.res = .syncFail) (i : Nat) (σ : Slot)
    (ha : AgreeAt (st i) σ) : AgreeAt ((stepCompile env st r).1 i) σ := by
  obtain ⟨hb, hact⟩ := C17_failed_sync_changes_nothing env st r h i
  intro x hx
  rw [hb σ] at hx
  rw [hact]
  exact ha x hx

/-- Unconditionally: a belief changes only to a value that was sent in this
    request and that the worker has installed. -/
theorem C17_belief_moves_with_worker (env : Env) (st : State) (r : CReq) (σ : Slot) :
    ((stepCompile env st r).1 r.w).bel.get σ = (st r.w).bel.get σ ∨
      ∃ t, (preargs (st r.w).bel r).at r.db σ = some t ∧
        ((stepCompile env st r).1 r.w).bel.get σ = some t ∧
        ((stepCompile env st r).1 r.w).act.get σ = some t := by
  obtain ⟨ws', hst, _, hc⟩ := stepCompile_spec env st r
  rw [hst, upd_same]
  rcases hc with hf | ⟨_, hr⟩
  · exact .inl (hf.bel σ)
  rcases hr.bel with ⟨_, hb⟩ | ⟨_, hb⟩
  · exact .inl (hb σ)
  · rw [hb, hr.act]
    cases (preargs (st r.w).bel r).at r.db σ with
    | none => exact .inl rfl
    | some t => exact .inr ⟨t, rfl, rfl, rfl⟩

/-- The `assert`s in `sync_worker_state_cb` never fire. -/
theorem C17_callback_asserts_hold (env : Env) (st : State) (r : CReq) :
    (stepCompile env st r).2.res ≠ .cbAssert := by
  obtain ⟨_, _, _, hf | ⟨_, hr⟩⟩ := stepCompile_spec env st r
  · rw [hf.res]; decide
  · exact hr.cb

/-! ## C17_intx — the compiler state used in a transaction -/

/-- **C17_intx, every history.**  A `compile_in_tx` request that passes a
    pickled state (dbview invariant: a transaction always does) and reaches
    the compiler runs on that state — after failures of every kind anywhere,
    status 2 included … -/
theorem C17_intx (env : Env) (init : Side) (pre : List Req) (r : TReq) (hp : r.pstate ≠ none) :
    (stepTx env (exec env (initState init) pre) r).2.usedState r :=
  usedState_of_lastLe env _ r (lastLe_exec env pre _ (lastLe_init init) r.w) hp

/-- … in particular `REUSE_LAST_STATE_MARKER` is sent only to a worker whose
    `LAST_STATE` is the state the supplied pickle came from. -/
theorem C17_intx_reuse (env : Env) (init : Side) (pre : List Req) (r : TReq)
    (hp : r.pstate ≠ none)
    (h : (stepTx env (exec env (initState init) pre) r).2.send = .reuse) :
    (exec env (initState init) pre r.w).act.last = r.pstate := by
  obtain ⟨_, _, _, ht⟩ := stepTx_spec env (exec env (initState init) pre) r
  exact reuse_holder _ r (lastLe_exec env pre _ (lastLe_init init) r.w) hp (ht.send ▸ h)

/-! ## The assumption behind "identity tokens": no address reuse while memoized -/

/-- All theorems above are about a `_pickle_memoized` that returns, for an object, the
    pickle of that object (`MemoFaithful`): then the transition with an explicit memo IS the
    model's transition.  `functools.lru_cache` guarantees it by keeping its keys alive. -/
theorem C17_memo_faithful (memo : Tok → Tok) (h : MemoFaithful memo) (env : Env) (st : State)
    (r : CReq) : stepCompileMemo memo env st r = stepCompile env st r := by
  have : stepCompileRunMemo memo env st r = stepCompileRun env st r := by
    unfold stepCompileRunMemo
    rw [show Parts.viaMemo memo = id from funext (viaMemo_faithful memo h)]
    rfl
  unfold stepCompileMemo stepCompile
  rw [this]

/-- … and it is needed.  A memo keyed by address: the database config 24 was allocated
    where the dead config 20 used to be and gets 20's pickle.  The request succeeds, the
    worker compiles with 20, the server records 24 as held — never re-sent, no error.
    (Tokens as in the counter-histories below.) -/
theorem C17_memo_counterexample :
    let memo : Tok → Tok := fun t => if t = 24 then 20 else t
    let r : CReq := { w := 0, db := 0, schema := 8, refl := 16, glob := 28, dbcfg := 24, sys := 36,
                      out := .ok, ns := 400 }
    let st : State := initState { dbs := fun db => if db = 0 then some ⟨8, 16, 21⟩ else none,
                                  glob := 28, sys := 36, last := none }
    (stepCompileMemo memo tokEnv st r).2.res = .ok ∧
    (stepCompileMemo memo tokEnv st r).2.used = some ⟨8, 28, 16, 20, 36⟩ ∧
    ((stepCompileMemo memo tokEnv st r).1 0).bel.get (.dbcfg 0) = some 24 ∧
    ((stepCompileMemo memo tokEnv st r).1 0).act.get (.dbcfg 0) = some 20 := by
  decide

/-! ## Counter-histories for the statements that are still false

Token encoding `tokEnv`: bit 0 = falsy, bit 1 = cannot be unpickled.
8 = schema S1, 12 = schema S2, 16 = reflection cache, 20 = database config C1,
25 = an empty database config (falsy), 28 = global schema G1, 34 = a global
schema whose unpickling fails, 36 = system config, 400… = compiler states.
All workers start knowing database 0 = (8, 16, 20), global 28, system 36.
The harness (`witness_specs` in harness/props/c17.py) replays exactly these
histories on the real pool and worker code. -/

def init0 : Side :=
  { dbs := fun db => if db = 0 then some ⟨8, 16, 20⟩ else none, glob := 28, sys := 36, last := none }

/-- `compile` of database 0 on worker `w` with schema `s`, db config `c`, global schema `g` -/
def C (w s c g : Nat) (out : COut) (ns : Nat) : CReq :=
  { w := w, db := 0, schema := s, refl := 16, glob := g, dbcfg := c, sys := 36, out := out, ns := ns }
/-- `compile_in_tx` of database 0 on worker `w` with root schema `s`, pickled state `p` -/
def T (w s : Nat) (p : Option Nat) (out : TOut) (ns : Nat) : TReq :=
  { w := w, db := 0, schema := s, pstate := p, out := out, ns := ns }

abbrev run (pre : List Req) : State := exec tokEnv (initState init0) pre
/-- the same history on the pre-repair transitions -/
abbrev runBuggy (pre : List Req) : State := Buggy.exec tokEnv (initState init0) pre

/-- status 2: the new schema 12 is sent and installed, the compiler runs, but
    its result cannot be serialised → no acknowledgement: the belief still
    says schema 8 while the worker holds 12. -/
theorem C17_belief_counterexample_status2 :
    (stepCompile tokEnv (initState init0) (C 0 12 20 28 .resultUnpicklable 400)).2.res = .serErr ∧
    ¬ Agree (run [.compile (C 0 12 20 28 .resultUnpicklable 400)] 0) := by
  refine ⟨by decide, fun h => ?_⟩
  have := h (.schema 0) 8 (by decide)
  revert this; decide

/-- … a later request that supplies schema 8 again is compiled against 12. -/
theorem C17_used_counterexample_status2 :
    ¬ (stepCompile tokEnv (run [.compile (C 0 12 20 28 .resultUnpicklable 400)])
        (C 0 8 20 28 .ok 404)).2.usedSupplied (C 0 8 20 28 .ok 404) := by
  intro h
  have := h ⟨12, 28, 16, 20, 36⟩ (by decide)
  revert this; decide

/-- … and so is a transaction that started under schema 8: `compile_in_tx`
    elides the schema, the worker takes `DBS[dbname].user_schema` = 12.  (400 is
    a state returned by worker 1, so worker 0 cannot reuse its last state.) -/
theorem C17_used_tx_counterexample_status2 :
    ¬ (stepTx tokEnv (run [.compile (C 1 8 20 28 .ok 400), .compile (C 0 12 20 28 .resultUnpicklable 404)])
        (T 0 8 (some 400) .ok 408)).2.usedRoot (T 0 8 (some 400) .ok 408) := by
  intro h
  have := h ⟨400, some 12⟩ (by decide) 12 rfl
  revert this; decide

/-- why `C17_intx` needs the dbview invariant: after a failed call the pool holds
    `_last_pickled_state = None`; a caller passing `None` would match it
    (`None is None`), get the REUSE marker and run on the worker's state 400. -/
theorem C17_intx_counterexample_none_state :
    ¬ (stepTx tokEnv (run [.compile (C 0 8 20 28 .ok 400), .tx (T 0 8 (some 400) .raise 404)])
        (T 0 8 none .ok 408)).2.usedState (T 0 8 none .ok 408) := by
  intro h
  have := h ⟨400, none⟩ (by decide)
  revert this; decide

/-! ## What the repairs repaired

Each theorem: on the pre-repair transitions (`Buggy`) the history ends with the
compiler receiving something else than supplied; on the current ones it is
served correctly.  The harness keeps the histories as regression witnesses. -/

/-- 2709780 — falsy merge.  Worker 0 is sent an empty database config (25);
    the old callback kept believing 20 (`new or old`), so supplying 20 again
    was elided and the compiler got 25. -/
theorem C17_repaired_falsy_merge :
    (Buggy.stepCompile tokEnv (runBuggy [.compile (C 0 8 25 28 .ok 400)]) (C 0 8 20 28 .ok 404)).2.used
      = some ⟨8, 28, 16, 25, 36⟩ ∧
    (stepCompile tokEnv (run [.compile (C 0 8 25 28 .ok 400)]) (C 0 8 20 28 .ok 404)).2.used
      = some (C 0 8 20 28 .ok 404).supplied := by decide

/-- 03eafed — partial `__sync__`.  Schema 12 was installed before unpickling
    the global schema 34 failed; the belief stayed at 8, and a later request
    (or transaction) supplying 8 was compiled against 12.  Now the failed sync
    installs nothing. -/
theorem C17_repaired_partial_sync :
    (Buggy.stepCompile tokEnv (runBuggy [.compile (C 0 12 20 34 .ok 400)]) (C 0 8 20 28 .ok 404)).2.used
      = some ⟨12, 28, 16, 20, 36⟩ ∧
    (stepCompile tokEnv (run [.compile (C 0 12 20 34 .ok 400)]) (C 0 8 20 28 .ok 404)).2.used
      = some (C 0 8 20 28 .ok 404).supplied ∧
    (Buggy.stepTx tokEnv (runBuggy [.compile (C 1 8 20 28 .ok 400), .compile (C 0 12 20 34 .ok 404)])
        (T 0 8 (some 400) .ok 408)).2.used = some ⟨400, some 12⟩ ∧
    (stepTx tokEnv (run [.compile (C 1 8 20 28 .ok 400), .compile (C 0 12 20 34 .ok 404)])
        (T 0 8 (some 400) .ok 408)).2.used = some ⟨400, some 8⟩ := by decide +kernel

/-- ae526a3 — `LAST_STATE` vs `_last_pickled_state`.  (a) state pickling fails
    in `compile_in_tx`, (b) `compile_in_tx` fails after mutating the reused state
    in place, (c) state pickling fails in `compile`: before the repair the next
    `compile_in_tx` with the caller's state 400 got the REUSE marker and ran on
    state 404; now the pickle 400 is sent and used. -/
theorem C17_repaired_last_state :
    (Buggy.stepTx tokEnv (runBuggy [.compile (C 0 8 20 28 .ok 400), .tx (T 0 8 (some 400) .statePickleFail 404)])
        (T 0 8 (some 400) .ok 408)).2 = ⟨.reuse, .ok, some ⟨404, none⟩⟩ ∧
    (stepTx tokEnv (run [.compile (C 0 8 20 28 .ok 400), .tx (T 0 8 (some 400) .statePickleFail 404)])
        (T 0 8 (some 400) .ok 408)).2 = ⟨.byName, .ok, some ⟨400, some 8⟩⟩ ∧
    (Buggy.stepTx tokEnv (runBuggy [.compile (C 0 8 20 28 .ok 400), .tx (T 0 8 (some 400) .raiseMutated 404)])
        (T 0 8 (some 400) .ok 408)).2 = ⟨.reuse, .ok, some ⟨404, none⟩⟩ ∧
    (stepTx tokEnv (run [.compile (C 0 8 20 28 .ok 400), .tx (T 0 8 (some 400) .raiseMutated 404)])
        (T 0 8 (some 400) .ok 408)).2 = ⟨.byName, .ok, some ⟨400, some 8⟩⟩ ∧
    (Buggy.stepTx tokEnv (runBuggy [.compile (C 0 8 20 28 .ok 400), .compile (C 0 8 20 28 .statePickleFail 404)])
        (T 0 8 (some 400) .ok 408)).2 = ⟨.reuse, .ok, some ⟨404, none⟩⟩ ∧
    (stepTx tokEnv (run [.compile (C 0 8 20 28 .ok 400), .compile (C 0 8 20 28 .statePickleFail 404)])
        (T 0 8 (some 400) .ok 408)).2 = ⟨.byName, .ok, some ⟨400, some 8⟩⟩ := by decide +kernel

/-- 3499a3b — a request the worker cannot read.  `worker_proc.worker` fails in
    `pickle.loads(req)` (a compile argument), nothing runs.  Before the repair the reply
    was status 1 with that ordinary exception and `BaseWorker.call` ran the callback: the
    server believed schema 12 was installed, the worker still had 8, and the next request
    supplying 12 was compiled against 8 (no identity returns, no status 2).  Now the reply
    is a `FailedStateSync`: no acknowledgement, 12 is sent again. -/
theorem C17_repaired_lost_request :
    ((Buggy.stepCompileLost (initState init0) (C 0 12 20 28 .requestUnreadable 400)).1 0).bel.get
        (.schema 0) = some 12 ∧
    (stepCompile tokEnv (Buggy.stepCompileLost (initState init0) (C 0 12 20 28 .requestUnreadable 400)).1
        (C 0 12 20 28 .ok 404)).2.used = some ⟨8, 28, 16, 20, 36⟩ ∧
    (run [.compile (C 0 12 20 28 .requestUnreadable 400)] 0).bel.get (.schema 0) = some 8 ∧
    (stepCompile tokEnv (run [.compile (C 0 12 20 28 .requestUnreadable 400)])
        (C 0 12 20 28 .ok 404)).2.used = some (C 0 12 20 28 .ok 404).supplied := by decide

/-! ## Non-vacuity: the hypotheses are satisfiable by non-trivial histories -/

/-- a history with an empty config, a failed sync, a status-2 reply, a compile
    error and two workers in which identities never come back -/
def hNoReturn : List Req :=
  [.compile (C 0 8 25 28 .ok 400), .compile (C 0 12 25 34 .ok 404), .compile (C 1 12 25 32 .resultUnpicklable 408),
   .compile (C 1 12 29 32 .raise 412), .tx (T 0 12 (some 400) .ok 416), .compile (C 1 12 29 32 .ok 420)]

example : NoReturn init0 hNoReturn := by decide +kernel

/-- in it the belief of worker 1 about the global schema is stale after the third request (28 vs 32) … -/
example : (run (hNoReturn.take 3) 1).bel.get .glob = some 28 ∧ (run (hNoReturn.take 3) 1).act.get .glob = some 32 := by
  decide

/-- … yet the last request was compiled against exactly what it supplied -/
example : ((trace tokEnv (initState init0) hNoReturn)[5]?).map
    (fun o => match o with | .compile c => c.used | .tx _ => none) =
    some (some ⟨12, 32, 16, 29, 36⟩) := by decide +kernel

/-- a history satisfying the hypothesis of the `…_partial` theorems with everything
    else going wrong: an empty config (25), identities coming back (20 after 25),
    sync failures at an early (schema 14) and a late (global 34) failure point, a
    compile error, a failed `compile_in_tx` that mutates the state, an unpicklable state -/
def hNoStatus2 : List Req :=
  [.compile (C 0 8 25 28 .ok 400), .compile (C 0 14 20 28 .ok 404), .compile (C 0 12 20 34 .raise 408),
   .tx (T 0 8 (some 400) .raiseMutated 412), .compile (C 1 12 25 32 .statePickleFail 416),
   .compile (C 0 8 20 28 .ok 420), .tx (T 0 8 (some 400) .resultUnpicklable 424)]

example : NoStatus2 hNoStatus2 := by
  intro q hq
  simp only [hNoStatus2, List.mem_cons, List.mem_nil_iff, or_false] at hq
  rcases hq with rfl | rfl | rfl | rfl | rfl | rfl | rfl <;> first | trivial | exact nofun

example : ((trace tokEnv (initState init0) hNoStatus2).map
    (fun o => match o with | .compile c => c.res | .tx t => t.res)) =
    [.ok, .syncFail, .syncFail, .compErr, .statePickleErr, .ok, .serErr] := by decide +kernel

/-- `C17_intx` applies to a request that really gets the REUSE marker -/
example :
    (stepTx tokEnv (run [.compile (C 0 8 20 28 .ok 400), .tx (T 0 8 (some 400) .ok 404)])
      (T 0 8 (some 404) .raise 408)).2 = ⟨.reuse, .compErr, some ⟨404, none⟩⟩ := by decide

/-! ## The remote path: EdgeDB server → compiler server → multi-tenant workers

Model `EdbVerif.SyncMT` (Model/SyncMT.lean): `pool.RemotePool` / `RemoteWorker` on the
EdgeDB server of each client, `server.MultiSchemaPool` (`_sync`, `ClientSchema.diff`, the
per-worker LRU record of client-schema versions) on the compiler server,
`multitenant_worker.__sync__` (FULL SYNC / DIFF SYNC ADD, UPDATE, DROP / invalidation) in
the workers.  `execMT env (initMT init dom size) pre` is the state after the requests `pre`
(any clients, any databases, any worker chosen for each request, any cache size), started
from the clients' init args. -/

section remote
open EdbVerif.SyncMT

/-- **Remote path, used state, every history.**  A request that reaches a worker-side
    compiler is compiled against exactly what the compiler server holds *now* (after
    this request's own `_sync`) for that client and database: user schema, global schema,
    reflection cache, database config, instance config — however many databases changed
    since the worker last saw the client, whatever was evicted, whichever earlier syncs
    failed, status 2 included.  (This is the statement that the seeded edit of
    "DIFF SYNC UPDATE" falsifies.) -/
theorem C17_remote_used_current (env : Env) (init : Nat → Side) (dom : Nat → List Nat)
    (size : Nat) (pre : List MReq) (q : MReq) :
    (stepMT env (execMT env (initMT init dom size) pre) q).2.usedCurrent
      (stepMT env (execMT env (initMT init dom size) pre) q).1 q :=
  usedCurrent_step env _ q (inv_exec env pre _ (inv_init init dom size))

/-- **Remote path, C17_used** (partial).  If no earlier request ended in
    `FailedStateSync`, the request is compiled against exactly the five parts the client
    supplied.

    Full statement (FALSE, see `C17_remote_used_counterexample_failed_sync`): the same
    without `NoFailedSync`.  Missing: a worker-side `FailedStateSync` comes after the
    compiler server has stored the new parts, and the EdgeDB server does not acknowledge. -/
theorem C17_remote_used_partial (env : Env) (init : Nat → Side) (dom : Nat → List Nat)
    (size : Nat) (pre : List MReq) (q : MReq)
    (h : NoFailedSync env (initMT init dom size) pre) :
    (stepMT env (execMT env (initMT init dom size) pre) q).2.usedSupplied q :=
  usedSupplied_step env _ q (inv_exec env pre _ (inv_init init dom size))
    (agree1_exec env q.c pre _ (agree1_init init dom size q.c) h)

/-- **Remote path, belief of the EdgeDB server** (partial): without `FailedStateSync` results,
    what the EdgeDB server of a client believes the compiler server holds is what it holds. -/
theorem C17_remote_belief_partial (env : Env) (init : Nat → Side) (dom : Nat → List Nat)
    (size : Nat) (h : List MReq) (hn : NoFailedSync env (initMT init dom size) h) (c : Nat) :
    Agree1 (execMT env (initMT init dom size) h) c :=
  agree1_exec env c h _ (agree1_init init dom size c) hn

/-- **Remote path, record of the compiler server** (partial): without status 2, "the
    compiler server records version `v` of client `c` for worker `w`" implies "`w` holds
    exactly version `v` of `c`: every slot of every database, and no other database".

    Full statement (FALSE, see `C17_remote_record_counterexample_status2`): the same
    without `NoStatus2MT`. -/
theorem C17_remote_record_partial (env : Env) (init : Nat → Side) (dom : Nat → List Nat)
    (size : Nat) (h : List MReq) (hn : NoStatus2MT h) :
    RecordExact (execMT env (initMT init dom size) h) :=
  recordExact_exec env h _ (inv_init init dom size)
    (recordExact_init init dom size) hn

/-- … and in every history, status 2 included: on every slot on which the recorded version
    coincides with the compiler server's current version, the worker holds the current
    content (so a lagging record only causes re-sends: on the compiler server every
    received part is a fresh object, identities never come back). -/
theorem C17_remote_record_weak (env : Env) (init : Nat → Side) (dom : Nat → List Nat)
    (size : Nat) (h : List MReq) (w c : Nat) (v cs : CS)
    (hv : cacheGet ((execMT env (initMT init dom size) h).wk w).cache c = some v)
    (hcs : (execMT env (initMT init dom size) h).cli c = some cs) :
    ∃ x, ((execMT env (initMT init dom size) h).wk w).act c = some x ∧
      ∀ σ, v.get σ = cs.get σ → x.get σ = cs.cont σ := by
  obtain ⟨_, _, x, hx, _, h5⟩ :=
    (((inv_exec env h _ (inv_init init dom size)).cli c cs hcs).2 w).entry v hv
  exact ⟨x, hx, h5⟩

/-! ### concrete histories (remote path); replayed on the real three tiers by the harness

Client 1 with databases 0 = (8, 16, 20) and 1 = (12, 16, 20), global schema 28, instance
config 36; two workers; cache size 2.  44, 48 = new schemas, 34 = a global schema that
cannot be unpickled, 52 = another global schema. -/

def initR : Nat → Side := fun _ =>
  { dbs := fun db => if db = 0 then some ⟨8, 16, 20⟩ else if db = 1 then some ⟨12, 16, 20⟩ else none,
    glob := 28, sys := 36, last := none }

/-- request of client 1 for database `db` served by worker `w` -/
def Q (w db s g : Nat) (out : COut := .ok) : MReq :=
  ⟨1, { w := w, db := db, schema := s, refl := 16, glob := g, dbcfg := 20, sys := 36, out := out, ns := 0 }⟩

abbrev stR : MTState := initMT initR (fun _ => [0, 1]) 2

def usedOf (h : List MReq) : List (Option Used) := (traceMT tokEnv stR h).map (·.used)

/-- one diff carrying two databases: worker 0 learns the client, both databases change
    while worker 1 serves, then worker 0 is asked for database 0 (it receives ONE diff with
    both databases) and for database 1 (nothing is sent): both compiled against the new
    schemas 44 and 48. -/
example : usedOf [Q 0 0 8 28, Q 1 0 44 28, Q 1 1 48 28, Q 0 0 44 28, Q 0 1 48 28] =
    [some ⟨8, 28, 16, 20, 36⟩, some ⟨44, 28, 16, 20, 36⟩, some ⟨48, 28, 16, 20, 36⟩,
     some ⟨44, 28, 16, 20, 36⟩, some ⟨48, 28, 16, 20, 36⟩] := by decide +kernel

example : ((traceMT tokEnv stR [Q 0 0 8 28, Q 1 0 44 28, Q 1 1 48 28, Q 0 0 44 28, Q 0 1 48 28]).map
    (·.kind)) = [some .full, some .full, some .diff, some .diff, some .insync] := by decide +kernel

/-- status 2: worker 0 has synced schema 44, but the compiler server still records the
    version with schema 8 for it. -/
theorem C17_remote_record_counterexample_status2 :
    ¬ RecordExact (execMT tokEnv stR [Q 0 0 8 28, Q 0 0 44 28 .resultUnpicklable]) := by
  intro h
  obtain ⟨v, hv, hc⟩ : ∃ v, cacheGet ((execMT tokEnv stR [Q 0 0 8 28, Q 0 0 44 28 .resultUnpicklable]).wk 0).cache 1
      = some v ∧ v.cont (.schema 0) = some 8 := ⟨_, rfl, rfl⟩
  obtain ⟨x0, hx0, ha⟩ : ∃ x, ((execMT tokEnv stR [Q 0 0 8 28, Q 0 0 44 28 .resultUnpicklable]).wk 0).act 1
      = some x ∧ x.get (.schema 0) = some 44 := ⟨_, rfl, rfl⟩
  obtain ⟨x, hx, hh⟩ := h 0 1 v hv
  cases hx0.symm.trans hx
  have := hh (.schema 0)
  rw [ha, hc] at this
  cases this

/-- failed sync on a worker: the compiler server has stored schema 44 and the unpicklable
    global schema 34, the worker raises `FailedStateSync`, the EdgeDB server keeps
    believing (8, 28).  When the client then supplies schema 8 again with a new global
    schema 52, the schema is elided and the worker compiles against 44. -/
theorem C17_remote_used_counterexample_failed_sync :
    (traceMT tokEnv stR [Q 0 0 44 34, Q 0 0 8 52]).map (fun o => (o.res, o.used)) =
      [(.syncFail, none), (.ok, some ⟨44, 52, 16, 20, 36⟩)] ∧
    ¬ (stepMT tokEnv (execMT tokEnv stR [Q 0 0 44 34]) (Q 0 0 8 52)).2.usedSupplied (Q 0 0 8 52) := by
  refine ⟨by decide, fun h => ?_⟩
  have := h ⟨44, 52, 16, 20, 36⟩ (by decide)
  revert this; decide

/-- … and until the global schema changes the client is wedged: the elided parts keep the
    unpicklable value on the compiler server and every request fails. -/
example : (traceMT tokEnv stR [Q 0 0 44 34, Q 0 0 44 28, Q 1 1 12 28]).map (·.res) =
    [.syncFail, .syncFail, .syncFail] := by decide

/-- 3499a3b on the remote path — a request the compiler server cannot unpickle
    (`handle_client_call`): nothing is stored.  Before the repair the client acknowledged
    it anyway, believed schema 44 was there, elided it next time and was compiled
    against 8; now the reply is a `FailedStateSync` and 44 is sent again. -/
theorem C17_repaired_remote_lost_request :
    (stepMT tokEnv (Buggy.stepMTLost stR (Q 0 0 44 28 .requestUnreadable)).1 (Q 0 0 44 28)).2.used
      = some ⟨8, 28, 16, 20, 36⟩ ∧
    (traceMT tokEnv stR [Q 0 0 44 28 .requestUnreadable, Q 0 0 44 28]).map (fun o => (o.res, o.used)) =
      [(.syncFail, none), (.ok, some ⟨44, 28, 16, 20, 36⟩)] := by decide +kernel

/-- eviction: cache size 1, two clients on one worker: the second client evicts the first
    (invalidation list `[1]`), which is then synced in full again. -/
example : ((traceMT tokEnv (initMT initR (fun _ => [0, 1]) 1)
      [Q 0 0 8 28, ⟨2, (Q 0 0 8 28).r⟩, Q 0 0 8 28]).map (fun o => (o.kind, o.inval))) =
    [(some .full, []), (some .full, [1]), (some .full, [2])] := by decide +kernel

end remote

end EdbVerif.C17
