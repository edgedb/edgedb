/-
C08 — Declared capabilities cover what a statement does.

Model: `EdbVerif/Model/Caps.lean` (+ generated `EdbVerif/Gen/Caps.lean`), vocabulary
`EdbVerif/Model/CapsSpec.lean`, proofs `EdbVerif/Lemmas/Caps*.lean`.
`sub a b` is `a ⊆ b` on capability sets (`a &&& b = a`), so `sub MODIFICATIONS c` reads
"MODIFICATIONS ∈ c".
-/
import EdbVerif.Lemmas.CapsStmt
import EdbVerif.Lemmas.CapsHist

namespace EdbVerif.C08
open EdbVerif.Caps EdbVerif.Gen.Caps

/-- **C08_kinds.** For every statement kind the dispatch table regenerated from
`_compile_dispatch_ql` has a row, and the capability on it includes the expected one: DDL for schema
and migration commands (plus TRANSACTION when the migration command opens/closes the transaction),
TRANSACTION for transaction control, SESSION_CONFIG for session aliases / CONFIGURE SESSION /
SET GLOBAL, PERSISTENT_CONFIG for CONFIGURE INSTANCE / DATABASE, MODIFICATIONS for (ANALYZE of)
queries with DML. -/
theorem C08_kinds (k : Kind) : ∃ c, kindCaps k = some c ∧ sub (expectedCap k) c := covers k

/-- **C08_kinds_complete.** Every path through `_compile_dispatch_ql` (every row of the generated
table) is the path of a kind covered by `C08_kinds`, rows are uniquely keyed and only carry named
flags: a new branch or condition in the dispatcher is a failed obligation, not a silent gap. -/
theorem C08_kinds_complete :
    (∀ r ∈ table, ∃ k ∈ Kind.all, k.key = (r.cls, r.conds)) ∧
    (table.map fun r => (r.cls, r.conds)).Nodup ∧ (∀ r ∈ table, sub r.caps named) :=
  ⟨by decide +kernel, by decide +kernel, table_named⟩

/-- **C08_classes.** Every concrete `qlast` statement class is dispatched (by `isinstance`, in chain
order) to the branch its status family (`status.get_status` registry: CREATE/ALTER/DROP…,
START TRANSACTION…, SET ALIAS…, …) belongs to, and every path of that branch carries the family's
capability (DDL / TRANSACTION / SESSION_CONFIG). -/
theorem C08_classes :
    (∀ r ∈ classes, familyClass r.2.2 = some r.2.1) ∧
    (∀ r ∈ classes, ∀ row ∈ table, row.cls = r.2.1 → sub (familyCap r.2.2) row.caps) :=
  ⟨classes_dispatch, classes_caps⟩

/-- **C08_flags.** WRITE = MODIFICATIONS | DDL | PERSISTENT_CONFIG, the named flags lie inside ALL. -/
theorem C08_flags : WRITE = MODIFICATIONS ||| DDL ||| PERSISTENT_CONFIG ∧ sub named ALL ∧ NONE = 0#64 := by
  decide

/-- **C08_dml.** A query that syntactically contains an INSERT / UPDATE / DELETE node or a call of a
modifying function - at any depth: sub-queries, WITH bindings, FOR iterators and bodies, shape
elements, FILTER / ORDER BY / OFFSET / LIMIT clauses, conflict clauses, IF branches, function
arguments - is either rejected by the compiler or gets MODIFICATIONS. Same under ANALYZE. -/
theorem C08_dml (fe : FnEnv) (q : Q) (c : Caps) (hd : containsDML fe q = true) :
    (stmtCaps fe (.query q) = .ok c → sub MODIFICATIONS c) ∧
    (stmtCaps fe (.analyze q) = .ok c → sub MODIFICATIONS c) :=
  ⟨fun h => (stmtCaps_modifications (.inl h)).mpr hd,
   fun h => (stmtCaps_modifications (.inr h)).mpr hd⟩

/-- the compiler-level core of `C08_dml`, in any compilation context: `dml_exprs` is non-empty -/
theorem C08_dml_recorded (fe : FnEnv) (cx : Cx) (q : Q) (l : List Rec)
    (h : record fe cx q = .ok l) (hd : containsDML fe q = true) : hasDml l = true :=
  (record_hasDml h).trans hd

/-- **C08_sound.** If the flags of a query statement lack MODIFICATIONS, executing it (in any
variable environment, on any database) leaves the stored data unchanged - provided the schema's
non-modifying functions are pure (`FnEnv.WF`, established by `C08_declare`). -/
theorem C08_sound (fe : FnEnv) (hwf : fe.WF) (q : Q) (c : Caps)
    (h : stmtCaps fe (.query q) = .ok c ∨ stmtCaps fe (.analyze q) = .ok c)
    (hm : ¬ sub MODIFICATIONS c) : ∀ ρ db, (run fe ρ db q).1 = db :=
  query_sound hwf h hm

/-- **C08_precise** (not required by the property, recorded): the flag is exact with respect to
the syntactic predicate. -/
theorem C08_precise (fe : FnEnv) (q : Q) (c : Caps) (h : stmtCaps fe (.query q) = .ok c) :
    sub MODIFICATIONS c ↔ containsDML fe q = true :=
  stmtCaps_modifications (.inl h)

/-- **C08_declare.** `create function` keeps the function environment well-formed (a function that is
not Modifying reaches no DML statement, and a function that reaches none is pure), and a function
whose body reaches an INSERT / UPDATE / DELETE statement - in ANY position of the body: WITH binding,
FOR iterator/body, shape computed of a free object / INSERT / UPDATE, clause, operand, argument,
conflict clause - or calls a function that does (chains f → g → … → insert) is stored as Modifying.
(A body that only calls a declared-Modifying function with a pure body is NOT inferred Modifying: the
real inference takes the volatility of the inlined body.) -/
theorem C08_declare (fe fe' : FnEnv) (decl : Option Bool) (params : List Nat) (body : Q)
    (hwf : fe.WF) (h : declare fe decl params body = .ok fe') :
    fe'.WF ∧ (containsStmt fe body = true →
      fnModifying fe' fe.length = true ∧ fnDmlStmt fe' fe.length = true) :=
  ⟨declare_wf hwf h, declare_modifying h⟩

/-- **C08_chain.** Reaching a DML statement (directly or through called functions) is a special case
of containing DML, so - with `C08_declare` and `C08_dml` - every accepted statement that calls,
at any depth and through any chain of functions, a function whose body writes gets MODIFICATIONS. -/
theorem C08_chain (fe : FnEnv) (q : Q) (c : Caps) (hs : containsStmt fe q = true)
    (h : stmtCaps fe (.query q) = .ok c) : sub MODIFICATIONS c :=
  (stmtCaps_modifications (.inl h)).mpr (containsStmt_containsDML hs)

/-- **C08_history.** Function histories.  The flags of `select f()` are decided by the STORED
volatility of `f`, so they are right exactly when the stored values equal the closure over the
CURRENT bodies (`Hist.Consistent`; this is the invariant the harness checks after every step of a
CREATE / ALTER … USING / SET volatility / RENAME / DROP history).  ALTER FUNCTION k followed by
propagation to everything that may (transitively) call k re-establishes the invariant. -/
theorem C08_history (ds : List Hist.Def) (st : List Bool) (k : Nat) (d : Hist.Def)
    (hk : k ≤ ds.length) (hst : Hist.Consistent ds st) :
    Hist.Consistent (Hist.alter ds k d) (Hist.propagateFull (Hist.alter ds k d) st k) :=
  Hist.propagateFull_consistent ds _ st k hk (Hist.alter_take ds k d) hst

/-- … whereas propagation that stops after the direct callers does not: in the chain h → f → g,
when g starts writing, h keeps the stale "does not write" flag. -/
theorem C08_history_one_level_counterexample :
    Hist.propagateOne Hist.exDs' (Hist.closure Hist.exDs) 0 = [true, true, false] ∧
    Hist.closure Hist.exDs' = [true, true, true] ∧
    ¬ Hist.Consistent Hist.exDs' (Hist.propagateOne Hist.exDs' (Hist.closure Hist.exDs) 0) := by
  unfold Hist.Consistent
  decide +kernel

/-- **C08_group.** The capabilities of a unit group are the bitwise OR (= union) of the units':
bit by bit, as an upper bound, as the least one; and the `caps & ~allowed` test of
`check_capabilities` is false exactly when `caps ⊆ allowed`. -/
theorem C08_group (us : List Caps) :
    (∀ i, (groupCaps us).getLsbD i = us.any (·.getLsbD i)) ∧
    (∀ u ∈ us, sub u (groupCaps us)) ∧
    (∀ a, (∀ u ∈ us, sub u a) → sub (groupCaps us) a) ∧
    (∀ c allowed : Caps, c &&& ~~~allowed = 0#64 ↔ sub c allowed) :=
  ⟨groupCaps_bit us, groupCaps_sub_iff.mp (sub_refl _), fun _ => groupCaps_sub_iff.mpr,
   fun c a => and_not_eq_zero_iff c a⟩

/-- **C08_script.** Scripts: a script containing a statement with DML gets MODIFICATIONS; a script
whose flags lack MODIFICATIONS leaves the stored data unchanged; script flags are named flags. -/
theorem C08_script (fe : FnEnv) (ss : List Stmt) (c : Caps) (h : scriptCaps fe ss = .ok c) :
    (∀ q, (Stmt.query q ∈ ss ∨ Stmt.analyze q ∈ ss) → containsDML fe q = true → sub MODIFICATIONS c) ∧
    (fe.WF → ¬ sub MODIFICATIONS c → ∀ db, runScript fe db ss = db) ∧
    sub c named :=
  ⟨fun _ hq hd => script_dml h hq hd, fun hwf hm db => script_sound hwf h hm db, scriptCaps_named h⟩

/-- **C08_make_error.** `Capability.make_error`: a message names a flag that is used and not
allowed, is only produced when the `& ~allowed` test fires, and for sets of named flags (all the
compiler produces, `C08_script`) is always produced when it fires (no `AssertionError`). -/
theorem C08_make_error (c a : Caps) :
    (∀ t, makeError c a = some t →
        (∃ it ∈ items, it.2.2 = t ∧ it.2.1 &&& a = 0#64 ∧ c &&& it.2.1 ≠ 0#64) ∧ exceeds c a = true) ∧
    (sub c named → exceeds c a = true → (makeError c a).isSome = true) :=
  ⟨fun _ h => ⟨makeError_some h, makeError_sound h⟩, makeError_complete⟩

/-! ### the hypotheses are satisfiable on non-trivial instances -/

instance : DecidableEq (Except Reject Caps) := fun a b =>
  match a, b with
  | .ok x, .ok y => if h : x = y then isTrue (by rw [h]) else isFalse (fun e => by cases e; exact h rfl)
  | .error x, .error y =>
    if h : x = y then isTrue (by rw [h]) else isFalse (fun e => by cases e; exact h rfl)
  | .ok _, .error _ => isFalse (fun e => by cases e)
  | .error _, .ok _ => isFalse (fun e => by cases e)

/-- schema: f0 pure reader, f1 `insert` (declared Modifying), f2 inferred Modifying -/
def exFe : FnEnv :=
  match declare [] none [] (.objs 1) with
  | .ok fe1 =>
    match declare fe1 (some true) [] (.insert 1 (.cons (.lit 7) .nil) .nil .nil) with
    | .ok fe2 =>
      match declare fe2 none [] (.call 1 .nil) with
      | .ok fe3 => fe3
      | .error _ => []
    | .error _ => []
  | .error _ => []

example : exFe.length = 3 ∧ fnModifying exFe 0 = false ∧ fnModifying exFe 1 = true ∧
    fnModifying exFe 2 = true := by decide

/-- DML in a WITH binding of a sub-query in a FOR body: flagged -/
example : stmtCaps exFe (.query (.forQ 0 (.op (.cons (.lit 1) (.cons (.lit 2) .nil)))
      (.withB 1 (.delete (.objs 1) .nil .nil .nil) (.var 0)))) = .ok MODIFICATIONS := by decide

/-- … and it really changes the DB -/
example : (run exFe [] [(1, 5), (2, 6)] (.forQ 0 (.op (.cons (.lit 1) (.cons (.lit 2) .nil)))
      (.withB 1 (.delete (.objs 1) .nil .nil .nil) (.var 0)))).1 = [(2, 6)] := by decide

/-- call of the inferred-Modifying function inside a function argument: flagged -/
example : stmtCaps exFe (.query (.call 0 (.cons (.call 2 .nil) .nil))) = .ok MODIFICATIONS := by decide

/-- a function whose only DML sits in a WITH binding of its body (`with x := mklog() select x`,
volatility omitted) is Modifying, so is a function that merely calls it, and `select g()` is flagged -/
example :
    (match declare exFe none [] (.withB 1 (.call 1 .nil) (.var 1)) with
     | .ok fe4 =>
       match declare fe4 none [] (.call 3 .nil) with
       | .ok fe5 => fnModifying fe5 3 && fnModifying fe5 4 &&
           (stmtCaps fe5 (.query (.call 4 .nil)) == .ok MODIFICATIONS)
       | .error _ => false
     | .error _ => false) = true := by decide +kernel

/-- declaring such a function with a lower volatility is rejected -/
example : (match declare exFe (some false) [] (.withB 1 (.call 1 .nil) (.var 1)) with
    | .error .volatility => true | _ => false) = true := by decide

/-- the only DML of the body sits in a computed of a free-object shape
(`select (select { a := (insert T) }).a`, volatility omitted): the function is Modifying, a function
calling it too, `select g()` is flagged; the same free object in a WITH binding is rejected -/
example :
    (match declare exFe none [] (.op (.cons (.free (.cons (.insert 1 .nil .nil .nil) .nil)) .nil)) with
     | .ok fe4 =>
       match declare fe4 none [] (.call 3 .nil) with
       | .ok fe5 => fnModifying fe5 3 && fnDmlStmt fe5 4 &&
           (stmtCaps fe5 (.query (.call 4 .nil)) == .ok MODIFICATIONS) &&
           (stmtCaps fe5 (.query (.withB 0 (.free (.cons (.insert 1 .nil .nil .nil) .nil)) (.var 0)))
              == .error .shape)
       | .error _ => false
     | .error _ => false) = true := by decide +kernel

/-- a function that only calls a declared-Modifying function with a pure body (f3 below) is not
Modifying itself (volatility of the inlined body), although a direct call of f3 is flagged -/
example :
    (match declare exFe (some true) [0] (.var 0) with
     | .ok fe4 =>
       match declare fe4 none [] (.call 3 (.cons (.lit 1) .nil)) with
       | .ok fe5 => fnModifying fe5 3 && !fnModifying fe5 4 &&
           (stmtCaps fe5 (.query (.call 3 (.cons (.lit 1) .nil))) == .ok MODIFICATIONS) &&
           (stmtCaps fe5 (.query (.call 4 .nil)) == .ok NONE)
       | .error _ => false
     | .error _ => false) = true := by decide +kernel

/-- DML in a FILTER clause is rejected, a read-only query is unflagged and pure -/
example : stmtCaps exFe (.query (.select (.objs 1) .nil (.cons (.call 1 .nil) .nil) .nil .nil))
    = .error .clause := by decide
example : stmtCaps exFe (.query (.select (.objs 1) (.cons (.call 0 .nil) .nil) .nil .nil .nil))
    = .ok NONE := by decide

/-- a script: SELECT; INSERT; START TRANSACTION -/
example : scriptCaps exFe [.query (.lit 1), .query (.insert 1 .nil .nil .nil), .command .txControl]
    = .ok (MODIFICATIONS ||| TRANSACTION) := by decide +kernel

example : makeError (MODIFICATIONS ||| DDL) (ALL &&& ~~~WRITE) = some "data modification queries" := by
  decide +kernel

end EdbVerif.C08
