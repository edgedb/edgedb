/-
C05 — Backend tables and columns track the schema through every migration.

The machine (`EdbVerif/Model/Storage.lean`): a schema abstraction (object types,
links / properties with the attributes the storage layout depends on, link
properties), `layout : Schema → Catalog` = the tables and columns the query
compiler addresses (transcribed from `pgsql/types.py::get_pointer_storage_info`,
`has_table`; names are id-based), `emit` = the `CreateTable / DropTable /
AddColumn / DropColumn` operations `pgsql/delta.py` produces for one elementary
schema change, `exec` = the backend (fails where PostgreSQL would), `stepDDL`,
`run`.

Reading guide.  `run {} h = .ok st` says the history `h` was accepted by the
schema layer and executed by the backend, starting from the empty database.
`safeRun {} h` is the explicit guard: it excludes exactly four kinds of step on
which the REAL code breaks the property (each has a `…_counterexample` below,
and is replayed on the real code by the harness):
  * renaming a pointer to/from a name starting with `__` (the column key changes,
    no column rename is emitted);
  * giving a stored property an expression of a different cardinality
    (`_delete_property` reads the storage info of the new schema);
  * `RESET EXPRESSION` on a link that has stored link properties (the link table
    is re-created without their columns);
  * a user link property NAMED `source` / `target` (accepted only on an abstract link
    without concrete descendants): `_create_property` / `get_pointer_storage_info`
    special-case the name, not the identity.
Properties and links named `source` / `target` on OBJECT TYPES are ordinary pointers
(`PName.plain`, column named by id): the implicit endpoints exist only on links.
`Catalog.Equiv` is "same tables, same columns".
-/
import EdbVerif.Lemmas.StorageDrop
import EdbVerif.Lemmas.Witness

namespace EdbVerif.C05
open EdbVerif.Storage

/-- **C05.** After every accepted (guarded) history the storage that was created
    and not dropped is exactly the layout of the current schema. -/
theorem C05_tracks (h : List DDL) (st : State) (hrun : run {} h = .ok st)
    (hsafe : safeRun {} h = true) : st.catalog.Equiv (layout st.schema) :=
  ((run_guarded h inv_init hsafe).ok hrun).2

/-- No emitted operation of a guarded history fails on the backend (no `DROP` of
    something missing, no `CREATE` / `ADD COLUMN` of something existing, no
    `ADD COLUMN` to a missing table): a history stops only by a schema-level rejection. -/
theorem C05_no_backend_error (h : List DDL) (hsafe : safeRun {} h = true) :
    run {} h ≠ .error .backend :=
  (run_guarded h inv_init hsafe).error

/-- The inductive step, from ANY state that satisfies the invariant (not only
    states reached from the empty database). -/
theorem C05_step (st st' : State) (d : DDL) (hinv : Inv st) (hsafe : safeStep st.schema d = true)
    (h : stepDDL st d = .ok st') : Inv st' :=
  (stepDDL_guarded hinv hsafe).ok h

/-- Well-formedness (unique ids, one pointer per name and source, existing
    sources) is itself maintained: the guards on identities are never the
    reason a later step is excluded. -/
theorem C05_wf (h : List DDL) (st : State) (hrun : run {} h = .ok st)
    (hsafe : safeRun {} h = true) : WF st.schema :=
  ((run_guarded h inv_init hsafe).ok hrun).1

/-- Renames (of a type, a pointer, a link property) emit no storage operation:
    the catalog is unchanged … -/
theorem C05_rename (st st' : State) (d : DDL)
    (hd : (∃ t n, d = .renameType t n) ∨ (∃ i n, d = .renamePtr i n) ∨ (∃ i l n, d = .renameLProp i l n))
    (h : stepDDL st d = .ok st') : st'.catalog = st.catalog :=
  rename_catalog hd h

/-- … and (for guarded renames) so is the layout the compiler expects: a rename
    never orphans storage. -/
theorem C05_rename_layout (st st' : State) (d : DDL) (hinv : Inv st)
    (hd : (∃ t n, d = .renameType t n) ∨ (∃ i n, d = .renamePtr i n) ∨ (∃ i l n, d = .renameLProp i l n))
    (hsafe : safeStep st.schema d = true) (h : stepDDL st d = .ok st') :
    (layout st'.schema).Equiv (layout st.schema) := by
  have h1 := ((stepDDL_guarded hinv hsafe).ok h).2
  rw [rename_catalog hd h] at h1
  exact equiv_trans (equiv_symm h1) hinv.2

/-- After dropping everything the catalog is empty. -/
theorem C05_drop_all (h : List DDL) (st : State) (hrun : run {} h = .ok st)
    (hsafe : safeRun {} h = true) (ht : st.schema.types = []) (hp : st.schema.ptrs = []) :
    st.catalog.tables = [] ∧ st.catalog.cols = [] :=
  empty_of_equiv_empty (C05_tracks h st hrun hsafe) ht hp

/-- No step drops storage that the next schema still uses: whatever an emitted
    `DropTable` / `DropColumn` removes is absent from `layout (next schema)`. -/
theorem C05_no_drop_live (st st' : State) (d : DDL) (ops : List Op) (hinv : Inv st)
    (hsafe : safeStep st.schema d = true) (hem : emit st.schema d = some (st'.schema, ops))
    (hex : execAll st.catalog ops = some st'.catalog) (o : Op) (ho : o ∈ ops) :
    (∀ t b, o = .dropTable t b → t ∉ (layout st'.schema).tables) ∧
    (∀ t c, o = .dropCol t c → (t, c) ∉ (layout st'.schema).cols) :=
  emit_drops_dead hinv.1 hsafe hem o ho

/-- The layout is built from the decision functions that are tied pointwise to
    `types.py` (level 1): a stored pointer of an object type has a column in its
    source's table iff `get_pointer_storage_info` answers "source table", and a
    table of its own iff the `link_bias` answer is "link table" (= `has_table`). -/
theorem C05_layout_decisions (p : Ptr) (t : Nat) (hs : p.src = some t) (hn : p.name ≠ .type_) :
    p.hasTable = hasTableV p.view ∧
    (p.computed = false →
      (p.srcCol.isSome ↔ ∃ c, storageInfo p.view false = some ⟨.source, false, c⟩) ∧
      (p.hasTable = true ↔ ∃ c, storageInfo p.view true = some ⟨.self, true, c⟩)) :=
  layout_decisions p t hs hn

/-! ### The behaviours of the real code that violate the property -/

/-- `ALTER PROPERTY name RENAME TO __bar`: accepted, nothing emitted, but the
    compiler now addresses column `__bar` instead of the id-named one. -/
theorem C05_rename_dunder_counterexample :
    ∃ h st, run {} h = .ok st ∧ safeRun {} h = false ∧ ¬ st.catalog.Equiv (layout st.schema) := by
  refine ⟨[.createType 0 0 false, .createPtr ⟨1, some 0, .prop, .plain 5, true, false, false, []⟩,
           .renamePtr 1 (.dunder 7)], _, rfl, by decide,
    not_equiv_of_col (.obj 0, .col 1) (by decide)⟩

/-- `ALTER PROPERTY name USING ({'x','y'})` on a stored single property: the
    column is not dropped (orphan storage). -/
theorem C05_setexpr_cardinality_counterexample :
    ∃ h st, run {} h = .ok st ∧ safeRun {} h = false ∧ ¬ st.catalog.Equiv (layout st.schema) := by
  refine ⟨[.createType 0 0 false, .createPtr ⟨1, some 0, .prop, .plain 5, true, false, false, []⟩,
           .setExpr 1 false], _, rfl, by decide,
    not_equiv_of_col (.obj 0, .col 1) (by decide)⟩

/-- the mirror image: a stored multi property becoming a computed single one
    (`ALTER PROPERTY tags { USING ('x'); RESET CARDINALITY }`, or `{ SET SINGLE USING (…);
    USING ('x') }`) gets, on top of the correct `DROP TABLE`, a `DROP COLUMN` of a column
    that never existed: the emitted SQL fails on the backend -/
theorem C05_setexpr_cardinality_backend_counterexample :
    ∃ h, run {} h = .error .backend ∧ safeRun {} h = false :=
  ⟨[.createType 0 0 false, .createPtr ⟨1, some 0, .prop, .plain 5, false, false, false, []⟩,
    .setExpr 1 true], rfl, by decide⟩

/-- `ALTER LINK l USING (…)` then `RESET EXPRESSION` on a link with a stored link
    property: the re-created link table lacks the link property's column. -/
theorem C05_resetexpr_lprops_counterexample :
    ∃ h st, run {} h = .ok st ∧ safeRun {} h = false ∧ ¬ st.catalog.Equiv (layout st.schema) := by
  refine ⟨[.createType 0 0 false, .createPtr ⟨1, some 0, .link, .plain 5, false, false, false, []⟩,
           .addLProp 1 ⟨2, .other 6, false⟩, .setExpr 1 false, .resetExpr 1], _, rfl, by decide,
    not_equiv_of_col (.ptr 1, .col 2) (by decide)⟩

/-- `CREATE ABSTRACT LINK al { CREATE PROPERTY source -> str }` then `DROP PROPERTY source`:
    the storage code special-cases the NAME `source` / `target` of a link property, so the
    user property shares (and on drop removes) the link table's real `source` column. -/
theorem C05_lprop_named_source_counterexample :
    ∃ h st, run {} h = .ok st ∧ safeRun {} h = false ∧ ¬ st.catalog.Equiv (layout st.schema) := by
  refine ⟨[.createPtr ⟨1, none, .link, .plain 5, true, false, false, []⟩,
           .addLProp 1 ⟨2, .source, false⟩, .dropLProp 1 2], _, rfl, by decide,
    not_equiv_of_col (.ptr 1, .source) (by decide)⟩

/-- a user link property named `target` never gets its column -/
theorem C05_lprop_named_target_counterexample :
    ∃ h st, run {} h = .ok st ∧ safeRun {} h = false ∧ ¬ st.catalog.Equiv (layout st.schema) := by
  refine ⟨[.createPtr ⟨1, none, .link, .plain 5, true, false, false, []⟩,
           .addLProp 1 ⟨2, .target, false⟩], _, rfl, by decide,
    not_equiv_of_col (.ptr 1, .col 2) (by decide)⟩

/-! ### Non-vacuity: a guarded history exercising most of the alphabet -/

def exHistory : List DDL :=
  [ .createType 0 0 false,
    .createPtr ⟨1, some 0, .prop, .id, true, true, false, []⟩,
    .createPtr ⟨2, some 0, .prop, .plain 1, true, false, false, []⟩,
    .createType 3 2 false,
    .createPtr ⟨4, some 3, .link, .plain 3, true, false, false, []⟩,
    .addLProp 4 ⟨5, .other 4, false⟩,    -- single link gets a link table
    .setSingle 2 false,                  -- property moves to its own table
    .renamePtr 2 (.plain 9),
    .setSingle 4 false,                  -- link table already exists (conditional create skipped)
    .setLPropComputed 4 5 true,
    .setSingle 4 true,                   -- link table dropped
    .setExpr 2 false, .resetExpr 2,
    .dropLProp 4 5,
    .dropType 0 ]

example : safeRun {} exHistory = true := by decide

example : ∃ st, run {} exHistory = .ok st ∧ st.schema.types.length = 1 ∧
    st.catalog.tables = [.obj 3] := exists_ok (by decide +kernel)

end EdbVerif.C05
