/-
C19 — Configuration commands compose and persist as specified.

Property theorems about `EdbVerif.Config` (model of `edb/server/config/ops.py`,
`types.py`, `__init__.py::lookup`), `EdbVerif.Duration` and `EdbVerif.Memory`
(models of `edb/ir/statypes.py::Duration / ConfigMemory`).  Only statements,
non-vacuity examples and counterexamples live here; proofs are in
`EdbVerif/Lemmas/{ConfigExcl,Config,ConfigJson,ConfigJsonObj,ConfigInv,Duration,DurationDigits,Memory}.lean`,
the vocabulary (`SMap.WF`, `MapOK`, `ValOK`, `ObjOK`, `SpecOK`, `OpNice`, …) in `Model/ConfigSpec.lean`,
the example spec in `Lemmas/ConfigExample.lean`.

Reading guide.  A storage map (`SMap`) is an association list name ↦
`SettingValue`; `State` holds the session, database and instance maps; `step`
applies one `Operation` to the map its scope names (as `dbview.apply_config_ops`
does) and leaves the state alone when `Operation.apply` raises.  `JV` is a JSON
tree (`json.dumps/loads` themselves are not modelled).
-/
import EdbVerif.Lemmas.ConfigInv
import EdbVerif.Lemmas.ConfigExample
import EdbVerif.Lemmas.Witness

namespace EdbVerif.C19
open EdbVerif.Config

/-! ### lookup -/

/-- The effective value of a known setting is the value stored in the most
    specific layer that defines it (session, then database, then instance),
    otherwise the setting's default. -/
theorem C19_lookup (sp : Spec) (st : State) (name : String) (s : Setting)
    (hs : sp.get name = some s) :
    effective sp st name = .ok (some (
      match st.sess.get name, st.db.get name, st.inst.get name with
      | some sv, _, _ => sv.value
      | none, some sv, _ => sv.value
      | none, none, some sv => sv.value
      | none, none, none => s.default)) :=
  effective_eq sp st name s hs

/-- `config.lookup` over any list of layers: the first layer defining the name wins. -/
theorem C19_lookup_first (sp : Spec) (name : String) (pre post : List SMap) (m : SMap) (s : Setting)
    (sv : SV) (au : Bool) (hs : sp.get name = some s)
    (hpre : ∀ c ∈ pre, c.get name = none) (hm : m.get name = some sv) :
    lookup sp name (pre ++ m :: post) au = .ok (some sv.value) :=
  lookup_first sp name pre post m s sv au hs hpre hm

/-- … and the default when no layer defines it. -/
theorem C19_lookup_default (sp : Spec) (name : String) (configs : List SMap) (s : Setting) (au : Bool)
    (hs : sp.get name = some s) (hnone : ∀ c ∈ configs, c.get name = none) :
    lookup sp name configs au = .ok (some s.default) :=
  lookup_default sp name configs s au hs hnone

/-- An unrecognised name is a ConfigurationError, or `None` with `allow_unrecognized`. -/
theorem C19_lookup_unknown (sp : Spec) (name : String) (configs : List SMap)
    (hs : sp.get name = none) :
    lookup sp name configs false = .error .configuration ∧ lookup sp name configs true = .ok none :=
  lookup_unknown sp name configs hs

/-! ### sequences of operations -/

/-- Applying a list of operations is a left fold of `step`. -/
theorem C19_seq_fold (sp : Spec) (st : State) (ops : List Op) :
    run sp st ops = ops.foldl (fun st op => (step sp st op).1) st :=
  run_eq_foldl sp st ops

/-- … hence it composes. -/
theorem C19_seq_append (sp : Spec) (st : State) (a b : List Op) :
    run sp st (a ++ b) = run sp (run sp st a) b :=
  run_append sp st a b

/-- SET succeeds exactly with the coerced value, and a lookup that consults
    this layer first returns it. -/
theorem C19_seq_set (sp : Spec) (m : SMap) (sc : Scope) (name : String) (v : JV) (s : Setting)
    (val : Val) (rest : List SMap) (hs : sp.get name = some s)
    (hc : coerceValue sp s .set v false = .ok val) :
    ∃ m', apply sp m ⟨.set, sc, name, v⟩ = .ok m' ∧
      m'.get name = some { name := name, value := val, source := sc.source, scope := sc } ∧
      lookup sp name (m' :: rest) = .ok (some val) := by
  have hg := SMap.get_set_same m name { name := name, value := val, source := sc.source, scope := sc }
  exact ⟨_, apply_set sp m sc name v s val hs hc, hg,
    lookup_first sp name [] rest _ s _ false hs (by simp) hg⟩

/-- The model is a pure function of (spec, storage, operation) – an `Operation`
    is never changed by `coerce_value` / `apply`, and what is coerced for the
    server callbacks is what `apply` stores (`C19_seq_set`).  In particular a
    SET can be repeated: applying the same SET to its own result changes
    nothing.  (That the IMPLEMENTATION does not break this by mutating its
    argument – e.g. the nested `_tname` – is checked on the real code by the
    `oracle:op-mutated`, `oracle:apply-not-repeatable` and `oracle:dbview-differs`
    oracles; nested object fields themselves are outside this model.) -/
theorem C19_seq_set_repeat (sp : Spec) (m m' : SMap) (sc : Scope) (name : String) (v : JV)
    (h : apply sp m ⟨.set, sc, name, v⟩ = .ok m') :
    apply sp m' ⟨.set, sc, name, v⟩ = .ok m' := by
  cases applied_of_ok sp m m' _ h with
  | set s val hs hc => rw [apply_set sp _ sc name v s val hs hc, setValue, setValue, SMap.set_set_same]

/-- RESET removes the entry: in this layer alone the setting reads as its default again. -/
theorem C19_seq_reset (sp : Spec) (m m' : SMap) (sc : Scope) (name : String) (v : JV)
    (s : Setting) (hs : sp.get name = some s) (hwf : m.WF)
    (h : apply sp m ⟨.reset, sc, name, v⟩ = .ok m') :
    m' = m.delete name ∧ m'.get name = none ∧ lookup sp name [m'] = .ok (some s.default) := by
  cases applied_of_ok sp m m' _ h
  have hn := SMap.get_delete_same m name hwf
  exact ⟨rfl, hn, lookup_default sp name _ s false hs (by simp [hn])⟩

/-- ADD (CONFIGURE … INSERT) on an object setting is insertion of the coerced
    object into the current set (stored, else default); it succeeds only if the
    result has pairwise unequal elements (`__eq__`: same type spec and equal
    own unique fields) AND no two elements – of whatever (sub)types – agree on
    an exclusive field at its unique site (`NoClash`). -/
theorem C19_seq_add (sp : Spec) (m m' : SMap) (sc : Scope) (name : String) (v : JV)
    (h : apply sp m ⟨.add, sc, name, v⟩ = .ok m') :
    ∃ s t o l, sp.get name = some s ∧ s.ty = .obj t ∧
      fromPyValue sp t false v = .ok (some o) ∧ existValue m name s = .objs l ∧
      m' = setValue m name (.objs (l ++ [o])) sc ∧
      (l ++ [o]).Pairwise (fun a b => a.pyEq b = false) ∧
      (l ++ [o]).Pairwise NoClash := by
  cases applied_of_ok sp m m' _ h with
  | add s t o l hs hty hv hex hchk =>
    obtain ⟨_, h2, h3, _⟩ := checkUnique_ok _ _ hchk
    exact ⟨s, t, o, l, hs, hty, hv, hex, rfl, h2, h3⟩

/-- SET of a list on an object setting (`coerce_object_set`): the stored
    elements are pairwise unequal and pairwise free of exclusivity clashes. -/
theorem C19_seq_set_objs (sp : Spec) (t : TSpec) (so : Bool) (v : JV) (l : List Obj)
    (h : coerceObjectSet sp t so v = .ok l) :
    l.Pairwise NoClash ∧ l.Pairwise (fun a b => a.pyEq b = false) := by
  obtain ⟨_, _, _, h1, h2⟩ := coerceObjectSet_ok sp t so v l h
  exact ⟨h2, h1⟩

/-- `get_field_unique_site`: the site is the TOP-MOST type of the chain self,
    parent, grand-parent, … on which the field is exclusive (so sibling subtypes
    inheriting an exclusive field share its site). -/
theorem C19_unique_site (t : TSpec) (k : String) :
    t.uniqueSite k =
      ((({ name := t.name, fields := t.fields } : TBase) :: t.ancestors).filter
          (fun b => fieldUniqueIn b.fields k)).getLast?.map (·.name) :=
  uniqueSite_top t k

/-- REM erases the elements equal to the given object (absent: nothing is
    removed, no error); REM of `None` removes nothing.  The result is stored at
    the operation's scope – except that NOTHING is stored when that scope has no
    entry and nothing was removed (`remStore`). -/
theorem C19_seq_rem (sp : Spec) (m m' : SMap) (sc : Scope) (name : String) (v : JV)
    (h : apply sp m ⟨.rem, sc, name, v⟩ = .ok m') :
    ∃ s t l, sp.get name = some s ∧ s.ty = .obj t ∧ existValue m name s = .objs l ∧
      ((∃ o, fromPyValue sp t true v = .ok (some o) ∧
          m' = remStore m name sc l (l.filter fun x => !x.pyEq o)) ∨
       (fromPyValue sp t true v = .ok none ∧ m' = remStore m name sc l l)) := by
  cases applied_of_ok sp m m' _ h with
  | rem s t l r hs hty hex hv =>
    refine ⟨s, t, l, hs, hty, hex, ?_⟩
    cases r
    · exact Or.inr ⟨hv, rfl⟩
    · exact Or.inl ⟨_, hv, rfl⟩

/-- **A filtered RESET that removes nothing leaves every effective value
    unchanged**: whatever layers come before and after this one, `lookup` of
    every setting gives the same answer with the layer before and after the
    operation.  (Before fix 9cae9a4 this was false: an empty set was stored and
    masked the less specific layers.) -/
theorem C19_seq_rem_noop (sp : Spec) (m m' : SMap) (sc : Scope) (name : String) (v : JV)
    (h : apply sp m ⟨.rem, sc, name, v⟩ = .ok m')
    (hnoop : ∀ s t l o, sp.get name = some s → s.ty = .obj t → existValue m name s = .objs l →
      fromPyValue sp t true v = .ok (some o) → (l.filter fun x => !x.pyEq o) = l)
    (k : String) (pre post : List SMap) (au : Bool) :
    lookup sp k (pre ++ m' :: post) au = lookup sp k (pre ++ m :: post) au :=
  rem_noop_lookup sp m m' sc name v h hnoop k pre post au

/-- `_check_object_set_uniqueness`: success returns its input, pairwise
    unequal, pairwise without two objects agreeing on an exclusive field at its
    unique site, and at most `MAX_CONFIG_SET_SIZE` long. -/
theorem C19_seq_unique (l l' : List Obj) (h : checkUnique l = .ok l') :
    l' = l ∧ l'.Pairwise (fun a b => a.pyEq b = false) ∧ l'.Pairwise NoClash ∧
    l'.length ≤ MAX_CONFIG_SET_SIZE :=
  checkUnique_ok l l' h

/-- Frame: a successful operation changes no other setting of its layer, keeps
    the keys unique, and tags the entry with the operation's name and scope. -/
theorem C19_seq_frame (sp : Spec) (m m' : SMap) (op : Op) (h : apply sp m op = .ok m') :
    (∀ k, k ≠ op.name → m'.get k = m.get k) ∧ (m.WF → m'.WF) ∧
    (op.code = .set ∨ op.code = .add → ∃ v, m'.get op.name =
        some { name := op.name, value := v, source := op.scope.source, scope := op.scope }) :=
  ⟨apply_frame sp m m' op h, apply_WF sp m m' op h, apply_entry sp m m' op h⟩

/-- A step never touches the other two layers. -/
theorem C19_seq_scope (sp : Spec) (st : State) (op : Op) (sc : Scope) (h : sc ≠ op.scope) :
    (step sp st op).1.map sc = st.map sc :=
  step_other_scope sp st op sc h

/-! ### rejection -/

/-- A value that fails coercion (wrong type, out of range, bad duration /
    memory text, broken uniqueness in a SET, unknown field …) makes the whole
    operation fail with that error; an unknown setting is a ConfigurationError;
    and a failed step leaves all three layers exactly as they were. -/
theorem C19_reject (sp : Spec) (st : State) (op : Op) :
    (∀ s e, sp.get op.name = some s →
        coerceValue sp s op.code op.value op.code.allowMissing = .error e →
        apply sp (st.map op.scope) op = .error e) ∧
    (sp.get op.name = none → apply sp (st.map op.scope) op = .error .configuration) ∧
    (∀ e, apply sp (st.map op.scope) op = .error e →
        (step sp st op).2 = some e ∧ (step sp st op).1 = st) := by
  refine ⟨fun s e hs hc => apply_coerce_error sp _ op s e hs hc,
          fun h => apply_unknown sp _ op h, fun e h => ?_⟩
  rw [step_error sp st op e h]
  exact ⟨rfl, rfl⟩

/-! ### JSON -/

/-- `from_json(to_json(m)) == m` for every storage map whose entries are
    admissible (`MapOK`: unique keys, known settings, values of the setting's
    kind – any integer duration, NON-NEGATIVE memory, enum members, raw atoms,
    duplicate-free sets, objects following their type). -/
theorem C19_json (sp : Spec) (m : SMap) (h : MapOK sp m) :
    ∃ j, toJson sp m = .ok j ∧ fromJson sp j = .ok m :=
  json_roundtrip_typed sp m h

/-- The same with the per-value round trip as the hypothesis (covers any
    value for which `value_from_json_value ∘ value_to_json_value` is the identity). -/
theorem C19_json_rt (sp : Spec) (m : SMap) (hwf : m.WF)
    (hent : ∀ kv ∈ m, ∃ s, sp.get kv.1 = some s ∧ kv.2.name = kv.1 ∧ RT sp s kv.2.value) :
    ∃ j, toJson sp m = .ok j ∧ fromJson sp j = .ok m :=
  json_roundtrip sp m hwf hent

/-- The values SET stores for scalar and set-of-scalar settings are admissible
    (so `C19_json` applies to them) – except a negative `int` given to a memory
    setting, which is accepted and then does not round-trip
    (`memory_rt_negative_counterexample`). -/
theorem C19_json_set_admissible (sp : Spec) (s : Setting) (t : STy) (v : JV) (val : Val)
    (hty : s.ty = .sc t) (hset : s.setOf = true → t = .bool ∨ t = .int ∨ t = .str)
    (h : coerceValue sp s .set v false = .ok val)
    (hneg : ∀ i, t = .mem → v = .int i → 0 ≤ i) : ValOK sp s val :=
  coerce_scalar_ValOK sp s t v val hty hset h hneg

/-- Invariant: a successful operation keeps a storage map admissible, provided
    it avoids the two corners where the real code breaks the property
    (`OpNice`: no negative int for a memory slot; no SET on a single-valued
    object setting) and the spec is well-formed (`SpecOK`). -/
theorem C19_json_invariant (sp : Spec) (hsp : SpecOK sp) (m m' : SMap) (op : Op) (hm : MapOK sp m)
    (hop : OpNice sp op) (h : apply sp m op = .ok m') : MapOK sp m' :=
  apply_MapOK sp hsp m m' op hm hop h

/-- Hence every configuration reachable from the empty one by such operations
    – whatever mixture of accepted and rejected ones – survives
    `to_json` / `from_json` in each of its three layers. -/
theorem C19_json_reachable (sp : Spec) (hsp : SpecOK sp) (ops : List Op)
    (hops : ∀ op ∈ ops, OpNice sp op) (sc : Scope) :
    ∃ j, toJson sp ((run sp {} ops).map sc) = .ok j ∧
         fromJson sp j = .ok ((run sp {} ops).map sc) := by
  apply json_roundtrip_typed
  apply run_MapOK sp hsp ops {} _ hops
  intro sc'
  cases sc' <;> exact ⟨SMap.WF_nil, by intro kv h; simp [State.map] at h⟩

/-- What `frozenset(...)` builds is duplicate-free and stable under rebuilding. -/
theorem C19_json_set (l : List Scalar) : PD (mkSet l) ∧ mkSet (mkSet l) = mkSet l :=
  ⟨mkSet_PD l, mkSet_idem l⟩

/-! ### Duration and memory -/

/-- `Duration(d.to_iso8601()) == d` and `Duration.from_iso8601(d.to_iso8601()) == d`
    for EVERY integer number of microseconds, negative ones included (the sign
    is repeated on every printed component and read back per component). -/
theorem duration_rt (us : Int) :
    Duration.usFromPgText (Duration.toIso us) = .ok us ∧
    Duration.fromIso (Duration.toIso us) = .ok us :=
  ⟨Duration.usFromPgText_toIso us, Duration.fromIso_toIso us⟩

/-- `ConfigMemory(str(m)) == m` for every non-negative number of bytes. -/
theorem memory_rt (n : Nat) : Memory.parseMemory (Memory.memToStr (n : Int)) = some n :=
  Memory.memory_roundtrip n

/-- The constant `to_edgeql` prints for a (non-negative) memory value is the cast
    of `to_str()`, and that text reads back as the same number of bytes. -/
theorem memory_edgeql_rt (n : Nat) :
    constText (.mem n) = .ok ("<cfg::memory>'" ++ String.ofList (Memory.memToStr n) ++ "'") ∧
    Memory.parseMemory (Memory.memToStr (n : Int)) = some n :=
  ⟨rfl, Memory.memory_roundtrip n⟩

/-- `Duration(text)` and `Duration.from_iso8601(text)` reject EVERY text without a
    digit – `''`, `'\n'`, `'PT'`, blanks, … (fix 44d9781; before, the first three
    were read as 0 µs). -/
theorem duration_needs_digit (s : List Char) (h : ∀ c ∈ s, Duration.isDigit c = false) :
    Duration.usFromPgText s = .error .invalid ∧ Duration.fromIso s = .error .invalid :=
  Duration.noDigit_rejected s h

/-- FALSE for negative values, which `ConfigMemory(int)` (hence
    `coerce_single_value`) accepts: `ConfigMemory(-5)` prints `-5B`, which
    `ConfigMemory(str)` rejects.  Replayed on the real code by the harness
    (`json-rt:raises:memory:InvalidValueError`). -/
theorem memory_rt_negative_counterexample :
    coerceSingle .mem (.int (-5)) = .ok (.mem (-5)) ∧
    Memory.parseMemory (Memory.memToStr (-5)) = none := by
  exact ⟨rfl, Memory.memory_negative_counterexample⟩

/-! ### Non-vacuity and documented corners -/

def exOps : List Op := [
  ⟨.set, .instance, "i", .int 1⟩, ⟨.set, .session, "i", .int 3⟩, ⟨.set, .session, "i", .str "x"⟩,
  ⟨.set, .database, "d", .str "1:30"⟩,
  ⟨.add, .session, "objs", .obj [("database", .str "a"), ("port", .int 1)]⟩,
  ⟨.add, .session, "objs", .obj [("database", .str "b"), ("port", .int 1), ("timeout", .str "PT-0.5S")]⟩,
  ⟨.add, .session, "objs", .obj [("database", .str "a"), ("port", .int 2)]⟩,
  ⟨.rem, .session, "objs", .obj [("database", .str "b")]⟩ ]

/-- most specific layer wins; a rejected SET changed nothing -/
example : effective exSpec (run exSpec {} exOps) "i" = .ok (some (.sc (.int 3))) := by decide +kernel
example : effective exSpec (run exSpec {} exOps) "d" = .ok (some (.sc (.dur 5400000000))) := by decide +kernel
example : (step exSpec (run exSpec {} exOps) ⟨.set, .session, "i", .str "x"⟩).2 = some .configuration := by
  decide +kernel
/-- the duplicate `database = "a"` was rejected, `b` was removed again -/
example : ((run exSpec {} exOps).sess.get "objs").map (fun sv => match sv.value with
    | .objs l => l.length | _ => 0) = some 1 := by decide +kernel

/-- `SpecOK` is satisfiable: the example spec (scalars, a set, a single and a
    multi-valued object setting with unique fields, a set-valued and a
    `None`-defaulted field) is well-formed -/
example : SpecOK exSpec := by
  refine ⟨fun n t h => exSpec_types n t h ▸ exPort_ok, ?_, ?_, ?_⟩ <;> intro n s t h hty
  all_goals
    have hs := exSpec_get n s h
    simp only [exSpec, exSettings, List.mem_cons, List.not_mem_nil, or_false] at hs
  · rcases hs with rfl | rfl | rfl | rfl | rfl | rfl <;> cases hty <;> rfl
  · rcases hs with rfl | rfl | rfl | rfl | rfl | rfl <;> cases hty
    · trivial
    · exact ⟨nofun, List.Pairwise.nil⟩
  · intro hso
    rcases hs with rfl | rfl | rfl | rfl | rfl | rfl <;> cases hty <;> cases hso
    exact Or.inr (Or.inl rfl)

/-- a hierarchy: `name` exclusive on the parent and inherited, `token` exclusive on one subtype only -/
def exProv : TBase := { name := "Prov", fields := [{ name := "name", ty := .sc .str, unique := true }] }
def exSmtp : TSpec := { name := "Smtp", ancestors := [exProv], fields :=
  [{ name := "name", ty := .sc .str, unique := true },
   { name := "token", ty := .sc .str, unique := true, default := some (.sc .none) }] }
def exWeb : TSpec := { name := "Web", ancestors := [exProv], fields :=
  [{ name := "name", ty := .sc .str, unique := true }] }
def exObj (t : TSpec) (n : String) : Obj :=
  { tspec := t, vals := t.fields.map fun f => (f.name, if f.name = "name" then .sc (.str n) else .sc .none) }

/-- sibling subtypes share the site of the inherited exclusive field, so equal
    names are rejected although the objects are not `__eq__`; different names pass -/
example : exSmtp.uniqueSite "name" = some "Prov" ∧ exWeb.uniqueSite "name" = some "Prov" ∧
    exSmtp.uniqueSite "token" = some "Smtp" := by decide
example : (exObj exSmtp "a").pyEq (exObj exWeb "a") = false ∧
    checkUnique [exObj exSmtp "a", exObj exWeb "a"] = .error .constraintViolation ∧
    checkUnique [exObj exSmtp "a", exObj exWeb "b"] = .ok [exObj exSmtp "a", exObj exWeb "b"] := by decide +kernel

/-- the JSON theorem's hypothesis is satisfiable by a non-trivial map -/
def exMap : SMap := (run exSpec {} exOps).sess

example : ∃ j, toJson exSpec exMap = .ok j ∧ fromJson exSpec j = .ok exMap :=
  exists_ok (by decide +kernel)

/-- documented corner of the real code: SET on a single-valued object setting
    stores a frozenset, after which `to_json` raises AttributeError -/
example : ∃ m, apply exSpec [] ⟨.set, .session, "obj", .list [.obj [("database", .str "a"), ("port", .int 1)]]⟩
      = .ok m ∧ (match toJson exSpec m with | .error .attributeError => true | _ => false) = true :=
  exists_ok (by decide +kernel)

/-- documented corner: ADD on a single-valued object setting whose default is
    `None` raises TypeError (`list(None)`) -/
example : apply exSpec [] ⟨.add, .session, "obj", .obj [("database", .str "a"), ("port", .int 1)]⟩
    = .error .typeError := by decide +kernel

/-- since fix 7df602b a bool is rejected for an int64 SETTING … -/
example : coerceSingle .int (.bool true) = .error .configuration := rfl
/-- … but documented corner: `from_pyvalue` still accepts it for an int FIELD of an object -/
example : coerceField { name := "port", ty := .sc .int } (.bool true) = .ok (.sc (.bool true)) := rfl

/-- the former masking witness: one object at INSTANCE, REM of an absent object at
    SESSION – the step succeeds, stores nothing, the effective value stays -/
example :
    let st := run exSpec {} [⟨.add, .instance, "objs", .obj [("database", .str "a"), ("port", .int 1)]⟩]
    let op : Op := ⟨.rem, .session, "objs", .obj [("database", .str "zzz")]⟩
    (step exSpec st op).2 = none ∧ (step exSpec st op).1.sess = [] ∧
    effective exSpec (step exSpec st op).1 "objs" = effective exSpec st "objs" := by
  decide +kernel

/-- since fix a93d1c2 `to_edgeql` prints memory values as a cast of their text -/
example : ∃ m, apply exSpec [] ⟨.set, .instance, "mem", .str "5MiB"⟩ = .ok m ∧
    toEdgeQL exSpec m = .ok ["CONFIGURE INSTANCE SET mem := <cfg::memory>'5MiB';"] :=
  exists_ok (by decide +kernel)

end EdbVerif.C19
