/-
C20 — Dependency ordering respects every dependency and finds real cycles.

Property theorems about `EdbVerif.Topo.sortEx`, the model of
`edb/common/topological.py::sort_ex`.  Only statements, non-vacuity examples
and the definitions needed to read them live here; helper lemmas are in
`EdbVerif/Lemmas/Topo.lean`.

Reading guide.  A graph is a list of entries in iteration order; `WF g` says
the keys are distinct (a Python `Mapping`).  Edges that point outside the graph
are ignored by the real code when `allow_unresolved` is set and rejected up
front otherwise, hence every edge relation below is restricted to present keys.
-/
import EdbVerif.Lemmas.Topo
import EdbVerif.Lemmas.OrdSet

namespace EdbVerif.C20
open EdbVerif.Topo

/-- Every item exactly once. -/
theorem topo_perm (g : Graph) (allow : Bool) (o : List Nat) (hwf : WF g)
    (h : sortEx g allow = .ok o) : o.Perm g.keys :=
  Topo.sortEx_perm g allow o hwf h

/-- Each item after all of its hard dependencies. -/
theorem topo_hard (g : Graph) (allow : Bool) (o : List Nat) (hwf : WF g)
    (h : sortEx g allow = .ok o) (a b : Nat) (hab : Hard g a b) :
    pos o b < pos o a :=
  Topo.sortEx_hard g allow o hwf h a b hab

/-- A cycle is reported exactly when hard ∪ control edges are cyclic; in
    particular soft edges never cause a failure. -/
theorem topo_cycle (g : Graph) (allow : Bool) (hwf : WF g) (hr : Resolved g allow) :
    (∃ i p, sortEx g allow = .cycle i p) ↔ Cyclic (fun a b => Hard g a b ∨ Ctrl g a b) :=
  Topo.sortEx_cycle_iff g allow hwf hr

/-- The reported cycle is real: the item named by the `CycleError` lies on a
    cycle of hard ∪ control edges (never on a merely soft one). -/
theorem topo_cycle_item (g : Graph) (allow : Bool) (hr : Resolved g allow) (i : Nat)
    (p : List Nat) (h : sortEx g allow = .cycle i p) :
    Relation.TransGen (fun a b => Hard g a b ∨ Ctrl g a b) i i :=
  Topo.sortEx_cycle h

/-- Soft edges are honoured whenever all edges together are acyclic. -/
theorem topo_soft (g : Graph) (allow : Bool) (hwf : WF g) (hr : Resolved g allow)
    (hac : ¬ Cyclic (fun a b => Hard g a b ∨ Ctrl g a b ∨ Weak g a b)) :
    ∃ o, sortEx g allow = .ok o ∧ ∀ a b, Weak g a b → pos o b < pos o a :=
  Topo.sortEx_soft g allow hwf hr hac

/-- Unresolved references are reported iff not allowed and one exists. -/
theorem topo_unres (g : Graph) (allow : Bool) :
    (∃ d i, sortEx g allow = .unresolved d i) ↔
      allow = false ∧ ∃ e ∈ g, ∃ d ∈ e.weak ++ e.merge ++ e.deps ++ e.ctrl, d ∉ g.keys :=
  Topo.sortEx_unres_iff g allow

/-- The recursion bound used by `sortEx` is never the reason for an answer:
    any larger fuel gives the same result (the depth of the DFS is bounded by
    the number of keys because `visiting` is duplicate-free). -/
theorem topo_fuel (g : Graph) (hwf : WF g) (fuel : Nat) (hf : g.length + 1 ≤ fuel) :
    topLoop g fuel g.keys {} = topLoop g (g.length + 1) g.keys {} :=
  Topo.topLoop_fuel_ge g fuel hf g.keys {}

/-! ### The container the determinism half rests on: `edb/common/ordered.py::OrderedSet`

`sortEx` consumes its edge lists in the given order; the real callers hand over
`OrderedSet`s.  These theorems say that, for EVERY history of operations, the
iteration order of an `OrderedSet` is a function of that history with the
insertion-order law, so "the given order" is well defined and reproducible. -/

open EdbVerif.OrdSet in
/-- every reachable state iterates each key exactly once -/
theorem oset_nodup (ops : List Op) : (run ops).Nodup := OrdSet.nodup_run ops

open EdbVerif.OrdSet in
/-- set semantics of every operation (refinement to the abstract set) -/
theorem oset_mem (s : OSet) (y : Nat) :
    (∀ x, y ∈ step s (.add x) ↔ y ∈ s ∨ y = x) ∧
    (∀ x, y ∈ step s (.discard x) ↔ y ∈ s ∧ y ≠ x) ∧
    (∀ xs, y ∈ step s (.update xs) ↔ y ∈ s ∨ y ∈ xs) ∧
    (∀ xs, y ∈ step s (.diff xs) ↔ y ∈ s ∧ y ∉ xs) ∧
    (∀ xs, y ∈ step s (.inter xs) ↔ y ∈ s ∧ y ∈ xs) ∧
    (∀ xs, y ∈ step s (.sym xs) ↔ ((y ∈ s ∧ y ∉ xs) ∨ (y ∉ s ∧ y ∈ xs))) ∧
    y ∉ step s .clear :=
  ⟨fun x => OrdSet.mem_add s x y, fun x => OrdSet.mem_discard s x y,
   fun xs => OrdSet.mem_update s xs y, fun xs => OrdSet.mem_diffUpdate s xs y,
   fun xs => OrdSet.mem_interUpdate s xs y, fun xs => OrdSet.mem_symUpdate s xs y, List.not_mem_nil⟩

open EdbVerif.OrdSet in
/-- refinement: after ANY history the container holds exactly the keys of the
    abstract set obtained by running the same history on membership predicates -/
theorem oset_refines (ops : List Op) (y : Nat) : y ∈ run ops ↔ specRun ops y :=
  OrdSet.mem_run ops y

open EdbVerif.OrdSet in
/-- insertion-order law: after any single operation the keys that survive keep
    their relative order and every key that was not present before comes after
    all of them (so re-adding a present key never moves it). -/
theorem oset_order (s : OSet) (op : Op) :
    ∃ (keep : Nat → Bool) (new : List Nat),
      step s op = s.filter keep ++ new ∧ ∀ y ∈ new, y ∉ s :=
  ⟨OrdSet.keep op, fresh s (ins op), step_eq s op, fun _ hy => (mem_fresh.1 hy).1⟩

open EdbVerif.OrdSet in
/-- `OrderedSet(iterable)` keeps first occurrences in order: it is a
    duplicate-free list with the members of the iterable -/
theorem oset_ofList (xs : List Nat) : (ofList xs).Nodup ∧ ∀ y, y ∈ ofList xs ↔ y ∈ xs :=
  ⟨OrdSet.nodup_ofList xs, OrdSet.mem_ofList xs⟩

open EdbVerif.OrdSet in
example : run [.update [3, 1, 3, 2], .add 1, .discard 3, .add 3, .sym [2, 7, 7], .inter [3, 7, 9]]
    = [3, 7] := by decide

/-! ### Non-vacuity: concrete graphs meeting the hypotheses -/

/-- diamond with a weak back edge and a control edge -/
def exG : Graph :=
  [ { key := 1, deps := [2, 3] }, { key := 2, deps := [4], weak := [1] },
    { key := 3, merge := [4], ctrl := [2] }, { key := 4 } ]

example : WF exG ∧ Resolved exG false ∧ sortEx exG false = .ok [4, 2, 3, 1] := by
  refine ⟨by unfold WF; decide, Or.inr (by decide), by decide⟩

example : sortEx [ { key := 1, deps := [2] }, { key := 2, ctrl := [1] } ] true = .cycle 1 [2] := by
  decide

example : sortEx [ { key := 1, deps := [9] } ] false = .unresolved 9 1 := by decide

end EdbVerif.C20
