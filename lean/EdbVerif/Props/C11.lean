/-
C11 — SDL is declarative: declaration order does not matter.

Property theorems about `EdbVerif.Sdl.build`, the model of
`edb/schema/ddl.py::apply_sdl` + `edb/edgeql/declarative.py::sdl_to_ddl`
(layout pass, `_register_item`, `topological.sort`, application loop).
Helper lemmas: `EdbVerif/Lemmas/Sdl*.lean`; the sort itself is C20.

Reading guide.  A document (`Doc`) is the token stream of the SDL text: module
block entries and declarations in textual order; every declaration (`Item`)
carries the names the real tracer reports for it — that part of the real code
(`tracer.py`) is an *input* of the model and is tied by the harness.
`graph d` is the `DepGraphEntry` map handed to `topological.sort`,
`build d` the schema obtained by applying the sorted DDL.  Permuting the
document changes the iteration order of that map and therefore the order of
the emitted DDL; the theorems say that neither the dependency relation nor the
built schema changes.  The hypothesis `Complete d` ("what a declaration needs is
reachable through traced hard dependencies") is exactly what the abstraction
of the tracer has to deliver; without it the statement is false
(`C11_incomplete_counterexample`, replayed on the real code by the harness).
-/
import EdbVerif.Lemmas.SdlOk

namespace EdbVerif.Sdl

/-- `abstract constraint c2 extending c1; abstract constraint c1;` as the real
    tracer sees it: c2 (name 2) needs c1 (name 1) but no dependency is traced -/
def cxDoc₁ : Doc :=
  [Tok.item { name := 2, body := 20, loc := 2, qloc := 2, req := [1] },
   Tok.item { name := 1, body := 10, loc := 1, qloc := 1 }]

def cxDoc₂ : Doc :=
  [Tok.item { name := 1, body := 10, loc := 1, qloc := 1 },
   Tok.item { name := 2, body := 20, loc := 2, qloc := 2, req := [1] }]

end EdbVerif.Sdl

namespace EdbVerif.C11
open EdbVerif.Topo EdbVerif.Sdl

/-- **Any two linear extensions agree.**  `Dep a b` = "a depends on b".  If
    steps that do not depend on each other commute (as partial state
    transformers), any two duplicate-free orderings of the same steps in which
    nothing precedes something it depends on give the same result. -/
theorem linear_extensions_equal {α σ : Type} (step : σ → α → Option σ) (Dep : α → α → Prop)
    (comm : ∀ a b, a ≠ b → ¬ Dep a b → ¬ Dep b a → CommuteAt step a b)
    {l₁ l₂ : List α} (hp : l₁.Perm l₂) (hn : l₁.Nodup)
    (h₁ : l₁.Pairwise fun x y => ¬ Dep x y) (h₂ : l₂.Pairwise fun x y => ¬ Dep x y) (s : σ) :
    runSteps step s l₁ = runSteps step s l₂ :=
  Sdl.linear_extensions_equal step Dep comm hp hn h₁ h₂ s

/-- **Independent declarations commute** in the concrete schema algebra: if
    neither needs the other, applying them in either order gives the same schema
    or fails in both orders. -/
theorem commute (s : Schema) (a b : Item) (h : Independent a b) :
    (s.apply a).bind (fun s' => s'.apply b) = (s.apply b).bind (fun s' => s'.apply a) :=
  mapAlgebra_commutes s a b h

/-- The traced dependency relations are functions of the *set* of declarations:
    hard, weak and loop-control edges and the presence of a dangling reference
    are the same for every permutation of the document (module grouping, all
    the ancestor / member / prefix closures of `_register_item` included). -/
theorem deps_perm {d₁ d₂ : Doc} (h : d₁.Perm d₂) :
    (∀ a b, DepHard d₁ a b ↔ DepHard d₂ a b) ∧ (∀ a b, DepWeak d₁ a b ↔ DepWeak d₂ a b) ∧
    (∀ a b, DepCtrl d₁ a b ↔ DepCtrl d₂ a b) ∧ (Dangling d₁ ↔ Dangling d₂) :=
  ⟨fun a b => by rw [depHard_perm h], fun a b => by rw [depWeak_perm h],
    fun a b => by rw [depCtrl_perm h], dangling_perm h⟩

/-- The emitted DDL is a linear extension: every declaration exactly once, after
    everything it has a hard dependency on (C20 transported to documents). -/
theorem C11_order (d : Doc) (hn : (names d).Nodup) (o : List Nat)
    (h : sortEx (graph d) false = .ok o) :
    o.Perm (names d) ∧ ∀ a b, DepHard d a b → o.idxOf b < o.idxOf a :=
  sort_ok_spec hn h

/-- **Order independence, for every schema algebra in which independent
    declarations commute**: two documents with the same declarations in a
    different order build the same result (the same schema, or the same kind of
    rejection), provided the tracer is complete for them. -/
theorem C11_perm_general {σ : Type} (A : Algebra σ) (hA : A.Commutes) (d₁ d₂ : Doc)
    (h : d₁.Perm d₂) (hv : Complete d₁) : buildWith A d₁ = buildWith A d₂ :=
  buildWith_perm A hA h hv

/-- **Order independence** for the concrete algebra. -/
theorem C11_perm (d₁ d₂ : Doc) (h : d₁.Perm d₂) (hv : Complete d₁) : build d₁ = build d₂ :=
  buildWith_perm mapAlgebra mapAlgebra_commutes h hv

/-- **Order independence at the three levels**: permuting top-level entries,
    the entries of (nested) module blocks and type / pointer bodies — `TPerm`
    — does not change the result. -/
theorem C11_perm_nested (t t' : List Top) (h : TPerm t t') (hv : Complete (toksList t)) :
    build (toksList t) = build (toksList t') :=
  buildWith_perm mapAlgebra mapAlgebra_commutes (tperm_toks h) hv

/-- **A valid acyclic document builds to exactly its declarations**: distinct
    names, every traced reference resolved, no hard ∪ control cycle, complete
    tracer ⇒ the emitted DDL applies without error and the schema maps every
    declared name to its declaration and nothing else. -/
theorem C11_ok (d : Doc) (hn : (names d).Nodup) (hd : ¬ Dangling d)
    (hc : ¬ Cyclic (fun a b => DepHard d a b ∨ DepCtrl d a b)) (hv : Complete d) :
    ∃ s, build d = .ok s ∧ ∀ k, s k = (find (collect d) k).map (·.body) :=
  build_ok hn hd hc hv

/-- **Cycle verdict**: a document is rejected as cyclic exactly when its names
    are distinct, every traced reference resolves, and the traced hard ∪
    loop-control relation has a cycle.  Weak references never cause it. -/
theorem C11_cycle (d : Doc) :
    build d = .cycle ↔
      (names d).Nodup ∧ ¬ Dangling d ∧ Cyclic (fun a b => DepHard d a b ∨ DepCtrl d a b) :=
  buildWith_cycle_iff mapAlgebra

/-- The cycle verdict does not depend on the order either (no completeness needed). -/
theorem C11_cycle_perm (d₁ d₂ : Doc) (h : d₁.Perm d₂) : build d₁ = .cycle ↔ build d₂ = .cycle := by
  rw [C11_cycle, C11_cycle, (names_perm h).nodup_iff, dangling_perm h, depHard_perm h,
    depCtrl_perm h]

/-- `completeB` (what the driver evaluates on every generated document) is a
    sound test for the hypothesis `Complete`. -/
theorem complete_of_completeB (d : Doc) (h : completeB d = true) : Complete d :=
  Sdl.complete_of_completeB h

/-- **The completeness hypothesis is necessary.**  `abstract constraint c2
    extending c1; abstract constraint c1;` as the real tracer reports it (no edge
    from c2 to c1 although c2 needs c1): the two orders are permutations of each
    other and build different results. -/
theorem C11_incomplete_counterexample :
    cxDoc₁.Perm cxDoc₂ ∧ ¬ Complete cxDoc₁ ∧ build cxDoc₁ ≠ build cxDoc₂ := by
  refine ⟨List.Perm.swap _ _ _, fun hc => ?_, fun h => ?_⟩
  · -- no declaration of `cxDoc₁` has a hard dependency, so no chain leads from 2 to its requirement 1
    have hnone : ∀ it ∈ collect cxDoc₁, hardDeps (collect cxDoc₁) it = [] := by decide
    have t := hc { name := 2, body := 20, loc := 2, qloc := 2, req := [1] } List.mem_cons_self 1
      (List.mem_singleton.mpr rfl)
    obtain ⟨_, -, it, hit, -, hb, -⟩ := Relation.TransGen.tail'_iff.mp t
    rw [hnone it hit] at hb
    cases hb
  · have h₁ : build cxDoc₁ = .applyError := rfl
    obtain ⟨s, h₂⟩ : ∃ s, build cxDoc₂ = .ok s := ⟨_, rfl⟩
    rw [h₁, h₂] at h
    cases h

/-! ### Non-vacuity: concrete documents meeting the hypotheses -/

/-- `type B extending A { property y := .x }` written BEFORE `abstract type A
    { property x -> str }`, in two module blocks; names: A=1 A@x=2 B=3 B@y=4 -/
def exDoc : Doc :=
  [ .enter 0,
    .item { name := 3, body := 30, loc := 3, qloc := 3, bases := [1], req := [1] },
    .item { name := 4, body := 40, loc := 9, qloc := 9, encl := [3], isPtr := true, isComp := true,
            erefs := [.ptr 1 [8]], req := [3, 2] },
    .enter 0,
    .item { name := 1, body := 10, loc := 1, qloc := 1 },
    .item { name := 2, body := 20, loc := 8, qloc := 8, encl := [1], isPtr := true, req := [1] } ]

example : Complete exDoc := complete_of_completeB exDoc (by decide +kernel)

example : sortEx (graph exDoc) false = .ok [1, 3, 2, 4] := by decide +kernel

example : ∃ s, build exDoc = .ok s ∧ s 4 = some 40 ∧ s 2 = some 20 := ⟨_, rfl, rfl, rfl⟩

/-- the same document with A's block first: another emitted order, the same schema -/
example : sortEx (graph (exDoc.drop 3 ++ exDoc.take 3)) false = .ok [1, 2, 3, 4] := by
  decide +kernel

example : build (exDoc.drop 3 ++ exDoc.take 3) = build exDoc :=
  C11_perm _ _ List.perm_append_comm
    (complete_of_completeB _ (by decide +kernel))

/-- a genuine cycle: two mutually recursive aliases -/
example : build [ .item { name := 1, loc := 1, qloc := 1, isView := true, erefs := [.obj 2], req := [2] },
                  .item { name := 2, loc := 2, qloc := 2, isView := true, erefs := [.obj 1], req := [1] } ]
    = .cycle := by rfl

/-- a near-cycle through a weak edge is not a cycle -/
example : ∃ s, build [ .item { name := 1, loc := 1, qloc := 1, wrefs := [.obj 2] },
                       .item { name := 2, loc := 2, qloc := 2, erefs := [.obj 1], req := [1] } ]
    = .ok s := ⟨_, rfl⟩

/-- nested permutation: swapping two members of a type body and two top-level entries -/
example (h₁ h₂ h₃ : Item) (t : Top) :
    TPerm [t, .decl (.mk h₁ [.mk h₂ [], .mk h₃ []])] [.decl (.mk h₁ [.mk h₃ [], .mk h₂ []]), t] :=
  .trans (.swap _ _ _) (.consDecl h₁ (.swap _ _ _) (.refl _))

end EdbVerif.C11
