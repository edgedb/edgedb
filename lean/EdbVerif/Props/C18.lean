/-
C18 — Quoted literals and identifiers cannot break out of their quotes.

For every string (byte string) that a quoted form can express, the text that
the system's quoting functions produce is read back as ONE token carrying the
original value, whatever follows it (`rest`), by
  * the EdgeQL tokenizer (`EdbVerif.Lex.lexOne`, model of tokenizer.rs +
    validation.rs + helpers/{strings,bytes}.rs, tied to the real Rust code by the
    differential run), resp.
  * PostgreSQL's lexical rules (`EdbVerif.PgLex`, a transcription of the
    PostgreSQL documentation — TRUSTED specification, see that file).
The quoting functions are the models in `EdbVerif.Quote` of
`edb/edgeql/quote.py`, `edb/edgeql/codegen.py` (visit_Constant /
visit_BytesConstant) and `edb/pgsql/common.py`, tied to the real Python code by
the differential run.  State of the code: after the fixes 269eaeb, 6e967b8,
1c83ec0, 878e057.

Reading guide.
  * `U : UClass` are Rust's `is_alphabetic` / `is_alphanumeric` outside ASCII and
    `P : PyUnicode` is CPython's Unicode database outside ASCII: every theorem
    holds for ALL such tables (the identifier theorem needs the inclusion
    `Compat P U`, which the harness checks on every code point of the real tables).
  * "what follows" (`rest`) is arbitrary for the string and bytes literals: the
    closing delimiter ends the token.  A back-quoted name must not be followed
    by another back-quote, a bare identifier must be followed by a
    non-identifier character; for SQL the PostgreSQL continuation rule
    ('…' <newline> '…' is ONE constant) has to be excluded.  Each theorem states
    its delimiter condition.
  * All EdgeQL statements now hold at full strength: the only guards left say
    what NO quoted form can express (NUL in a string; NUL / bidi control in a
    dollar string, which has no escapes; names that neither the back-quoted nor
    the bare form can carry).  Two SQL statements are still false (`quote_e_literal`,
    dead code; `edgedb_name_to_pg_name` on non-ASCII names): `_partial` + `_counterexample`.
  * Section "what the fixes repaired": the counterexamples that were true of
    the previous code, stated about `EdbVerif.QuoteOld`, next to the behaviour
    of the current code on the same inputs.
-/
import EdbVerif.Lemmas.QuoteConst
import EdbVerif.Lemmas.QuoteBytes
import EdbVerif.Lemmas.QuoteIdent
import EdbVerif.Lemmas.QuotePg
import EdbVerif.Lemmas.QuotePgTags
import EdbVerif.Model.QuoteOld

namespace EdbVerif.C18
open EdbVerif.Lex EdbVerif.Quote

/-- the token a string literal must be read back as -/
abbrev strTok (s : List Char) : Tok := ⟨.str, .str s⟩
/-- the token a bytes literal must be read back as -/
abbrev bytesTok (b : List UInt8) : Tok := ⟨.binStr, .bytes b⟩

/-- no NUL: the strings an EdgeQL string literal can express -/
def noNul (s : List Char) : Bool := s.all (fun c => c.toNat ≠ 0)

/-! ## EdgeQL string literal: `quote_literal` -/

/-- `quote_literal` is read back as one string token with the original value,
    for EVERY string without NUL, whatever follows. -/
theorem edgeql_str (U : UClass) (s rest : List Char) (h : noNul s = true) :
    lexOne U (quoteLiteral s ++ rest) = .ok (strTok s, rest) :=
  quoteLiteral_lex U s rest (by simpa [noNul] using h)

/-- NUL really is inexpressible: `quote_literal('\0')` = `'\x00'` is refused
    (so is `\u0000`); no EdgeQL string literal denotes it. -/
theorem edgeql_str_nul_rejected (U : UClass) :
    quoteLiteral [Char.ofNat 0] = ['\'', '\\', 'x', '0', '0', '\''] ∧
    lexOne U ['\'', '\\', 'x', '0', '0', '\''] = .error .badEscape ∧
    lexOne U ['\'', '\\', 'u', '0', '0', '0', '0', '\''] = .error .badEscape :=
  ⟨rfl, rfl, rfl⟩

/-! ## EdgeQL dollar-quoted literal: `dollar_quote_literal` -/

/-- `dollar_quote_literal` is read back as one string token with the original
    value for EVERY text a dollar string can carry (`dollarExpressible`: no NUL,
    no bidi control — a dollar string has no escapes), whatever follows. -/
theorem edgeql_dollar (U : UClass) (s rest : List Char) (h : dollarExpressible s = true) :
    ∃ q, dollarQuoteLiteral s = some q ∧ lexOne U (q ++ rest) = .ok (strTok s, rest) := by
  obtain ⟨q, hq, _, hl⟩ := dollarQuote_lex U s h
  exact ⟨q, hq, hl rest⟩

/-- The `while` loop of `dollar_quote_literal` always ends within
    `len(text) + 2` candidates (the fuel of the model is never exhausted): each
    rejected candidate occupies its own `$` position of the text. -/
theorem edgeql_dollar_total (s : List Char) : ∃ q, dollarQuoteLiteral s = some q :=
  dollarQuoteLiteral_isSome s

/-- The loop of `dollar_quote_literal` only ever settles on `$$` or on a tag
    `$<hex, least significant digit first, starting with a–f>$`, and the tag
    does not occur in the text followed by the tag minus its last `$`: the
    closing tag is the FIRST occurrence after the opening one. -/
theorem edgeql_dollar_tag (s t : List Char) (h : dollarTag s = some t) :
    GoodTag t ∧ Quote.contains t (s ++ t.dropLast) = false :=
  dollarTag_spec s t h

/-! ## The form `visit_Constant` picks -/

/-- `visit_Constant` (STRING) — plain `'…'`/`"…"`, raw `r'…'`, `$$…$$`,
    `$tag$…$tag$` or the escaped `quote_literal` form — is read back as one
    string token with the original value for EVERY string without NUL,
    whatever follows. -/
theorem edgeql_const (U : UClass) (s rest : List Char) (h : noNul s = true) :
    ∃ q, ppStr s = some q ∧ lexOne U (q ++ rest) = .ok (strTok s, rest) := by
  obtain ⟨q, hq, _, hl⟩ := ppStr_lex U s (by simpa [noNul] using h)
  exact ⟨q, hq, hl rest⟩

/-- `visit_Constant` always prints something (no fuel artefact) -/
theorem edgeql_const_total (s : List Char) : ∃ q, ppStr s = some q := by
  rcases ppStr_cases s with ⟨_, hq⟩ | ⟨_, ⟨_, _, _, hq⟩ | hq⟩
  · exact ⟨_, hq⟩
  · exact ⟨_, hq⟩
  · exact hq ▸ dollarQuoteLiteral_isSome s

/-! ## EdgeQL bytes literal: `visit_BytesConstant` -/

/-- `visit_BytesConstant` is read back as one bytes token with the original
    value for EVERY byte string, whatever follows. -/
theorem edgeql_bytes (U : UClass) (b : List UInt8) (rest : List Char) :
    lexOne U (ppBytes b ++ rest) = .ok (bytesTok b, rest) :=
  ppBytes_lex U b rest

/-! ## EdgeQL identifiers: `quote_ident` -/

/-- `quote_ident` (default flags) is read back as one identifier-like token
    (an `Ident`, or a keyword that is not reserved, or `__type__`/`__std__`)
    whose value is the original name, for EVERY name some identifier form can
    carry (`identExpressible`), provided Python's classes are inside the
    tokenizer's (`Compat P U`: a fact about the two Unicode tables; on the
    real ones — CPython 3.12 / Unicode 15.0 vs the rustc in use — the harness
    finds no exception among all 1 112 064 code points). -/
theorem edgeql_ident (U : UClass) (P : PyUnicode) (hc : Compat P U) (s rest : List Char)
    (h : identExpressible P s = true)
    (hd : identDelim U (needsQuoting P s false false) rest) :
    ∃ t, lexOne U (quoteIdent P s false false false ++ rest) = .ok (t, rest) ∧
      t.val = .str s ∧ IdentLike t.kind :=
  quoteIdent_lex U P hc s rest h hd

/-- `quote_ident(s, force=True)` on names the back-quoted form can carry -/
theorem edgeql_ident_forced (U : UClass) (P : PyUnicode) (s rest : List Char)
    (h : backtickExpressible s = true) (hq : rest.head? ≠ some '`') :
    lexOne U (quoteIdent P s true false false ++ rest) = .ok (⟨.ident, .str s⟩, rest) :=
  quoteIdentRaw_lex U s rest h hq

/-! ## The whole text is exactly one token

`lexAll` is the token stream (white space and comments skipped between
tokens, EOI excluded).  This is the shape of the harness oracle: real quoting
function → real tokenizer → one token (+EOI) with the original value. -/

theorem edgeql_str_single (U : UClass) (s : List Char) (h : noNul s = true) :
    lexAll U (quoteLiteral s) = ([strTok s], none) :=
  lexAll_single U _ _ rfl (by simpa using edgeql_str U s [] h) (by simp)

theorem edgeql_dollar_single (U : UClass) (s : List Char) (h : dollarExpressible s = true) :
    ∃ q, dollarQuoteLiteral s = some q ∧ lexAll U q = ([strTok s], none) := by
  obtain ⟨q, hq, hws, hl⟩ := dollarQuote_lex U s h
  exact ⟨q, hq, lexAll_single U q _ hws (by simpa using hl []) (by simp)⟩

theorem edgeql_const_single (U : UClass) (s : List Char) (h : noNul s = true) :
    ∃ q, ppStr s = some q ∧ lexAll U q = ([strTok s], none) := by
  obtain ⟨q, hq, hws, hl⟩ := ppStr_lex U s (by simpa [noNul] using h)
  exact ⟨q, hq, lexAll_single U q _ hws (by simpa using hl []) (by simp)⟩

theorem edgeql_bytes_single (U : UClass) (b : List UInt8) :
    lexAll U (ppBytes b) = ([bytesTok b], none) :=
  lexAll_single U _ _ rfl (by simpa using edgeql_bytes U b []) (by simp)

/-! ## SQL: `edb/pgsql/common.py` against the PostgreSQL lexical rules -/

/-- `quote_literal`: for every string without NUL (which no query can contain),
    followed by anything that does not start with a quote and is not a
    continuation (white space with a newline, then a quote), the standard
    string constant is read back with the original value. -/
theorem pg_literal (s rest : List Char) (h0 : ∀ c ∈ s, c.toNat ≠ 0)
    (hq : rest.head? ≠ some '\'') (hc : PgLex.continues false rest = false) :
    PgLex.lexStd (pgQuoteLiteral s ++ rest) = .ok (s, rest) :=
  PgLex.pgQuoteLiteral_lex s rest h0 hq hc

/-- the names `quote_ident` can print for PostgreSQL: non-empty, no NUL, at
    most 63 bytes (longer names are truncated by the server), and — when left
    bare — already in ASCII lower case (CPython's `lower()` guarantees it; the
    model's `P.lower` is arbitrary, hence the explicit condition) -/
def pgIdentExpressible (P : PyUnicode) (s : List Char) (force column : Bool) : Bool :=
  !s.isEmpty && s.all (fun c => c.toNat ≠ 0) && decide (PgLex.utf8Len s ≤ 63) &&
  (pgNeedsQuoting P s column || force || s.map PgLex.asciiLower = s)

theorem pgIdentExpressible_iff (P : PyUnicode) (s : List Char) (force column : Bool) :
    pgIdentExpressible P s force column = true ↔
      s ≠ [] ∧ (∀ c ∈ s, c.toNat ≠ 0) ∧ PgLex.utf8Len s ≤ 63 ∧
      (pgNeedsQuoting P s column = true ∨ force = true ∨ s.map PgLex.asciiLower = s) := by
  simp [pgIdentExpressible, and_assoc, or_assoc]

/-- what may follow the printed identifier: after `"…"` no double quote;
    after a bare name no identifier character, no quote (`e'…'` is another
    token) and no `&` after a lone `u` (`u&"…"`) -/
def pgIdentDelim (P : PyUnicode) (s : List Char) (force column : Bool) (rest : List Char) : Prop :=
  if pgNeedsQuoting P s column || force then rest.head? ≠ some '"' else PgLex.bareDelim s rest

/-- `quote_ident` (any `force`, `column`): read back as one identifier with the
    original name; a bare name may also be an unreserved key word or, with
    `column = False`, a column-name key word (PostgreSQL accepts those as
    identifiers in the positions the flag is about). -/
theorem pg_ident (P : PyUnicode) (s rest : List Char) (force column : Bool)
    (h : pgIdentExpressible P s force column = true) (hd : pgIdentDelim P s force column rest) :
    ∃ t, PgLex.lexIdent (pgQuoteIdent P s force column ++ rest) = .ok (t, rest) ∧
      PgLex.PgIdentLike column s t := by
  obtain ⟨hne, h0, hlen, hcase⟩ := (pgIdentExpressible_iff P s force column).mp h
  unfold pgIdentDelim at hd
  cases hq : (pgNeedsQuoting P s column || force) with
  | true =>
    simp only [hq, if_true] at hd
    refine ⟨.ident s, ?_, Or.inl rfl⟩
    simp only [pgQuoteIdent, hq, if_true]
    exact PgLex.pgQuoteIdentRaw_lex s rest hne h0 hlen hd
  | false =>
    simp only [hq, Bool.false_eq_true, if_false] at hd
    simp only [Bool.or_eq_false_iff] at hq
    have hlow : s.map PgLex.asciiLower = s := by
      rcases hcase with hcase | hcase | hcase
      · simp [hq.1] at hcase
      · simp [hq.2] at hcase
      · exact hcase
    simp only [pgQuoteIdent, hq.1, hq.2, Bool.or_self, Bool.false_eq_true, if_false]
    exact PgLex.pgBare_lex P s rest column hq.1 hlow hlen hd

/-- `quote_bytea_literal`: for EVERY byte string, `'\x…'::bytea` (or
    `''::bytea`) is read as a string constant, the cast, the type name, and
    `byteain` gives back the original bytes; `rest` must not continue the type
    name. -/
theorem pg_bytea (b : List UInt8) (rest : List Char)
    (hd : rest = [] ∨ ∃ c cs, rest = c :: cs ∧ PgLex.isIdentCont c = false) :
    PgLex.lexByteaLit (pgQuoteBytea b ++ rest) = .ok (b, rest) :=
  PgLex.pgQuoteBytea_lex b rest hd

/- FULL STATEMENT (false):
     ∀ s, (∀ c ∈ s, c.toNat ≠ 0) → lexEsc (pgQuoteELiteral s ++ rest) = .ok (s, rest)
   `quote_e_literal` escapes quotes but not backslashes (it keeps `\\` and `\'`
   sequences of its input as they are). -/

/-- `quote_e_literal` round-trips exactly the strings without backslash (and NUL). -/
theorem pg_eliteral_partial (s rest : List Char) (h0 : ∀ c ∈ s, c.toNat ≠ 0 ∧ c ≠ '\\')
    (hq : rest.head? ≠ some '\'') (hc : PgLex.continues false rest = false) :
    PgLex.lexEsc (pgQuoteELiteral s ++ rest) = .ok (s, rest) :=
  PgLex.pgQuoteELiteral_lex s rest h0 hq hc

/-- `quote_e_literal('\\') = "E'\\'"`: the backslash escapes the closing quote,
    the constant never ends; and `a\nb` (backslash, n) comes back as a newline. -/
theorem pg_eliteral_counterexample :
    PgLex.lexEsc (pgQuoteELiteral ['\\']) = .error .unterminated ∧
    PgLex.lexEsc (pgQuoteELiteral ['a', '\\', 'n', 'b']) = .ok (['a', '\n', 'b'], []) :=
  ⟨rfl, rfl⟩

/-! ## Long names: `edgedb_name_to_pg_name`

PostgreSQL silently truncates identifiers to NAMEDATALEN-1 = 63 BYTES, so
`pg_ident` needs `utf8Len ≤ 63`.  The code's guard against that is
`edgedb_name_to_pg_name`: names longer than `MAX_NAME_LENGTH` = 51 are replaced
by `<md5, base64, 22 chars>:<tail>`.  The md5 digest is a parameter
(`hash`); what is used of it: 22 characters, ASCII, not NUL. -/

/- FULL STATEMENT (false):
     ∀ name, edgedbNameToPgName hash name 0 = some r → PgLex.utf8Len r ≤ 63
   `len(name)` counts CHARACTERS, PostgreSQL counts BYTES: a name of ≤ 51
   characters that needs more than 63 bytes is returned unchanged. -/

/-- never more than 51 characters (prefix_length ≤ 27; every caller uses 0) -/
theorem pg_name_length (hash : List Char → List Char) (name r : List Char) (pl : Nat)
    (hh : (hash name).length = 22) (hpl : pl ≤ 27)
    (h : edgedbNameToPgName hash name pl = some r) : r.length ≤ 51 :=
  PgLex.edgedbName_length hash name r pl hh hpl h

/-- For ASCII names (non-empty, no NUL) the result is at most 51 bytes, and
    `quote_ident` of it (any `force` / `column`) is read back by PostgreSQL as
    one identifier with exactly that name: no truncation, no collision. -/
theorem pg_name_partial (P : PyUnicode) (hash : List Char → List Char) (name r rest : List Char)
    (pl : Nat) (force column : Bool)
    (hh : (hash name).length = 22) (hha : ∀ c ∈ hash name, c.toNat < 128 ∧ c.toNat ≠ 0)
    (hna : ∀ c ∈ name, c.toNat < 128 ∧ c.toNat ≠ 0) (hne : name ≠ []) (hpl : pl ≤ 27)
    (h : edgedbNameToPgName hash name pl = some r)
    (hd : pgIdentDelim P r force column rest) :
    PgLex.utf8Len r ≤ 51 ∧
    ∃ t, PgLex.lexIdent (pgQuoteIdent P r force column ++ rest) = .ok (t, rest) ∧
      PgLex.PgIdentLike column r t := by
  have hr : ∀ c ∈ r, c.toNat < 128 ∧ c.toNat ≠ 0 := by
    intro c hc
    rcases PgLex.edgedbName_mem hash name r pl h c hc with h1 | h1 | h1
    · exact hna c h1
    · exact hha c h1
    · subst h1; decide
  have hb : PgLex.utf8Len r ≤ 51 := by
    rw [PgLex.utf8Len_ascii r fun c hc => (hr c hc).1]
    exact PgLex.edgedbName_length hash name r pl hh hpl h
  refine ⟨hb, pg_ident P r rest force column ((pgIdentExpressible_iff P r force column).mpr
    ⟨PgLex.edgedbName_nonempty hash name r pl hne h, fun c hc => (hr c hc).2, by omega, ?_⟩) hd⟩
  cases hq : pgNeedsQuoting P r column with
  | true => exact Or.inl rfl
  | false =>
    refine Or.inr (Or.inr ?_)
    simp only [pgNeedsQuoting, Bool.or_eq_false_iff, decide_eq_false_iff_not, Decidable.not_not] at hq
    have hl := hq.2
    have hall : r.all (fun c => decide (c.toNat < 128)) = true := by
      simp only [List.all_eq_true, decide_eq_true_eq]; exact fun c hc => (hr c hc).1
    simp only [pyLower, hall, if_true] at hl
    -- `PgLex.asciiLower` is written like `Lex.asciiLower`
    exact hl

/-- `名`×25 + `~1` and `名`×25 + `~2` (27 characters, 77 bytes each) are returned
    unchanged; quoted, PostgreSQL reads BOTH as `名`×21 (63 bytes): two distinct
    names collide. -/
theorem pg_name_counterexample (hash : List Char → List Char) :
    let n1 := List.replicate 25 (Char.ofNat 0x540d) ++ ['~', '1']
    let n2 := List.replicate 25 (Char.ofNat 0x540d) ++ ['~', '2']
    edgedbNameToPgName hash n1 0 = some n1 ∧ edgedbNameToPgName hash n2 0 = some n2 ∧ n1 ≠ n2 ∧
    PgLex.utf8Len n1 = 77 ∧
    PgLex.lexIdent (pgQuoteIdentRaw n1) = .ok (.ident (List.replicate 21 (Char.ofNat 0x540d)), []) ∧
    PgLex.lexIdent (pgQuoteIdentRaw n2) = .ok (.ident (List.replicate 21 (Char.ofNat 0x540d)), []) :=
  ⟨rfl, rfl, by decide, rfl, rfl, rfl⟩

/-! ## dbops: bodies inside dollar tags (after f6e6d09), `COMMENT ON` splices (after 4eafb00)

`PLTopBlock.to_string` wraps every DDL block in `DO LANGUAGE plpgsql <tag> … <tag>`,
`dbops.CreateFunction` wraps the function text likewise; the tag is now chosen
against the body: `$__$`, `$__1$`, `$__2$`, … (resp. `$____funcbody____$`,
`$____funcbody1____$`, …) until `tag not in body + tag[:-1]`. -/

/-- the `DO` block `<tag>\\n{body}\\n<tag>` (`wrapNl body` is what sits between the tags): for EVERY
    body the loop finds a tag (within `len(body)+2` candidates) and PostgreSQL reads exactly the
    wrapped content back, whatever follows -/
theorem pg_do_block (body rest : List Char) :
    ∃ t, doTag body = some t ∧
      PgLex.lexDollarStr (t ++ wrapNl body ++ t ++ rest) = .ok (wrapNl body, rest) :=
  famTag_lex _ _ (by decide) ⟨_, _, rfl, rfl⟩ doTagOf doTagOf_eq body rest

/-- the function text: likewise -/
theorem pg_funcbody (body rest : List Char) :
    ∃ t, funcTag body = some t ∧
      PgLex.lexDollarStr (t ++ wrapNl body ++ t ++ rest) = .ok (wrapNl body, rest) :=
  famTag_lex _ _ (by decide) ⟨_, _, rfl, rfl⟩ funcTagOf funcTagOf_eq body rest

/-- a FIXED tag is only safe for bodies that do not contain it (what the code before f6e6d09 relied on) -/
theorem pg_fixed_tag (body rest : List Char)
    (h : findSub ('$' :: PgLex.doName ++ ['$']) (body ++ '$' :: PgLex.doName) = none) :
    PgLex.lexDollarStr (PgLex.wrap PgLex.doName body ++ rest) = .ok (body, rest) :=
  PgLex.fixedTag_lex PgLex.doName body rest (by decide) (by intro d tl e; cases e; decide) h

/-- `'COMMENT ON {type} {id} IS '` with `get_id_in_literal`: the string constant is read back with
    the object id intact (`type` is a key word without quotes; no NUL anywhere) -/
theorem pg_comment_on (T q rest : List Char) (hT : ∀ c ∈ T, c ≠ '\'' ∧ c.toNat ≠ 0)
    (hq0 : ∀ c ∈ q, c.toNat ≠ 0)
    (hr : rest.head? ≠ some '\'') (hc : PgLex.continues false rest = false) :
    PgLex.lexStd (commentOnStr T q ++ rest) =
      .ok ("COMMENT ON ".toList ++ T ++ [' '] ++ q ++ " IS ".toList, rest) := by
  -- doubling quotes distributes over `++` and leaves the quote-free pieces as they are
  have e : commentOnStr T q = pgQuoteLiteral ("COMMENT ON ".toList ++ T ++ [' '] ++ q ++ " IS ".toList) := by
    simp only [commentOnStr, pgQuoteLiteral, replaceChar_append, replaceChar_of_not_mem _ _ T (fun c hc => (hT c hc).1),
      -- `String.toList_ofList` first, here and below: a string literal is `String.ofList` of its characters, and
      -- the kernel then gets the character list instead of decoding the bytes of the string, the dearer part
      replaceChar_of_not_mem '\'' _ "COMMENT ON ".toList (by rw [String.toList_ofList]; decide +kernel),
      replaceChar_of_not_mem '\'' _ " IS ".toList (by decide), replaceChar_of_not_mem '\'' _ [' '] (by decide)]
  rw [e]
  refine pg_literal _ rest ?_ hr hc
  simp only [List.forall_mem_append]
  exact ⟨⟨⟨⟨by rw [String.toList_ofList]; decide +kernel, fun c h => (hT c h).2⟩, by decide⟩, hq0⟩, by decide +kernel⟩

/-! ## Parameters: `param_to_str` (after 237fcc6, 638d351) -/

/-- `param_to_str` is read back as ONE parameter token whose value is the
    original name, for every name some parameter form can carry
    (`paramExpressible`), under the table inclusion `Compat P U`.  Purely
    numeric names are left bare only when they are ASCII digits. -/
theorem edgeql_param (U : UClass) (P : PyUnicode) (hc : Compat P U) (s rest : List Char)
    (h : paramExpressible P s = true) (hd : paramDelim U (paramQuoted P s) rest) :
    lexOne U (paramToStr P s ++ rest) = .ok (⟨.parameter, .str s⟩, rest) :=
  paramToStr_lex U P hc s rest h hd

/-! ## What the fixes repaired

The counterexamples below were true of the code before the four fixes; they are
stated about `EdbVerif.QuoteOld` (the previous functions) and paired with what
the current functions do on the same input.  The harness does not replay them
as failures any more: on the current tree the inputs must pass. -/

/-- before 269eaeb: `dollar_quote_literal('x$') = '$$x$$$'`, read back as `x` + stray `$`;
    now `$a$x$$a$`, read back as `x$` -/
theorem fixed_dollar (U : UClass) :
    QuoteOld.dollarQuoteLiteral ['x', '$'] = some ['$', '$', 'x', '$', '$', '$'] ∧
    lexOne U ['$', '$', 'x', '$', '$', '$'] = .ok (strTok ['x'], ['$']) ∧
    dollarQuoteLiteral ['x', '$'] = some ['$', 'a', '$', 'x', '$', '$', 'a', '$'] ∧
    lexOne U ['$', 'a', '$', 'x', '$', '$', 'a', '$'] = .ok (strTok ['x', '$'], []) :=
  ⟨rfl, rfl, rfl, rfl⟩

/-- before 269eaeb: `'"$` was printed `$$'"$$$`; now `$a$'"$$a$` -/
theorem fixed_const_dollar (U : UClass) :
    QuoteOld.ppStr ['\'', '"', '$'] = some ['$', '$', '\'', '"', '$', '$', '$'] ∧
    lexOne U ['$', '$', '\'', '"', '$', '$', '$'] = .ok (strTok ['\'', '"'], ['$']) ∧
    ppStr ['\'', '"', '$'] = some ['$', 'a', '$', '\'', '"', '$', '$', 'a', '$'] :=
  ⟨rfl, rfl, rfl⟩

/-- before 1c83ec0: U+202E was printed raw by `quote_literal` and by
    `visit_Constant` and rejected; now both print `'\u202e'` -/
theorem fixed_bidi (U : UClass) :
    lexOne U (QuoteOld.quoteLiteral [Char.ofNat 0x202e]) = .error .prohibitedChar ∧
    QuoteOld.ppStr [Char.ofNat 0x202e] = some ['\'', Char.ofNat 0x202e, '\''] ∧
    quoteLiteral [Char.ofNat 0x202e] = ['\'', '\\', 'u', '2', '0', '2', 'e', '\''] ∧
    ppStr [Char.ofNat 0x202e] = some ['\'', '\\', 'u', '2', '0', '2', 'e', '\''] :=
  ⟨rfl, rfl, rfl, rfl⟩

/-- before 1c83ec0 a string with U+0085 went through Python's `repr` and came
    out as `'\x85'` (rejected: "only non-null ascii allowed"); now `'\u0085'` -/
theorem fixed_c1 (U : UClass) :
    lexOne U ['\'', '\\', 'x', '8', '5', '\''] = .error .badEscape ∧
    ppStr [Char.ofNat 0x85] = some ['\'', '\\', 'u', '0', '0', '8', '5', '\''] ∧
    lexOne U ['\'', '\\', 'u', '0', '0', '8', '5', '\''] = .ok (strTok [Char.ofNat 0x85], []) :=
  ⟨rfl, rfl, rfl⟩

/-- before 6e967b8: `b'\'` swallowed the closing quote, and the bytes `5c 6e`
    were printed `b'\n'` = ONE byte `0a`; now `b'\\'` and `b'\\n'` -/
theorem fixed_bytes (U : UClass) :
    lexOne U (QuoteOld.ppBytes [92]) = .error .unterminatedString ∧
    lexOne U (QuoteOld.ppBytes [92, 110]) = .ok (bytesTok [10], []) ∧
    ppBytes [92, 110] = ['b', '\'', '\\', '\\', 'n', '\''] :=
  ⟨rfl, rfl, rfl⟩

/-- before 878e057: `²a` (U+00B2: alphanumeric, not decimal, NOT alphabetic for
    CPython; not alphabetic for Rust) was left bare and rejected; now it is
    back-quoted -/
theorem fixed_ident (U : UClass) (P : PyUnicode)
    (h1 : P.isalnum (Char.ofNat 0xb2) = true) (h2 : P.isdecimal (Char.ofNat 0xb2) = false)
    (h2' : P.isalpha (Char.ofNat 0xb2) = false)
    (h3 : P.lower [Char.ofNat 0xb2, 'a'] = [Char.ofNat 0xb2, 'a'])
    (h4 : U.alpha (Char.ofNat 0xb2) = false) :
    QuoteOld.quoteIdent P [Char.ofNat 0xb2, 'a'] = [Char.ofNat 0xb2, 'a'] ∧
    lexOne U [Char.ofNat 0xb2, 'a'] = .error .unexpectedChar ∧
    quoteIdent P [Char.ofNat 0xb2, 'a'] false false false = quoteIdentRaw [Char.ofNat 0xb2, 'a'] ∧
    lexOne U (quoteIdentRaw [Char.ofNat 0xb2, 'a']) = .ok (⟨.ident, .str [Char.ofNat 0xb2, 'a']⟩, []) := by
  have hl : pyLower P [Char.ofNat 0xb2, 'a'] = [Char.ofNat 0xb2, 'a'] := by
    -- the name is not ASCII, so `pyLower` is `P.lower`
    have : ([Char.ofNat 0xb2, 'a'].all fun c => decide (c.toNat < 128)) = false := by decide +kernel
    simpa [pyLower, this] using h3
  have ha : pyIsAlnum P (Char.ofNat 0xb2) = true := by simpa [pyIsAlnum] using h1
  have hb : pyIsDecimal P (Char.ofNat 0xb2) = false := by simpa [pyIsDecimal] using h2
  have hal : pyIsAlpha P (Char.ofNat 0xb2) = false := by simpa [pyIsAlpha] using h2'
  have hw : pyIsWordStart P (Char.ofNat 0xb2) = true := by simp [pyIsWordStart, pyIsWord, ha, hb]
  have hm : matchIdent P [Char.ofNat 0xb2, 'a'] = true := by
    have : pyIsWord P 'a' = true := by simp [pyIsWord, pyIsAlnum, isAsciiLetter]
    simp [matchIdent, hw, this]
  have hr : isReservedKw [Char.ofNat 0xb2, 'a'] = false := by decide +kernel
  refine ⟨?_, ?_, ?_, rfl⟩
  · simp [QuoteOld.quoteIdent, QuoteOld.needsQuoting, hm, hl, hr]
  · have : isAlpha U (Char.ofNat 0xb2) = false := by simpa [isAlpha] using h4
    unfold lexOne
    simp [this, isDigit]
  · have hne : (Char.ofNat 0xb2) ≠ '_' := by decide +kernel
    have hns : Quote.hasNamespaceSep [Char.ofNat 0xb2, 'a'] = false := by decide +kernel
    simp [quoteIdent, needsQuoting, hns, hm, hl, hr, hal, hb, hne]

/-- before f6e6d09 the tags were constants: a correctly quoted literal `'$__$'` (an enum label)
    ended the `DO` body (`'` is read as the body, the rest runs as top-level SQL); now the loop
    moves on to `$__1$` -/
theorem fixed_do_block :
    PgLex.lexDollarStr (PgLex.wrap PgLex.doName (pgQuoteLiteral ['$', '_', '_', '$'])) =
      .ok (['\''], ['\'', '$', '_', '_', '$']) ∧
    doTag (pgQuoteLiteral ['$', '_', '_', '$']) = some ['$', '_', '_', '1', '$'] :=
  ⟨rfl, rfl⟩

/-- before 237fcc6 / 638d351 `param_to_str('1٢')` was `$1٢` (read as `$1` + stray `٢`); now `` $`1٢` `` -/
theorem fixed_param (U : UClass) (P : PyUnicode) (h2 : U.alpha (Char.ofNat 0x662) = false)
    (h3 : P.isalpha (Char.ofNat 0x662) = false) :
    lexOne U ['$', '1', Char.ofNat 0x662] = .ok (⟨.parameter, .str ['1']⟩, [Char.ofNat 0x662]) ∧
    paramToStr P ['1', Char.ofNat 0x662] = '$' :: quoteIdentRaw ['1', Char.ofNat 0x662] := by
  constructor
  · rw [lexOne_dollar]
    simp [lexDollar, isAlpha, isAsciiLetter, isDigit, isTagChar, spanTag, h2]
  · have hne : (Char.ofNat 0x662) ≠ '_' := by decide +kernel
    simp [paramToStr, quoteIdent, hne, isDigit, pyIsAlpha, isAsciiLetter, h3]

/-! ## Non-vacuity: the guards are met by non-trivial inputs -/

example : noNul "it's a \\ \"test\"\n\t$$ \x01".toList = true := by
  rw [String.toList_ofList]
  decide +kernel
example : dollarExpressible "a$$b'\"$a$c$".toList = true ∧
    dollarTag "a$$b'\"$a$c$".toList = some "$b$".toList := by
  rw [String.toList_ofList, String.toList_ofList]
  decide +kernel
example : ppStr "both ' and \" and $".toList = some "$a$both ' and \" and $$a$".toList := by
  rw [String.toList_ofList, String.toList_ofList]
  decide +kernel
example : identExpressible PyUnicode.ascii "select".toList = true ∧
    quoteIdent PyUnicode.ascii "select".toList false false false = "`select`".toList := by decide +kernel
example : identExpressible PyUnicode.ascii "abort".toList = true ∧
    quoteIdent PyUnicode.ascii "abort".toList false false false = "abort".toList := by decide +kernel
example : identExpressible PyUnicode.ascii "my `odd` name".toList = true := by
  rw [String.toList_ofList]
  decide +kernel
example : identExpressible PyUnicode.ascii "__type__".toList = true := by decide +kernel
example : paramExpressible PyUnicode.ascii "my param".toList = true ∧ paramExpressible PyUnicode.ascii "10".toList = true ∧
    paramToStr PyUnicode.ascii "10".toList = "$10".toList := by decide +kernel
example : Compat PyUnicode.ascii UClass.ascii := by
  refine ⟨fun c h => ?_, fun c h => ?_⟩
  · simp only [pyIsAlpha, PyUnicode.ascii] at h
    simp only [isAlpha]
    split at h <;> simp_all
  · simp only [pyIsWord, pyIsAlnum, PyUnicode.ascii, Bool.or_eq_true, decide_eq_true_eq] at h
    rcases h with h | h
    · right
      simp only [isAlnum]
      split at h <;> simp_all
    · exact Or.inl h
example : pgIdentExpressible PyUnicode.ascii "User \"x\"".toList false false = true ∧
    pgIdentExpressible PyUnicode.ascii "plain_name1".toList false false = true := by
  rw [String.toList_ofList, String.toList_ofList]
  decide +kernel
example : pgQuoteIdent PyUnicode.ascii "select".toList false false = "\"select\"".toList ∧
    pgQuoteIdent PyUnicode.ascii "abort".toList false false = "abort".toList := by
  rw [String.toList_ofList, String.toList_ofList, String.toList_ofList]
  decide +kernel
example : (PgLex.bareDelim "abort".toList " x".toList) := by
  rw [String.toList_ofList, String.toList_ofList]
  refine ⟨Or.inr ⟨' ', ['x'], rfl, by decide⟩, by decide, by decide⟩

end EdbVerif.C18
