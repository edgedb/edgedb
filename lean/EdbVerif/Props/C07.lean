/-
C07 — Access policies guard every read path.

Property theorems about `EdbVerif.Policy`, the model of
`edb/edgeql/compiler/policies.py` (`get_rewrite_filter`, `has_own_policies`,
`try_type_rewrite`) and of the way `range_for_material_objtype` reads a
`(type, skip_subtypes)` key (through its rewrite when it has one).  Only
statements, non-vacuity examples and concrete witnesses live here; proofs are in
`EdbVerif/Lemmas/Policy*.lean`.

Reading guide.  `WF sch` lists the invariants of the stored schema data the
real functions read (topological listing = the inheritance graph is a DAG,
stored ancestors = closure of bases, inherited policies).  `holds c o` is the
truth of the opaque policy condition `c` on object `o`.  `visible` is the
decision taken from the policies *of the object's own concrete type*.
`selectType sch holds db t` is what `select T` yields: the key `(t, false)` read
through the `type_rewrites` entries `try_type_rewrite` builds.

What is a theorem and what is not: these theorems are about *plans* (the
`type_rewrites` map and how keys are read).  That every relation in the SQL the
compiler emits for a query is read through its key's rewrite is audited per
generated query by `harness/props/c07.py`, not proved.  Likewise the compilation
context of policy bodies (`suppress_rewrites`, the per-security-context caches of
schema aliases and computed globals) is not modelled: "a view compiled inside a
policy body is never reused by the statement proper" is an audit rule on the real
IR/SQL, not a theorem.
-/
import EdbVerif.Lemmas.PolicyExact
import EdbVerif.Lemmas.PolicyCond

namespace EdbVerif.C07
open EdbVerif.Policy

/-- **C07_decision.**  An object is visible iff its concrete type has no policy
    at all, or some select-kind `allow` policy of its type holds for it and no
    select-kind `deny` policy of its type does. -/
theorem C07_decision (sch : Schema) (holds : CondId → Obj → Bool) (o : Obj) :
    visible sch holds o = true ↔
      polsOf sch o.ty = [] ∨
      ((∃ p ∈ polsOf sch o.ty, Kind.select ∈ p.kinds ∧ p.allow = true ∧ holds p.cond o = true) ∧
       ¬ ∃ p ∈ polsOf sch o.ty, Kind.select ∈ p.kinds ∧ p.allow = false ∧ holds p.cond o = true) := by
  show ((polsOf sch o.ty).isEmpty || decision .select (polsOf sch o.ty) (fun c => holds c o)) = true ↔ _
  rw [Bool.or_eq_true, decision_iff, List.isEmpty_iff]

/-- **C07_filter.**  The formula `get_rewrite_filter` builds — (OR of the allow
    conditions, `false` when there is none) AND NOT (OR of the deny conditions),
    `OR` the never-true anti-optimisation term for `select` — denotes exactly the
    decision, for every access kind; and there is a filter iff the type has a
    policy of any kind (so a type with only non-select policies reads as empty). -/
theorem C07_filter (mode : Kind) (pols : List Pol) (ρ : CondId → Bool) :
    (rewriteFilter mode pols = none ↔ pols = []) ∧
    ∀ f, rewriteFilter mode pols = some f → denote ρ f = decision mode pols ρ :=
  ⟨rewriteFilter_none_iff mode pols, fun f h => denote_rewriteFilter mode pols f h ρ⟩

/-- **C07_plan_nobypass.**  On every inheritance DAG, for every placement and
    kind of policies, every key and every fuel: whatever reading the key through
    the rewrite plan yields is an object of the database, of the key's type (or a
    subtype, for a non-skip key), that the policies of *its own concrete type*
    make visible.  No read path through the plan bypasses a policy — in
    particular not the policy of a descendant reached through an ancestor, a
    diamond or an abstract type. -/
theorem C07_plan_nobypass (sch : Schema) (wf : WF sch) (holds : CondId → Obj → Bool) (db : DB)
    (fuel : Nat) (k : Key) (o : Obj) (h : o ∈ evalKey sch holds db fuel k) :
    o ∈ db ∧ inScope sch k o = true ∧ visible sch holds o = true :=
  evalKey_sound wf holds db fuel k o h

/-- `select T` never shows a hidden object. -/
theorem C07_select_nobypass (sch : Schema) (wf : WF sch) (holds : CondId → Obj → Bool) (db : DB)
    (t : TypeId) (o : Obj) (h : o ∈ selectType sch holds db t) :
    o ∈ db ∧ inScope sch ⟨t, false⟩ o = true ∧ visible sch holds o = true :=
  evalKey_sound wf holds db _ _ o h

/-- The scope of a non-skip key (computed from the stored ancestors) is exactly
    spec-level subtyping (`Sub`: reflexive–transitive closure of declared bases),
    so "`inScope ⟨t,false⟩ o`" above reads "`type o ≤ t`". -/
theorem C07_scope_is_subtyping (sch : Schema) (wf : WF sch) (t : TypeId) (o : Obj) :
    inScope sch ⟨t, false⟩ o = true ↔ Sub sch o.ty t :=
  inScope_iff_sub wf t o

/-- **C07_registration_independent_of_conditions.**  What `try_type_rewrite`
    registers for a key — nothing, a filter, or a union and over which keys —
    does not depend on what the policy conditions *are*: replacing every
    condition (`mapCondS f`: any renaming of the opaque conditions, e.g. adding a
    `typeof` conjunct to an expression) changes only the leaves of the filter
    formula.  In particular a key has a rewrite before iff it has one after.

    Scope: in the model a condition is an opaque id, so this says that the
    *algorithm* never looks at conditions.  The two `typeof` defects fixed by
    6c16588 lived below this level (the compiler's `type_rewrites` dict was
    rebound while a policy body was being compiled); "compiling a condition has
    no side effect on the registry" is guarded by the harness oracles
    `plan:rewrite-lost`, `corpus:typeof-*` and the SQL audit, not by this theorem. -/
theorem C07_registration_independent_of_conditions (f : CondId → CondId) (sch : Schema) (k : Key) :
    entry (mapCondS f sch) k = (entry sch k).mapCond f ∧
    (entry (mapCondS f sch) k = .none ↔ entry sch k = .none) :=
  ⟨entry_mapCondS f sch k, entry_registered_iff f sch k⟩

/-- **C07_terminates.**  The two recursions (`has_own_policies` over children,
    and key references through union entries) are bounded by the number of
    types on every DAG: any fuel ≥ `#types` (resp. `#types + 1`) gives the same
    answer, so the fuel used by the model never decides anything. -/
theorem C07_terminates (sch : Schema) (wf : WF sch) :
    (∀ fuel c s, sch.length ≤ fuel → hasOwn sch fuel c s = hasOwn sch sch.length c s) ∧
    (∀ holds db fuel k, sch.length + 1 ≤ fuel →
        evalKey sch holds db fuel k = evalKey sch holds db (sch.length + 1) k) :=
  ⟨fun fuel c s h => hasOwn_stable wf fuel sch.length c s (Nat.le_trans h (Nat.le_add_left ..))
     (Nat.le_add_left ..),
   fun holds db fuel k h =>
     evalKey_stable wf holds db fuel (sch.length + 1) k
       (Nat.le_trans (need_le sch k) h) (need_le sch k)⟩

/-- **C07_plan_partial** (exact coverage, no duplicates — on forests).  If below
    `t` the hierarchy is a forest (`TreeBelow`: two children of a type never share
    a type below them — no diamonds or redundant bases below `t`, view types
    included; then the overlap branch of `try_type_rewrite` is never taken), then
    `select t` yields,
    as a bag, exactly the objects of the database whose concrete type is `t` or
    a subtype and that are visible: nothing hidden, nothing missing, nothing
    twice.  Policies may sit anywhere (on `t`, above it, below it), abstract
    types anywhere.

    The full statement wanted by the design —
    `∀ sch t, WF sch → WFDB sch db → selectType … t ~ db.filter (inScope ⟨t,false⟩ ∧ visible)`
    for *every* DAG — is FALSE of the code that exists: see the two
    counterexample theorems below (children with own policies that overlap:
    direct children are dropped; a redundant base: duplicates).  What holds on
    every DAG is `C07_plan_nobypass`. -/
theorem C07_plan_partial (sch : Schema) (wf : WF sch) (holds : CondId → Obj → Bool) (db : DB)
    (hdb : WFDB sch db) (t : TypeId) (htree : TreeBelow sch t) :
    (selectType sch holds db t).Perm
      (db.filter (fun o => inScope sch ⟨t, false⟩ o && visible sch holds o)) :=
  evalKey_perm wf holds db hdb _ _ (need_le sch _) fun _ => htree

/-! ### Concrete hierarchies (non-vacuity and witnesses)

`p0 = allow select when c0`, `p1 = deny select when c1`. -/

def p0 : Pol := { name := 0, allow := true, kinds := [.select], cond := 0 }
def p1 : Pol := { name := 1, allow := false, kinds := [.select], cond := 1 }

/-- diamond `0 ← 1, 2 ← 3`; `p0` declared on 0, `p1` on 3 -/
def diamond : Schema :=
  [ { id := 0, bases := [], ancestors := [], abstract := false, material := true,
      pols := [⟨p0, []⟩] },
    { id := 1, bases := [0], ancestors := [0], abstract := false, material := true,
      pols := [⟨p0, [0]⟩] },
    { id := 2, bases := [0], ancestors := [0], abstract := false, material := true,
      pols := [⟨p0, [0]⟩] },
    { id := 3, bases := [2, 1], ancestors := [2, 1, 0], abstract := false, material := true,
      pols := [⟨p0, [2, 1]⟩, ⟨p1, []⟩] } ]

/-- one object per type; `c0` holds for all of them, `c1` for none -/
def diamondDB : DB := [⟨10, 0⟩, ⟨11, 1⟩, ⟨12, 2⟩, ⟨13, 3⟩]
def holdsC0 : CondId → Obj → Bool := fun c _ => c == 0

theorem diamond_wf : WF diamond := by decide +kernel
theorem diamond_wfdb : WFDB diamond diamondDB := by
  unfold WFDB
  decide

example : WF diamond := diamond_wf
example : WFDB diamond diamondDB := diamond_wfdb

/-- the entries the real compiler builds for this schema (see `harness/props/c07.py`,
    witness `w-diamond`) -/
example : entry diamond ⟨0, false⟩ = .union [⟨0, true⟩, ⟨3, true⟩] := by decide
example : entry diamond ⟨1, false⟩ = .union [⟨1, true⟩, ⟨3, false⟩] := by decide
example : entry diamond ⟨3, false⟩
    = .filter (.or (.and (.cond 0) (.not (.cond 1))) .bogus) := by decide

/-- **Counterexample to exact coverage (overlap branch).**  When children with
    own policies overlap, `try_type_rewrite` lists `descs` — the descendants *of
    the children* — and the children themselves are lost: all four objects are
    visible, `select 0` yields only two of them.  (No bypass, but objects of the
    direct children silently disappear.)  Replayed on the real compiler by the
    harness (key `plan:missing:overlap-drops-children`). -/
theorem C07_plan_exact_counterexample_overlap :
    WF diamond ∧ WFDB diamond diamondDB ∧
    (∀ o ∈ diamondDB, inScope diamond ⟨0, false⟩ o = true ∧ visible diamond holdsC0 o = true) ∧
    selectType diamond holdsC0 diamondDB 0 = [⟨10, 0⟩, ⟨13, 3⟩] :=
  ⟨diamond_wf, diamond_wfdb, by decide, by decide +kernel⟩

/-- `0 ← 1 ← 2` with the redundant base `2 ← 0`; `p0` on 0, `p1` on 2 -/
def redundant : Schema :=
  [ { id := 0, bases := [], ancestors := [], abstract := false, material := true,
      pols := [⟨p0, []⟩] },
    { id := 1, bases := [0], ancestors := [0], abstract := false, material := true,
      pols := [⟨p0, [0]⟩] },
    { id := 2, bases := [1, 0], ancestors := [1, 0], abstract := false, material := true,
      pols := [⟨p0, [1, 0]⟩, ⟨p1, []⟩] } ]

/-- **Counterexample to "no duplicates" (redundant base).**  The overlap test
    only compares the *strict* descendants of the children, so a child that is
    also a descendant of another child is unioned twice: `select 0` yields the
    object of type 2 twice.  Replayed on the real compiler by the harness (key
    `plan:dup:redundant-base-duplicates`). -/
theorem C07_plan_exact_counterexample_redundant_base :
    WF redundant ∧
    selectType redundant holdsC0 [⟨10, 0⟩, ⟨11, 1⟩, ⟨12, 2⟩] 0 = [⟨10, 0⟩, ⟨11, 1⟩, ⟨12, 2⟩, ⟨12, 2⟩] :=
  ⟨by decide +kernel, by decide +kernel⟩

/-- a tree `0 ← 1 ← 3`, `0 ← 2` (1 abstract) with `p0` on 0, `p1` on 1: the hypotheses
    of `C07_plan_partial` are satisfiable with a union entry at the root -/
def tree : Schema :=
  [ { id := 0, bases := [], ancestors := [], abstract := false, material := true,
      pols := [⟨p0, []⟩] },
    { id := 1, bases := [0], ancestors := [0], abstract := true, material := true,
      pols := [⟨p0, [0]⟩, ⟨p1, []⟩] },
    { id := 2, bases := [0], ancestors := [0], abstract := false, material := true,
      pols := [⟨p0, [0]⟩] },
    { id := 3, bases := [1], ancestors := [1, 0], abstract := false, material := true,
      pols := [⟨p0, [1]⟩, ⟨p1, [1]⟩] } ]

example : WF tree ∧ TreeBelow tree 0 ∧ entry tree ⟨0, false⟩ = .union [⟨0, true⟩, ⟨1, false⟩, ⟨2, false⟩]
    ∧ entry tree ⟨1, false⟩ = .filter (.or (.and (.cond 0) (.not (.cond 1))) .bogus) :=
  ⟨by decide +kernel, (regular_of_check (by decide +kernel)).tree, by decide, by decide⟩

/-- non-vacuity of `C07_plan_nobypass`: with `c1` true for object 13 the deny
    policy of the diamond's bottom type hides it on every path -/
example : selectType diamond (fun c o => c == 0 || (c == 1 && o.id == 13)) diamondDB 1 = [⟨11, 1⟩] := by decide +kernel
example : selectType diamond (fun c o => c == 0 || (c == 1 && o.id == 13)) diamondDB 3 = [] := by decide

end EdbVerif.C07
