/-
C16 — every connection request is eventually served.

Same model as C15 (`Model/Pool.lean`; a transition = one atomic section of pool.py, floats and
the clock = the environment `env`).  What is proved here is the SAFETY core of the property
and local progress; the liveness statement itself is FALSE of the model — and of the real
pool — already in fault-free fair runs: see the two counterexample theorems at the end (the
same schedules hang the real `Pool` under plain asyncio: notes/C16-repro-1.py, -2.py, and
corpus/C16/hang-1-*, hang-2-*; a third class, Mode D, depends on float-calibrated quotas and
is only demonstrated on the real pool: notes/C16-repro-3.py).

Scope: histories without `prune_inactive_connections` events (`NoPruneInactive`;
`prune_all_connections` is covered); the per-step oracle of the harness checks the same clauses on the real
pool for all histories.

Reading guide (`Model/PoolSpec.lean`): `Inv₂ s` = for every block, if somebody sleeps in its
queue then `|stack| ≤ #woken-and-not-yet-resumed`; `InvQ s` = `Inv₂` + the queue of a block
lists exactly its sleeping waiters, every sleeping waiter is in the queue of its block,
`conn_waiters_num` counts the tasks inside `try_acquire`, ids are unique, a request is
either waiting or holding.
-/
import EdbVerif.Lemmas.PoolPQ
import EdbVerif.Lemmas.PoolC16

namespace EdbVerif.C16
open EdbVerif.Pool

/-- No lost wake-up, for all histories without `prune_inactive_connections` events
    (`prune_all_connections` is allowed), all capacities, any number of databases, every
    environment: an idle connection never sits in a block while all of the block's waiters sleep. -/
theorem no_lost_wakeup (max : Nat) (evs : List (Env × Ev)) (hev : ∀ x ∈ evs, NoPruneInactive x.2) :
    Inv₂ (run (init max) evs) :=
  (runQ' evs hev _ ⟨init_inv max, init_q max⟩).2.inv2

/-- The whole waiter bookkeeping is invariant (and so is C15's `InvNum`, jointly). -/
theorem waiters_consistent (max : Nat) (evs : List (Env × Ev)) (hev : ∀ x ∈ evs, NoPruneInactive x.2) :
    InvNum (run (init max) evs) ∧ InvQ (run (init max) evs) :=
  runQ' evs hev _ ⟨init_inv max, init_q max⟩

/-- … as a one-step statement: preserved by every transition for every environment choice. -/
theorem waiters_step (s : State) (env : Env) (e : Ev) (h : InvNum s ∧ InvQ s) (he : NoPruneInactive e) :
    InvNum (step s env e) ∧ InvQ (step s env e) :=
  stepQ' h env e he

/-- `abort_all`: when a connect failure exhausts the retries (or is 3D000, "database does not
    exist"), `_connect` empties the queue of the block and every sleeping waiter of the block
    gets the error. -/
theorem abort_all (s : State) (h : InvNum s ∧ InvQ s) (u : Nat) (b : Block) (hb : s.find u = some b)
    (is3D : Bool) (hex : is3D = true ∨ b.failures ≥ RETRIES) :
    (∀ b', (connFail s u is3D).find u = some b' → b'.queue = []) ∧
    (∀ w ∈ s.waiters, w.block = u → w.st = .queued →
      ({ w with st := .aborted } : Waiter) ∈ (connFail s u is3D).waiters) := by
  rw [connFail_exhausted hb is3D hex]
  exact (fun hc : PQ (connFailCounters s u _) => abortWaiters_spec hc.1.uids hc.2 (find_connFailCounters hb _))
    (primsQ.connFailCore _ h hb).1

/-- … and a request that got the error leaves `acquire` with it: it is no longer waiting and
    holds nothing. -/
theorem aborted_request_completes (s : State) (id : Nat) (w : Waiter) (b : Block)
    (hfind : s.waiters.find? (·.id == id) = some w) (hb : s.find w.block = some b)
    (hst : w.st = .aborted) (hp : w.prune = false) :
    (∀ x ∈ (resume s id).waiters, x.id ≠ id) ∧ (resume s id).holders = s.holders ∧
    (resume s id).err = s.err := by
  simp only [resume, hfind, hb, hst, hp, Bool.false_eq_true, ↓reduceIte]
  exact ⟨fun x hx => by simpa using (List.mem_filter.mp hx).2,
    of_ite (P := fun X : State => X.holders = s.holders ∧ X.err = s.err) (fun _ => ⟨rfl, rfl⟩)
      fun _ => wakeNext_frame s w.block⟩

/-- `woken_empty`: a woken waiter that finds the stack empty re-enters at the FRONT of the
    queue, and `conn_waiters_num` is unchanged. -/
theorem woken_empty (s : State) (id : Nat) (w : Waiter) (b : Block)
    (hfind : s.waiters.find? (·.id == id) = some w) (hb : s.find w.block = some b)
    (hst : w.st = .woken) (hp : w.prune = false) (he : b.stack = []) (ha : 1 ≤ w.attempts) :
    ∃ b', (resume s id).find w.block = some b' ∧ b'.queue = id :: b.queue ∧
      b'.waitersNum = b.waitersNum ∧ b'.stack = [] ∧
      (⟨id, w.block, .queued, w.attempts + 1, false⟩ : Waiter) ∈ (resume s id).waiters :=
  Pool.woken_empty hfind hb hst hp he ha

/-- Local progress (`C16_partial`): a connection released into (or connected for) a block
    whose queue is `r :: rest` wakes exactly the head `r` and stays on the stack for it.
    Together with `no_lost_wakeup` and `woken_empty` this is all the liveness the code has:
    a sleeping waiter is served by the next connection that reaches its block, unless that
    connection is taken away again before the waiter resumes. -/
theorem C16_partial (s : State) (u c r : Nat) (rest : List Nat) (b : Block) (hb : s.find u = some b)
    (hq : b.queue = r :: rest) (w : Waiter) (hw : w ∈ s.waiters) (hid : w.id = r) :
    ({ w with st := .woken } : Waiter) ∈ (blockRelease s u c).waiters ∧
    ∃ b', (blockRelease s u c).find u = some b' ∧ b'.stack = b.stack ++ [c] ∧ b'.queue = rest := by
  have hb1 : (s.mod u fun b => { b with stack := b.stack ++ [c] }).find u
      = some { b with stack := b.stack ++ [c] } := State.find_mod_at hb fun _ => rfl
  simp only [blockRelease, wakeNext, hb1, hq]
  exact ⟨setWoken_eq hid ▸ List.mem_map_of_mem (f := setWoken r) hw, _, State.find_mod_at hb1 fun _ => rfl, rfl, rfl⟩

/-
The full statement — NOT a theorem, refuted below:

  theorem C16 (fair run: every enabled internal event eventually happens, holders release,
               connects eventually succeed, timers keep firing; any number of blocks) :
      every `acq r d` is eventually followed by a state in which `r` holds a connection of `d`

`not_stuck` (a blocked request ⇒ some internal event is enabled that changes the state, or
some holder exists) is refuted by the same witnesses: in a `Dead` state nothing is in flight,
nobody holds a connection, all waiters sleep, and the only enabled events — `_tick` and
`_run_gc` — are the identity for EVERY environment.
-/

/-- Counterexample 1 (GC race, `max = 1`, two databases, no fault): a fair history — every
    event of it is enabled (`err = none`) — ends in a `Dead` state with a sleeping request and
    all capacity free. -/
theorem C16_counterexample_gc_race :
    ∃ evs : List (Env × Ev), (∀ x ∈ evs, Prims.NoPruneEv x.2) ∧ Dead (run (init 1) evs) ∧
      (run (init 1) evs).cur = 0 :=
  have h : Drained (run (init 1) gcRace) ∧ (run (init 1) gcRace).cur = 0 := by unfold Drained; decide +kernel
  ⟨gcRace, Prims.noPrune_all (by decide), dead_of_drained h.1, h.2⟩

/-- Counterexample 2 (a `_tick` in the loop iteration of two `release()`s shrinks the block —
    discarding its whole idle stack — before the woken waiter resumes; `max = 3`, no fault):
    again a `Dead` state with a sleeping request and an empty pool. -/
theorem C16_counterexample_tick_shrink :
    ∃ evs : List (Env × Ev), (∀ x ∈ evs, Prims.NoPruneEv x.2) ∧ Dead (run (init 3) evs) ∧
      (run (init 3) evs).cur = 0 :=
  have h : Drained (run (init 3) tickShrink) ∧ (run (init 3) tickShrink).cur = 0 := by
    unfold Drained; decide +kernel
  ⟨tickShrink, Prims.noPrune_all (by decide), dead_of_drained h.1, h.2⟩

/-! ### Non-vacuity -/

example : InvQ (run (init 1) gcRace) :=
  (waiters_consistent 1 gcRace (fun x hx => (Prims.noPrune_all (by decide) x hx).1)).2

/-- a state in which `Inv₂` is not vacuous: a sleeping waiter, an idle connection, a woken waiter -/
def exEvs : List (Env × Ev) :=
  [({}, .acq 0 0), ({}, .acq 1 0), ({}, .start 0), ({}, .cdone 0 true false)]

example : (run (init 1) exEvs).blocks.any (fun b => !b.queue.isEmpty && !b.stack.isEmpty) = true ∧
    InvQ (run (init 1) exEvs) :=
  ⟨by decide +kernel, (waiters_consistent 1 _ (fun x hx => (Prims.noPrune_all (by decide) x hx).1)).2⟩

end EdbVerif.C16
