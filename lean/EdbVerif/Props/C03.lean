/-
C03 — DESCRIBE output rebuilds the same schema.

Model: `EdbVerif/Model/Describe.lean` (names, schema algebra, describe / replay
for DDL and SDL, token printer and parser); vocabulary:
`EdbVerif/Model/DescribeSpec.lean`; proofs: `EdbVerif/Lemmas/Describe*.lean`.

Reading guide.
* `Ctx` is the replaying session's `modaliases`: `cur` = current module,
  `aliases` = `SET ALIAS k AS MODULE m` entries.
* `describeDDL tbl S` / `describeSDL tbl S` are token lists: every module,
  every object, every field of the printed-field table `tbl`, every name fully
  qualified; DDL shells are ordered with the C20 model `Topo.sortEx`.
* `loadDDL std t c` / `loadSDL tbl std t c` parse the tokens and replay them on
  a database that contains only the standard library `std`, in a session with
  context `c`, resolving every name by the real lookup rules (`resolveRef` =
  `FlatSchema._search_with_getter`, `resolveShell` = `utils.resolve_name`,
  `classname` = `_classname_from_ast`, `resolveTracer` = `tracer.resolve_name`).
* `Schema.Equiv` is equality of finite maps (declaration order is not part of
  a schema).

The property as stated ("for ALL session contexts") is FALSE of the real lookup
rules: an alias whose key equals the first component of a module name
redirects fully qualified names.  What holds — and is proved — is the
statement for every context satisfying `CtxSafe c S` (no alias shadows a
module the text mentions; nothing is assumed about the current module), and
the failure is proved on concrete witnesses (`…_counterexample`), which the
harness replays on the real engine.
-/
import EdbVerif.Lemmas.DescribeWF
import EdbVerif.Lemmas.DescribeSDL

namespace EdbVerif.C03
open EdbVerif.Describe

/-! ### names -/

/-- **Self-containedness lemma.**  A fully qualified name `m::n` resolves under
    a session context `c` exactly as it does with no context at all, for every
    state of the schema, PROVIDED the aliases of `c` leave `m` alone:
    `apply_module_aliases(m, c) = (False, m)`, i.e. no alias key equals the
    first component of `m` (or it maps it to itself) and `m` is not
    `__current__::…`. -/
theorem resolve_qualified_ctx_independent (e : Env) (c : Ctx) (m : ModName) (n : String)
    (h : applyAliases c (some m) = (false, some m)) :
    resolveRef e c ⟨some m, n⟩ = resolveRef e {} ⟨some m, n⟩ :=
  (resolveRef_qualified e c m m n h).trans
    (resolveRef_qualified e {} m m n (applyAliasesG_nil (not_current_of_applyAliasesG h) _ _)).symm

/-- The current module never matters for a qualified name. -/
theorem resolve_qualified_cur_independent (e : Env) (cur cur' : Option ModName)
    (al : List (String × ModName)) (m : ModName) (n : String)
    (hm : ∀ rest, rest ≠ [] → m ≠ "__current__" :: rest) :
    resolveRef e ⟨cur, al⟩ ⟨some m, n⟩ = resolveRef e ⟨cur', al⟩ ⟨some m, n⟩ :=
  (resolveRef_qualified e ⟨cur, al⟩ m _ n (applyAliasesG_some _ _ _ _ hm)).trans
    (resolveRef_qualified e ⟨cur', al⟩ m _ n (applyAliasesG_some _ _ _ _ hm)).symm

/-- The condition is exact: when the aliases send `m` to another module `m'`
    (and `m` is not `std::m'`), `m::n` never resolves to `m::n` — whatever the
    schema contains. -/
theorem resolve_qualified_shadowed (e : Env) (c : Ctx) (m m' : ModName) (n : String)
    (hstd : m ≠ ["__std__"]) (h : applyAliases c (some m) = (false, some m'))
    (hne : m' ≠ m) (hne2 : "std" :: m' ≠ m) :
    resolveRef e c ⟨some m, n⟩ ≠ some ⟨m, n⟩ := by
  intro hq
  rcases resolveRef_qualified_mod e c m m' n _ hstd h hq with h1 | h1
  · injection h1 with h1 _
    exact hne h1.symm
  · injection h1 with h1 _
    exact hne2 h1.symm

/-- Definition sites (`CREATE <class> m::n`) and DDL positions (`extending`,
    link targets, …) under a context that leaves `m` alone. -/
theorem define_qualified_ctx_independent (e : Env) (c : Ctx) (m : ModName) (n : String)
    (hs : ModSafe c m) :
    classname c ⟨some m, n⟩ = .ok ⟨m, n⟩ ∧
    (e.has ⟨m, n⟩ = true → resolveShell e c ⟨some m, n⟩ = some ⟨m, n⟩) :=
  ⟨classname_qualified_safe c m n hs, resolveShell_qualified_safe e c m n hs⟩

/-! ### describe ∘ load -/

/-- **C03 (DDL).**  For every valid user schema `S` over a standard library
    `std`, every printed-field table that covers `S`, and EVERY session context
    whose aliases shadow no module mentioned by `S` (any current module, any
    other aliases): the DDL text exists, is accepted, and rebuilds `S`. -/
theorem C03_ddl (tbl : FieldTable) (std : Env) (c : Ctx) (S : Schema)
    (hv : Valid tbl std S) (hs : CtxSafe c S) :
    ∃ t S', describeDDL tbl S = .ok t ∧ loadDDL std t c = .ok S' ∧ S'.Equiv S := by
  obtain ⟨ss, S', hd, hx, he⟩ := describe_exec tbl std c S hv hs
  refine ⟨printStmts ss, S', by simp only [describeDDL, hd], ?_, he⟩
  rw [loadDDL, parseStmts_print ss (describeStmts_wf tbl std S hv ss hd) _ (Nat.lt_succ_self _)]
  exact hx

/-- **C03 (SDL).**  Same for the SDL text applied as a migration
    (`START MIGRATION TO {…}; POPULATE; COMMIT`).  `apply_sdl` always
    initialises the module `default`, hence the extra hypothesis (see
    `C03_sdl_default_counterexample`). -/
theorem C03_sdl (tbl : FieldTable) (std : Env) (c : Ctx) (S : Schema)
    (hv : Valid tbl std S) (hs : CtxSafe c S) (hdef : defaultMod ∈ S.modules) :
    ∃ S', loadSDL tbl std (describeSDL tbl S) c = .ok S' ∧ S'.Equiv S := by
  obtain ⟨S', hm, he⟩ := describe_migrateSDL tbl std c S hv hs hdef
  refine ⟨S', ?_, he⟩
  rw [loadSDL, describeSDL,
    parseSDL_print _ (describeSDLDoc_wf tbl std S hv) _ (Nat.lt_succ_self _)]
  exact hm

/-- The text is self-contained: two safe contexts rebuild the same schema. -/
theorem C03_ctx_independent (tbl : FieldTable) (std : Env) (c c' : Ctx) (S : Schema)
    (hv : Valid tbl std S) (hs : CtxSafe c S) (hs' : CtxSafe c' S) :
    ∃ t S₁ S₂, describeDDL tbl S = .ok t ∧ loadDDL std t c = .ok S₁ ∧ loadDDL std t c' = .ok S₂ ∧
      S₁.Equiv S₂ := by
  obtain ⟨t, S₁, ht, h1, e1⟩ := C03_ddl tbl std c S hv hs
  obtain ⟨t', S₂, ht', h2, e2⟩ := C03_ddl tbl std c' S hv hs'
  rw [ht] at ht'
  injection ht' with ht'
  subst ht'
  exact ⟨t, S₁, S₂, ht, h1, h2, e1.trans e2.symm⟩

/-- The statement parser inverts the printer on well-formed statements, given the fuel that
    `loadDDL` passes. -/
theorem parse_print (ss : List Stmt) (hwf : ∀ s ∈ ss, StmtWF s) :
    parseStmts ((printStmts ss).length + 1) (printStmts ss) = some ss :=
  parseStmts_print ss hwf _ (Nat.lt_succ_self _)

/-! ### witnesses -/

def q (m : List String) (n : String) : QName := ⟨m, n⟩

def exStd : Env := { names := [q ["std"] "str", q ["std"] "exclusive"], modules := [["std"]] }

/-- `module default { type User { link t -> a::T2 } }  module a { type T2 { property n -> str } }` -/
def exS : Schema := {
  modules := [["default"], ["a"]],
  objs := [
    { cls := "ObjectType", name := q ["default"] "User", fields := [],
      kids := [{ head := { cls := "Link", name := .sym "t",
                           fields := [("target", [.tname (q ["a"] "T2")])] }, body := [] }] },
    { cls := "ObjectType", name := q ["a"] "T2", fields := [],
      kids := [{ head := { cls := "Property", name := .sym "n",
                           fields := [("target", [.tname (q ["std"] "str")])] },
                 body := [.enter { cls := "Constraint", name := .tname (q ["std"] "exclusive"),
                                   fields := [] }, .leave] }] } ] }

/-- the same with a second `User` in module `a` -/
def exS2 : Schema := { exS with objs := exS.objs ++
  [{ cls := "ObjectType", name := q ["a"] "User", fields := [], kids := [] }] }

/-- `SET ALIAS a AS MODULE default` (accepted on a fresh database) -/
def shadowA : Ctx := { cur := some ["default"], aliases := [("a", ["default"])] }
/-- `SET ALIAS default AS MODULE a` -/
def shadowDefault : Ctx := { cur := some ["default"], aliases := [("default", ["a"])] }

def loadsTo (r : Except Err Schema) (names : List QName) : Bool :=
  match r with
  | .ok S' => S'.names == names
  | .error _ => false

def failsWith (r : Except Err Schema) (e : Err) : Bool :=
  match r with
  | .ok _ => false
  | .error e' => e' == e

def viaDDL (S : Schema) (c : Ctx) : Except Err Schema :=
  match describeDDL modelTable S with
  | .ok t => loadDDL exStd t c
  | .error e => .error e

def viaSDL (S : Schema) (c : Ctx) : Except Err Schema :=
  loadSDL modelTable exStd (describeSDL modelTable S) c

/-- **The full statement is false.**  With the session alias `a → default`
    the DDL and the SDL text of `exS` are accepted but silently build
    `default::T2` instead of `a::T2`; with `default → a` the text of `exS2` is
    rejected (`a::User` already exists).  Replayed on the real engine by the
    harness (keys `alias-shadow:…`). -/
theorem C03_alias_shadow_counterexample :
    loadsTo (viaDDL exS shadowA) [q ["default"] "User", q ["default"] "T2"] = true ∧
    loadsTo (viaSDL exS shadowA) [q ["default"] "User", q ["default"] "T2"] = true ∧
    failsWith (viaDDL exS2 shadowDefault) (.exists_ (q ["a"] "User")) = true ∧
    failsWith (viaSDL exS2 shadowDefault) (.exists_ (q ["a"] "User")) = true := by
  decide +kernel

theorem viaDDL_loadsTo {S : Schema} {c : Ctx} {ns : List QName} (h : loadsTo (viaDDL S c) ns = true) :
    ∃ t S', describeDDL modelTable S = .ok t ∧ loadDDL exStd t c = .ok S' ∧ S'.names = ns := by
  unfold viaDDL loadsTo at h
  split at h
  · next S' hS =>
    split at hS
    · next t ht => exact ⟨t, S', ht, hS, eq_of_beq h⟩
    · cases hS
  · cases h

/-- … and in particular the rebuilt schema is not `exS`. -/
theorem C03_alias_shadow_not_equiv :
    ∃ t S', describeDDL modelTable exS = .ok t ∧ loadDDL exStd t shadowA = .ok S' ∧ ¬ S'.Equiv exS := by
  obtain ⟨t, S', ht, hl, hn⟩ := viaDDL_loadsTo C03_alias_shadow_counterexample.1
  refine ⟨t, S', ht, hl, fun he => ?_⟩
  have hmem : q ["a"] "T2" ∈ S'.names :=
    he.names.mem_iff.2 (List.mem_cons_of_mem _ List.mem_cons_self)
  rw [hn] at hmem
  revert hmem
  decide

/-- a schema without the module `default` (possible through DDL) -/
def exS3 : Schema := {
  modules := [["a"]],
  objs := [{ cls := "ObjectType", name := q ["a"] "T2", fields := [], kids := [] }] }

def modulesAre (r : Except Err Schema) (ms : List ModName) : Bool :=
  match r with
  | .ok S' => S'.modules == ms
  | .error _ => false

/-- **SDL re-creates `default`.**  The SDL text of a schema that has no module
    `default` rebuilds a schema WITH an (empty) module `default`, under the
    plainest context; the DDL text does not.  Replayed on the real engine
    (key `sdl-default-module`). -/
theorem C03_sdl_default_counterexample :
    modulesAre (viaSDL exS3 { cur := some ["default"] }) [["default"], ["a"]] = true ∧
    modulesAre (viaDDL exS3 { cur := some ["default"] }) [["a"]] = true := by
  decide +kernel

/-! ### non-vacuity: `exS` satisfies the hypotheses of `C03_ddl` / `C03_sdl` -/

def allTable : FieldTable := fun _ => none

theorem exS_acyclic : ¬ ∃ x, Relation.TransGen (ShellDep exS) x x := by
  -- no object of `exS` has fields of its own, so `ShellDep exS` is empty and any rank will do
  apply acyclic_of_rank exS (fun _ => 0)
  rintro a b ⟨o, ho, _, hb, _⟩
  simp only [exS, q, List.mem_cons, List.not_mem_nil, or_false] at ho
  rcases ho with rfl | rfl <;> simp [Top.shellNames, fieldsNames] at hb

theorem exS_valid : Valid allTable exStd exS where
  names_nodup := by decide
  names_fresh := by decide
  mods_nodup := by decide
  mods_fresh := by decide
  mods_ne := by decide
  mods_closed := by decide
  obj_mods := by decide +kernel
  closed := by decide +kernel
  acyclic := exS_acyclic
  covered := by
    intro o _
    exact ⟨fun _ _ => rfl, fun k _ => ⟨fun _ _ => rfl, fun i _ => by
      cases i with
      | enter h => exact fun _ _ => rfl
      | leave => trivial⟩⟩
  mods_real := by
    unfold CtxSafe ModSafe
    decide +kernel
  balanced := by decide

/-- a context with another current module and an unrelated alias is safe -/
def benign : Ctx := { cur := some ["a"], aliases := [("zz", ["a"])] }

theorem exS_safe : CtxSafe benign exS := by
  unfold CtxSafe ModSafe
  decide +kernel

example : ∃ t S', describeDDL allTable exS = .ok t ∧ loadDDL exStd t benign = .ok S' ∧ S'.Equiv exS :=
  C03_ddl allTable exStd benign exS exS_valid exS_safe

example : ∃ S', loadSDL allTable exStd (describeSDL allTable exS) benign = .ok S' ∧ S'.Equiv exS :=
  C03_sdl allTable exStd benign exS exS_valid exS_safe List.mem_cons_self

/-- and the shadowing context is NOT safe for `exS` -/
example : ¬ CtxSafe shadowA exS := by
  unfold CtxSafe ModSafe
  decide +kernel

end EdbVerif.C03
