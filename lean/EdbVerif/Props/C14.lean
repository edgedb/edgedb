/-
C14 — Type descriptors describe query types faithfully and uniquely.

Property theorems about `EdbVerif.Desc` (`Model/Desc.lean`), the model of the
descriptor encoder building blocks, of two decoders and of the id strings of
`edb/server/compiler/sertypes.py`.  Helper lemmas: `Lemmas/DescWire.lean`
(one block), `Lemmas/DescEnc.lean` (the stream, the position table,
de-duplication, annotations), `Lemmas/DescId.lean` (id strings),
`Lemmas/DescFrame.lean` (the ≥2.0 length prefixes).

Reading guide.  `Desc` = a descriptor tree (node = kind, id, optional
name/schema_defined, flat payload; `pre` / `post` children = described before /
after the encoder looks the id up in `uuid_to_pos`).
`encodeA p dn d` = the bytes `describe()` returns for protocol family `p`
(`v1` < 2.0 ≤ `v2`): descriptor blocks, then the type-name annotation blocks
(`dn = some f`: `inline_typenames` with `f id` = display name; `encode p d` =
`encodeA p none d`).

TWO decoders:
* `decodeDoc p`  — a CLIENT following the documented wire format: every kind incl.
  `SQL_ROW`, annotation blocks (tag ≥ 0x80: id, text) recorded.  This is the
  decoder the property speaks about: `C14_roundtrip`.
* `decodeReal p` — the model of `sertypes.parse`, the server-internal decoder
  (no arm for `SQL_ROW` nor for the `0xff` annotation): `C14_roundtrip_real`,
  `C14_anno_rejected`; it is what the differential run compares with the real code.

`WFDesc p d` = every node exists in `p` and fits the packers (`nodes`, `fits`)
and ids are faithful inside `d` (`faithful`: equal ids ⇒ equal sub-descriptors).
`Decodable d` = no `SQL_ROW` node.
-/
import EdbVerif.Lemmas.DescId
import EdbVerif.Lemmas.DescFrame

namespace EdbVerif.C14
open EdbVerif.Desc

/-- A client following the documented format decodes every stream the encoder
    emits — both protocol families, with or without `inline_typenames`, every
    descriptor kind — to the descriptor and to exactly the emitted (id, type name)
    annotations. -/
theorem C14_roundtrip (p : Proto) (dn : Option (Id → Bytes)) (d : Desc) (h : WFDesc p d)
    (hdn : ∀ f, dn = some f → ∀ i, (f i).length < 4294967296) :
    decodeDoc p (encodeA p dn d) = some (d, (enc p dn {} d).ann) := by
  obtain ⟨h1, h2⟩ := decode_blocks .doc p dn d h (Or.inl rfl)
  unfold decodeDoc encodeA
  rw [h2.decode_annos (enc_ann_fits h.nodes hdn)]
  simp only [h1]

/-- Every annotation the encoder emits names a sub-descriptor of `d` that is a
    derived scalar or an enum below protocol 2.0, with its display name; without
    `inline_typenames` there is none. -/
theorem C14_annotations (p : Proto) (f : Id → Bytes) (d : Desc) :
    (∀ e ∈ (enc p (some f) {} d).ann,
        ∃ u ∈ subs d, e = (u.id, f u.id) ∧ annotated p u.hdr.kind = true) ∧
    (enc p none {} d).ann = [] :=
  ⟨fun e he => (enc_ann p f d {} e he).resolve_left List.not_mem_nil, enc_ann_none p d⟩

/-- The model of the REAL `sertypes.parse` gives back the descriptor on the streams
    it is specified for (no annotations, no `SQL_ROW`). -/
theorem C14_roundtrip_real (p : Proto) (d : Desc) (h : WFDesc p d) (hd : Decodable d) :
    decodeReal p (encode p d) = some d := by
  obtain ⟨h1, h2⟩ := decode_blocks .real p none d h (Or.inr hd)
  unfold decodeReal encode
  rw [h2.decode]
  exact h1

/-- One block is read back exactly and the reader stops exactly at its end
    (whatever follows): consecutive descriptors do not overlap.  Both decoders. -/
theorem C14_prefix_block (m : Mode) (p : Proto) (f : Flat) (rest : Bytes)
    (hok : hdrOK p f.h f.pre.length f.post.length = true)
    (hsql : m = .doc ∨ ∀ n, f.h.kind ≠ .sqlRow n)
    (hpre : ∀ r ∈ f.pre, r < 65536) (hpost : ∀ r ∈ f.post, r < 65536) :
    parseFlat m p (block p f ++ rest) = some (.desc f (chkOf p f), rest) :=
  parseFlat_block m p f hok hsql hpre hpost rest

/-- Decoding consumes exactly the encoded bytes: with anything appended, the
    decoder is, after `encode p d`, in the state "all of `d`'s descriptors
    known, `d` last" and continues with the appended bytes. -/
theorem C14_prefix (m : Mode) (p : Proto) (d : Desc) (h : WFDesc p d) (hs : SqlOK m d) :
    ∃ cl, decodeAll m p {} (encode p d) = some ⟨cl, []⟩ ∧ cl.getLast? = some d ∧
      ∀ rest, decodeAll m p {} (encode p d ++ rest) = decodeAll m p ⟨cl, []⟩ rest := by
  obtain ⟨h1, h2⟩ := decode_blocks m p none d h hs
  exact ⟨_, h2.decode, h1, h2⟩

/-- De-duplication: the position table (`uuid_to_pos`) lists every distinct
    sub-descriptor id exactly once, the stream holds exactly one block per
    table entry, and block `k` decodes to the sub-descriptor with id `tbl[k]`
    (so every reference to a repeated sub-descriptor points at the one block). -/
theorem C14_dedupe (m : Mode) (p : Proto) (d : Desc) (h : WFDesc p d) (hs : SqlOK m d) :
    (enc p none {} d).tbl.Nodup ∧ (∀ i, i ∈ (enc p none {} d).tbl ↔ ∃ u ∈ subs d, u.id = i) ∧
    ∃ cl, decodeAll m p {} (encode p d) = some ⟨cl, []⟩ ∧ cl.map Desc.id = (enc p none {} d).tbl ∧
      ∀ u ∈ subs d, cl[pos (enc p none {} d).tbl u.id]? = some u := by
  obtain ⟨hn, hm⟩ := dedupe (dn := none) p d h.faithful
  refine ⟨hn, hm, _, (decode_blocks m p none d h hs).2.decode,
    map_id_canon h.faithful fun i hi => (hm i).mp hi, fun u hu => ?_⟩
  rw [getElem?_map_pos _ _ _ ((hm u.id).mpr ⟨u, hu, rfl⟩), canon_spec h.faithful u hu]

/-- Described into an existing context (`Context.derive()`, state descriptors):
    if the stream so far decodes to the table, it still does afterwards. -/
theorem C14_context (m : Mode) (c : Id → Desc) (p : Proto) (dn : Option (Id → Bytes)) (d : Desc) (s : St)
    (hinv : Inv m c p s) (hc : ∀ u ∈ subs d, c u.id = u) (hn : nodesOK p d = true)
    (hd : ∀ u ∈ subs d, m = .doc ∨ ∀ n, u.hdr.kind ≠ .sqlRow n)
    (hfit : (enc p dn s d).tbl.length ≤ 65536) :
    Inv m c p (enc p dn s d) ∧ d.id ∈ (enc p dn s d).tbl :=
  ⟨enc_inv m c p d s hinv hc hn hd hfit, enc_mem p d s⟩

/-- (after fix c2beb91) The string hashed into a content-derived id determines the
    arguments of the id function (up to "empty list = absent") for ARBITRARY element
    names — they may contain `:` and `\` — as long as names, type name and id texts
    contain no NUL (the part separator; the tokenizer rejects U+0000, checked by
    the harness), id texts are non-empty and `:`-free, cardinality characters are
    neither NUL nor `:`, and the optional lists have the shape the callers give them
    (`callerShaped`: each optional list has the subtypes' length, cardinalities only
    together with names).  For the optional `;sources` tail of shape ids (fix d2d2129)
    the hypotheses are: the source ids are `str(uuid)` texts (`uuidText`, so the tail
    cannot be mistaken for `repr(links)`) and, when given, one per element; an empty
    list counts as absent (`norm`). -/
theorem C14_id_inj (k₁ k₂ : IdKey) (hfn : k₁.fn = k₂.fn) (h₁ : k₁.NoSep) (h₂ : k₂.NoSep)
    (c₁ : k₁.callerShaped) (c₂ : k₂.callerShaped) (he : idPreimage k₁ = idPreimage k₂) :
    k₁.norm = k₂.norm := by
  rw [← readKey_spec k₁ h₁ c₁, ← readKey_spec k₂ h₂ c₂, hfn, he]

/-- Shape ids and source types at the level of `_describe_object_shape` (fix d2d2129),
    which passes the source type ids iff some element's source differs from the
    shape's own type `mt`, one per element: two shapes over the same object type
    with the same elements and equal id strings have the same source types. -/
theorem C14_shape_sources_inj (base mt : Bytes) (subs names : List Bytes) (cards : List Nat)
    (lp links : List Bool) (impl : Bool) (src src' : List Bytes)
    (hl : src.length = subs.length) (hl' : src'.length = subs.length)
    (h₁ : (shapeKeyOf base mt subs names cards lp links impl src).NoSep)
    (h₂ : (shapeKeyOf base mt subs names cards lp links impl src').NoSep)
    (c₁ : (shapeKeyOf base mt subs names cards lp links impl src).callerShaped)
    (c₂ : (shapeKeyOf base mt subs names cards lp links impl src').callerShaped)
    (he : idPreimage (shapeKeyOf base mt subs names cards lp links impl src) =
          idPreimage (shapeKeyOf base mt subs names cards lp links impl src')) : src = src' :=
  srcs_inj (hl.trans hl'.symm) (IdKey.shape.inj (C14_id_inj _ _ (by rfl) h₁ h₂ c₁ c₂ he)).2.2.2.2.2.2.2

/-- What fix d2d2129 repaired: `select Named { name, [is A].x }` and
    `select Named { name, [is B].x }` had ONE id string (`idPreimageNoSources`: source
    types ignored) although their arguments differ; now they have two. -/
theorem C14_shape_source_collision :
    idPreimageNoSources polyA = idPreimageNoSources polyB ∧ polyA.norm ≠ polyB.norm ∧
    idPreimage polyA ≠ idPreimage polyB :=
  poly_pair

/-- What fix c2beb91 repaired: with the PRE-fix strings (`idPreimageBuggy`: names
    joined with `:` as they are) the named tuples ``(`a:b` := int64, c := int64)`` and
    ``(a := int64, `b:c` := int64)``, and two object shapes with those element
    names, share their id string; with the fixed strings they do not. -/
theorem C14_id_collision :
    (∃ k₁ k₂ : IdKey, k₁.fn = 0 ∧ k₂.fn = 0 ∧ k₁.NoSep ∧ k₂.NoSep ∧ k₁.callerShaped ∧ k₂.callerShaped ∧
      idPreimageBuggy k₁ = idPreimageBuggy k₂ ∧ k₁.norm ≠ k₂.norm ∧ idPreimage k₁ ≠ idPreimage k₂) ∧
    (∃ k₁ k₂ : IdKey, k₁.fn = 1 ∧ k₂.fn = 1 ∧ idPreimageBuggy k₁ = idPreimageBuggy k₂ ∧
      k₁.norm ≠ k₂.norm ∧ idPreimage k₁ ≠ idPreimage k₂) :=
  ⟨⟨collA, collB, coll_collision⟩, ⟨shapeA, shapeB, shape_collision⟩⟩

/-- Observation about the server-internal decoder (not part of the property):
    the model of `sertypes.parse` rejects what `describe(inline_typenames=True)`
    emits below protocol 2.0 as soon as it contains one annotation block. -/
theorem C14_anno_rejected (f : Id → Bytes) (d : Desc) (h : WFDesc .v1 d) (hd : Decodable d)
    (hne : (enc .v1 (some f) {} d).ann ≠ []) :
    decodeReal .v1 (encodeA .v1 (some f) d) = none := by
  obtain ⟨_, h2⟩ := decode_blocks .real .v1 (some f) d h (Or.inr hd)
  obtain ⟨e, es, hann⟩ := List.exists_cons_of_ne_nil hne
  unfold decodeReal encodeA
  rw [h2 _, hann, decodeAll_anno_real]

/-! ### the ≥ 2.0 length prefixes frame the stream

`frame b = uint32(len b) ++ b` (`_finish_typedesc`); `frames n bs` = a client that
looks at the length prefixes ONLY (skip `len` bytes, again), `n` = fuel;
`structWalk m p n bs` = the structural reader `parseFlat` (mode `m`; it reads and
ignores the prefix) block after block, returning the chunks it consumed.
`BlocksFit .v2 d`: every body is shorter than 2^32 bytes — the guard of
`_uint32_packer(len(desc))` that `WFDesc` does not contain (an enum with 65535
labels of 2^32-1 bytes passes `nodesOK`); decidable, a function of header and
child counts only (`C14_body_size`). -/

/-- `len(desc)` does not depend on the positions written into the block: it is a
    function of the node's header and its numbers of children. -/
theorem C14_body_size (p : Proto) (f : Flat) :
    (body p f).length = bodySize p f.h f.pre.length f.post.length :=
  body_length p f

/-- One block, whatever follows: the `uint32` prefix reads back as EXACTLY the byte
    length of the body, and the body is what follows the prefix. -/
theorem C14_frame_block (f : Flat) (rest : Bytes)
    (hfit : bodySize .v2 f.h f.pre.length f.post.length < 4294967296) :
    block .v2 f = frame (body .v2 f) ∧
    rdU32 (block .v2 f ++ rest) = some ((body .v2 f).length, body .v2 f ++ rest) :=
  ⟨rfl, (congrArg rdU32 (List.append_assoc ..)).trans
    (parses_u32 (by rw [body_length]; exact hfit) _)⟩

/-- **Framing.**  For every well-formed descriptor tree (protocol ≥ 2.0, with or
    without `inline_typenames`) the stream `describe()` returns is a concatenation of
    `uint32(len body) ++ body`: walking by the length prefixes alone succeeds, ends
    exactly at the end of the stream, and visits one block per entry of
    `uuid_to_pos` (= per distinct sub-descriptor, `C14_dedupe`).  A client can skip
    any descriptor whose tag it does not know. -/
theorem C14_frames (dn : Option (Id → Bytes)) (d : Desc) (h : WFDesc .v2 d) (hb : BlocksFit .v2 d) :
    ∃ bodies : List Bytes,
      frames (encodeA .v2 dn d).length (encodeA .v2 dn d) = some bodies ∧
      bodies.length = (enc .v2 none {} d).tbl.length ∧
      encodeA .v2 dn d = bodies.flatMap frame := by
  rw [encodeA_v2, ← enc_tbl_none .v2 dn d]
  obtain ⟨bodies, h1, _, h3, h4⟩ := (enc_flats .doc dn d h (Or.inl rfl) hb).walks
  exact ⟨bodies, h1, h3, h4⟩

/-- **Skip form.**  The reader that uses ONLY the length prefixes and the structural
    reader (both decoders: `m`) cut the stream at the same places: the chunks
    `parseFlat` consumes are exactly `prefix ++ body` for the bodies `frames` yields. -/
theorem C14_skip (m : Mode) (dn : Option (Id → Bytes)) (d : Desc) (h : WFDesc .v2 d) (hs : SqlOK m d)
    (hb : BlocksFit .v2 d) :
    ∃ bodies : List Bytes,
      frames (encodeA .v2 dn d).length (encodeA .v2 dn d) = some bodies ∧
      structWalk m .v2 (encodeA .v2 dn d).length (encodeA .v2 dn d) = some (bodies.map frame) ∧
      bodies.length = (enc .v2 none {} d).tbl.length := by
  rw [encodeA_v2, ← enc_tbl_none .v2 dn d]
  obtain ⟨bodies, h1, h2, h3, _⟩ := (enc_flats m dn d h hs hb).walks
  exact ⟨bodies, h1, h2, h3⟩

/-! ### Non-vacuity -/

/-- `tuple<a: int64, b: str, c: int64>` (protocol ≥ 2.0) is well formed … -/
example : WFDesc .v2 exTuple ∧ Decodable exTuple := ⟨exTuple_wf, exTuple_decodable⟩
/-- … round-trips through both decoders … -/
example : decodeDoc .v2 (encodeA .v2 none exTuple) = some (exTuple, (enc .v2 none {} exTuple).ann) :=
  C14_roundtrip _ _ _ exTuple_wf (fun _ h => by cases h)
example : decodeReal .v2 (encode .v2 exTuple) = some exTuple :=
  C14_roundtrip_real _ _ exTuple_wf exTuple_decodable
/-- … and its repeated `int64` is emitted once: 3 blocks for 4 nodes. -/
example : (enc .v2 none {} exTuple).tbl.length = 3 ∧ (subs exTuple).length = 4 := by decide
/-- … its bodies fit the prefix, so the framing theorems apply; evaluated: the walk by
    prefixes finds 3 bodies (25 + 25 + 48 bytes, + 3 × 4 prefix bytes) in the 110-byte stream -/
example : BlocksFit .v2 exTuple := exTuple_blocksFit
example : ∃ bodies, frames (encodeA .v2 none exTuple).length (encodeA .v2 none exTuple) = some bodies ∧
    structWalk .real .v2 (encodeA .v2 none exTuple).length (encodeA .v2 none exTuple) = some (bodies.map frame) ∧
    bodies.length = (enc .v2 none {} exTuple).tbl.length :=
  C14_skip .real none exTuple exTuple_wf (Or.inr exTuple_decodable) exTuple_blocksFit
example : (frames (encode .v2 exTuple).length (encode .v2 exTuple)).map (·.map List.length) = some [25, 25, 48] ∧
    (encode .v2 exTuple).length = 110 := by decide +kernel
/-- a < 2.0 tree with an annotation: a derived scalar over `int64` -/
example : WFDesc .v1 exDerived ∧ Decodable exDerived ∧
    (enc .v1 (some fun _ => [109]) {} exDerived).ann ≠ [] := ⟨exDerived_wf, exDerived_decodable, by decide⟩

end EdbVerif.C14
