/-
C06 — Reported cardinality and duplicate-freedom bound the actual result.

Part A: the cardinality algebra.  Every statement is about the definitions of
`EdbVerif/Gen/Card.lean`, which `harness/gen/card.py` regenerates from
`edb/edgeql/compiler/inference/cardinality.py`, `multiplicity.py`, `context.py`
and `edb/edgeql/qltypes.py` on every run: the theorems are re-checked against
what the code says now.  `γ c n` = "a result of `n` elements is allowed by the
reported cardinality `c`" (`Model/CardSpec.lean`).

Part B: MiniQL (`Model/MiniQL.lean`), a core calculus with the bag semantics of
`edb/tools/toy_eval_model.py` (`eval`) and the `__infer_*` rules of the compiler
transcribed from the generated combinators (`inferCard`, `inferMult`).
The full-strength statements

    C06_card : accepts q → Conforms db → γ (inferCard q) (eval db q).length
    C06_mult : accepts q → Conforms db → γm (inferMult q).own (eval db q)

are FALSE of the rules that exist: the `…_counterexample` theorems below prove
the negation on concrete witnesses (each replayed on the real compiler and the
real toy evaluator by `harness/props/c06.py`, see `corpus/C06/witnesses.json`).
What is proved instead are the `…_partial` variants, which exclude exactly the
rule instances that are unsound:

* `C06_card_partial`  — for queries in which `_analyse_filter_clause`
  (equality filter on exclusive pointers ⇒ AT_MOST_ONE) does not fire
  (`noExclRule`);  missing for the full statement: a proof of that rule under
  the side conditions "the compared expression does not depend on the FILTER
  subject" and "the pointer chain is taken as written" — and these conditions
  are not checked by the code (counterexamples 1, 2).
* `C06_mult_partial`  — additionally no UNIQUE claim taken from the
  `disjoint_union` bookkeeping (FOR / UNION / FILTER), from an exclusive
  property over a possibly-duplicate source, or from the injective-operator
  rule, or from `types_disjoint` against a union type (`multSafe`);  counterexamples 3–8 show the
  excluded claims are wrong.  UNION of two plain object types whose lineages (type + all descendants)
  are disjoint IS covered.
-/
import EdbVerif.Lemmas.MiniQLSound
import EdbVerif.Lemmas.MiniQLCheck

namespace EdbVerif.C06
open EdbVerif.Gen.Card EdbVerif.Card EdbVerif.MiniQL

/-! ## A. the cardinality algebra (generated definitions) -/

/-- `_bounds_to_card ∘ _card_to_bounds = id` -/
theorem bounds_roundtrip (c : Card) :
    boundsToCard (cardToBounds c).lower (cardToBounds c).upper = c :=
  Card.bounds_roundtrip c

/-- exact reading of `_bounds_to_card` -/
theorem boundsToCard_iff (l u : Bound) (n : Nat) :
    γ (boundsToCard l u) n ↔ (l ≠ .ZERO → 1 ≤ n) ∧ (u ≠ .MANY → n ≤ 1) :=
  Card.γ_boundsToCard_iff l u n

/-- `cartesian_cardinality` (tuples, arrays, paths, regular calls, DISTINCT, IF, FOR):
    the size of a product is allowed by the Cartesian cardinality. -/
theorem cartesian_sound {cs : List Card} {ns : List Nat} (h : Γ cs ns) :
    γ (cartesianCardinality cs) (natProd ns) := Card.cartesian_sound h

/-- `_union_cardinality`: sizes add up. -/
theorem union_sound {cs : List Card} {ns : List Nat} (h : Γ cs ns) :
    γ (unionCardinality cs) ns.sum := Card.union_sound h

/-- `max_cardinality` (`??`, UNLESS CONFLICT … ELSE, pointer overloading): sound for any
    result no larger than some operand and non-empty as soon as some operand is. -/
theorem max_sound {cs : List Card} {ns : List Nat} {c : Card} (h : Γ cs ns)
    (hc : maxCardinality cs = .ok c) {n : Nat}
    (hlow : ∀ m ∈ ns, 1 ≤ m → 1 ≤ n) (hup : ∃ m ∈ ns, n ≤ m) : γ c n := Card.max_sound h hc hlow hup

/-- `a ?? b ?? …` evaluates to its first non-empty operand. -/
theorem coalesce_sound {cs : List Card} {ns : List Nat} {c : Card} (h : Γ cs ns)
    (hc : maxCardinality cs = .ok c) : γ c (firstNonzero ns) := Card.coalesce_sound h hc

/-- `min_cardinality`: sound for any result no larger than every operand and non-empty when all are. -/
theorem min_sound {cs : List Card} {ns : List Nat} {c : Card} (h : Γ cs ns)
    (hc : minCardinality cs = .ok c) {n : Nat}
    (hlow : (∀ m ∈ ns, 1 ≤ m) → 1 ≤ n) (hup : ∀ m ∈ ns, n ≤ m) : γ c n := Card.min_sound h hc hlow hup

/-- the INTERSECT rule -/
theorem intersect_sound {cs : List Card} {ns : List Nat} {c : Card} (h : Γ cs ns)
    (hc : minCardinality cs = .ok c) {n : Nat} (hup : ∀ m ∈ ns, n ≤ m) :
    γ (boundsToCard .ZERO (cardToBounds c).upper) n := by
  rw [boundsToCard_iff, ne_many_iff, ← isSingle_iff]
  exact ⟨fun h0 => absurd rfl h0, min_single_le h hc hup⟩

/-- `max_cardinality` / `min_cardinality` raise exactly on the empty sequence. -/
theorem max_min_error_iff (cs : List Card) :
    ((∃ e, maxCardinality cs = .error e) ↔ cs = []) ∧ ((∃ e, minCardinality cs = .error e) ↔ cs = []) :=
  ⟨Card.maxCardinality_error_iff cs, Card.minCardinality_error_iff cs⟩

/-- `_typemod_to_card` -/
theorem typemod_sound (tm : TypeModifier) (n : Nat) :
    γ (typemodToCard tm) n ↔
      match tm with
      | .SetOfType => True
      | .OptionalType => n ≤ 1
      | .SingletonType => n = 1 := Card.γ_typemod tm n

/-- OPTIONAL parameter: an empty argument is passed on as one absent value. -/
theorem optional_arg_sound {c : Card} {n : Nat} (h : γ c n) :
    γ (boundsToCard .ONE (cardToBounds c).upper) (if n = 0 then 1 else n) := Card.optional_arg_sound h

/-- `_standard_call_cardinality` for the iteration semantics of calls. -/
theorem stdCall_sound (d : FnDecl) (cards : List Card) (vals : List (List Val))
    (h : All2 γ cards (vals.map List.length))
    (hret : ∀ args, γ (typemodToCard d.ret) (d.impl args).length) :
    γ (stdCallCard d.params d.ret cards) ((callArgs (d.params.zip vals)).flatMap d.impl).length :=
  MiniQL.stdCall_sound d cards vals h hret

/-- FILTER: crossing with AT_MOST_ONE is sound for any sub-bag. -/
theorem filter_sound {c : Card} {n m : Nat} (h : γ c n) (hm : m ≤ n) :
    γ (cartesianCardinality [c, .AT_MOST_ONE]) m := Card.filter_sound h hm

/-- `LIMIT 1` -/
theorem limit_one_sound {c : Card} {n : Nat} (h : γ c n) :
    γ (boundsToCard (cardToBounds c).lower .ONE) (min n 1) := Card.limit_one_sound h

/-- a literal `LIMIT k`, `k ≥ 1`: unchanged cardinality -/
theorem limit_const_sound {c : Card} {n k : Nat} (h : γ c n) (hk : 1 ≤ k) : γ c (min n k) :=
  Card.limit_const_sound h hk

/-- lower bound set to ZERO (`LIMIT 0`, computed LIMIT, OFFSET, EXCEPT, json casts): any sub-bag -/
theorem zero_lower_sound {c : Card} {n m : Nat} (h : γ c n) (hm : m ≤ n) :
    γ (boundsToCard .ZERO (cardToBounds c).upper) m := Card.zero_lower_sound h hm

/-- LIMIT and OFFSET in ONE SELECT: `__infer_select_stmt` applies the LIMIT rule, then the OFFSET
    rule; the calculus nests `offset` inside `limit`; both orders agree. -/
theorem limit_offset_commute (c : Card) (n : Nat) :
    limitConstCard (offsetCard c) n = offsetCard (limitConstCard c n) ∧
      limitCard (offsetCard c) = offsetCard (limitCard c) := by
  refine ⟨?_, by cases c <;> rfl⟩
  match n with
  | 0 => rfl
  | 1 => cases c <;> rfl
  | _ + 2 => rfl

/-- whenever an OFFSET is present (with no or any static LIMIT) the reported cardinality allows
    the size `min (n - k) l` and its lower bound is zero -/
theorem offset_limit_sound {c : Card} {n : Nat} (k : Nat) (lim : Option Nat) (h : γ c n) :
    γ (match lim with
        | none => offsetCard c
        | some l => limitConstCard (offsetCard c) l)
      (match lim with
        | none => n - k
        | some l => min (n - k) l) ∧
    (match lim with
        | none => offsetCard c
        | some l => limitConstCard (offsetCard c) l).canBeZero = true := by
  have ho : γ (offsetCard c) (n - k) := Card.zero_lower_sound h (Nat.sub_le _ _)
  match lim with
  | none => exact ⟨ho, by cases c <;> rfl⟩
  | some l =>
    refine ⟨?_, ?_⟩
    · show γ _ (min (n - k) l)
      rw [Nat.min_comm]
      exact limitConstCard_sound l ho
    · cases c <;> match l with
        | 0 | 1 | _ + 2 => rfl

/-- DISTINCT -/
theorem distinct_sound {c : Card} {n m : Nat} (h : γ c n) (hm : m ≤ n) (hne : 1 ≤ n → 1 ≤ m) :
    γ (cartesianCardinality [c]) m := Card.distinct_sound h hm hne

/-- FOR: the sum over the iterations -/
theorem for_sound {ci cb : Card} {ms : List Nat} (hi : γ ci ms.length)
    (hb : ∀ m ∈ ms, γ cb m) : γ (cartesianCardinality [cb, ci]) ms.sum := Card.for_sound hi hb

/-- IF/ELSE: one branch per element of the condition -/
theorem ifElse_sound {ca cc cb : Card} {na nb : Nat} {ms : List Nat}
    (ha : γ ca na) (hb : γ cb nb) (hc : γ cc ms.length) (hms : ∀ m ∈ ms, m = na ∨ m = nb) :
    γ (cartesianCardinality [ca, cc, cb]) ms.sum := Card.ifElse_sound ha hb hc hms

/-- `is_subset_cardinality` decides inclusion of concretisations. -/
theorem subset_iff (c0 c1 : Card) :
    isSubsetCardinality c0 c1 = true ↔ ∀ n, γ c0 n → γ c1 n := Card.isSubset_iff c0 c1

/-- `_max_multiplicity` never raises and returns the largest `own`. -/
theorem maxMultiplicity_ok (ms : List MultiplicityInfo) :
    ∃ r, maxMultiplicity ms = .ok r ∧ (∀ m ∈ ms, m.own.toNat ≤ r.own.toNat) ∧
      (ms = [] → r.own = .UNIQUE) := by
  obtain ⟨r, h1, _, _, h2, h3, _⟩ := Card.maxMultiplicity_ok ms
  exact ⟨r, h1, h2, h3⟩

/-! ## B. the calculus -/

/-- Cardinality soundness for every accepted query in which the exclusive-filter rule
    does not fire, on every conforming database, for every interpretation of the
    functions that respects their declared return modifier. -/
theorem C06_card_partial (sch : Schema) (db : DB) (hc : Conforms sch db) (hs : SigOK sch)
    (q : Q) (Γ : VCtx) (env : List Val) (ha : accepts sch Γ q = true)
    (hn : noExclRule sch Γ q = true) (he : EnvOK sch db Γ env) :
    γ (inferCard sch Γ q) (eval sch db env q).length :=
  (query_ok sch db hc hs q Γ env ha hn he).1.1

/-- Multiplicity soundness (EMPTY ⇒ empty, UNIQUE ⇒ duplicate-free) on the fragment
    `multSafe`, for every `distinct_iterator` context. -/
theorem C06_mult_partial (sch : Schema) (db : DB) (hc : Conforms sch db) (hs : SigOK sch)
    (q : Q) (Γ : VCtx) (env : List Val) (dist : Option Nat) (ha : accepts sch Γ q = true)
    (hn : noExclRule sch Γ q = true) (hm : multSafe sch Γ dist q = true) (he : EnvOK sch db Γ env) :
    γm (inferMult sch Γ dist q).info.own (eval sch db env q) :=
  (query_ok sch db hc hs q Γ env ha hn he).2 dist hm

/-! ### witnesses -/

def eqFn : FnDecl :=
  { params := [.SingletonType, .SingletonType], ret := .SingletonType, isOp := true, kind := .eq,
    impl := fun a => match a with
      | [[x], [y]] => [Val.ofBool (x == y)]
      | _ => [Val.ofBool false] }

/-- `type T1; type T0 { required p0: int64 {constraint exclusive}; required p1: int64;
     multi p2: T1; p3: T0 }` -/
def wsch : Schema :=
  { ptrs := [ ⟨0, true, false, none, true⟩, ⟨0, true, false, none, false⟩,
              ⟨0, false, true, some 1, false⟩, ⟨0, false, false, some 0, false⟩ ],
    fns := [eqFn] }

theorem wsch_sig : SigOK wsch := by
  constructor
  intro f d hf args
  match f, hf with
  | 0, hf =>
    simp only [Schema.fn?, wsch, List.getElem?_cons_zero, Option.some.injEq] at hf
    subst hf
    show γ .ONE _
    simp only [eqFn, γ]
    split <;> rfl
  | _ + 1, hf => simp [Schema.fn?, wsch] at hf

def eqQ (a b : Q) : Q := .call 0 [a, b]

/-- two T0 objects `o1, o2` and one T1 object `o3` -/
def wdb (data : List ((Nat × Nat) × List Val)) : DB := { objs := [(1, 0), (2, 0), (3, 1)], ptrs := data }

/-- 1. `SELECT T0 FILTER .p0 = .p1` (p0 exclusive): reported AT_MOST_ONE, two objects qualify.
    `extract_filters` does not require the other side of `=` to be independent of the subject. -/
theorem C06_card_counterexample_dependent_rhs :
    ∃ (db : DB) (q : Q), Conforms wsch db ∧ SigOK wsch ∧ accepts wsch [] q = true ∧
      inferCard wsch [] q = .AT_MOST_ONE ∧ (eval wsch db [] q).length = 2 :=
  ⟨wdb [((0, 1), [.int 5]), ((0, 2), [.int 6]), ((1, 1), [.int 5]), ((1, 2), [.int 6])],
   .filter (.root 0) (eqQ (.path (.var 0) 0) (.path (.var 0) 1)),
   checkDB_sound _ _ (by decide +kernel), wsch_sig, by decide⟩

/-- 2. `SELECT T0 FILTER .p3 = (SELECT T0 LIMIT 1)` (p3 a plain single link to T0): reported
    AT_MOST_ONE, two objects qualify.  `extract_filters` takes `id` as the filtered pointer
    whenever the static type of the matched side equals the type of the subject. -/
theorem C06_card_counterexample_link_taken_as_id :
    ∃ (db : DB) (q : Q), Conforms wsch db ∧ SigOK wsch ∧ accepts wsch [] q = true ∧
      inferCard wsch [] q = .AT_MOST_ONE ∧ (eval wsch db [] q).length = 2 :=
  ⟨{ objs := [(1, 0), (2, 0), (3, 0)],
     ptrs := [((0, 1), [.int 5]), ((0, 2), [.int 6]), ((0, 3), [.int 7]),
              ((1, 1), [.int 1]), ((1, 2), [.int 1]), ((1, 3), [.int 1]),
              ((3, 2), [.obj 1]), ((3, 3), [.obj 1])] },
   .filter (.root 0) (eqQ (.path (.var 0) 3) (.limitC (.root 0) 1)),
   checkDB_sound _ _ (by decide +kernel), wsch_sig, by decide⟩

def wdbBase : DB :=
  wdb [((0, 1), [.int 5]), ((0, 2), [.int 6]), ((1, 1), [.int 7]), ((1, 2), [.int 7]),
       ((2, 1), [.obj 3]), ((2, 2), [.obj 3])]

theorem wdbBase_conforms : Conforms wsch wdbBase := checkDB_sound _ _ (by decide +kernel)

/-- 3. `(T0 UNION T0).p0` (p0 exclusive): classified UNIQUE, every value occurs twice.
    The multiplicity of a path ending in an exclusive property ignores its source. -/
theorem C06_mult_counterexample_exclusive_property_over_duplicates :
    ∃ (q : Q), Conforms wsch wdbBase ∧ accepts wsch [] q = true ∧
      (inferMult wsch [] none q).info.own = .UNIQUE ∧ ¬ (eval wsch wdbBase [] q).Nodup :=
  ⟨.path (.union (.root 0) (.root 0)) 0, wdbBase_conforms, by decide⟩

/-- 4. `FOR x IN T0 UNION x.p2` (p2 a multi link, both objects link to `o3`): classified UNIQUE.
    Any non-DUPLICATE path rooted at the iterator is marked `disjoint_union`. -/
theorem C06_mult_counterexample_for_path_rooted_at_iterator :
    ∃ (q : Q), Conforms wsch wdbBase ∧ accepts wsch [] q = true ∧
      (inferMult wsch [] none q).info.own = .UNIQUE ∧ ¬ (eval wsch wdbBase [] q).Nodup :=
  ⟨.for_ (.root 0) (.path (.var 0) 2), wdbBase_conforms, by decide⟩

/-- 5. `FOR x IN {7, 8} UNION (SELECT (T0 UNION T0) FILTER .p1 = x)`: classified UNIQUE.
    `_infer_stmt_multiplicity` returns DISTINCT_UNION whatever the multiplicity of the subject. -/
theorem C06_mult_counterexample_for_filter_distinct_union :
    ∃ (q : Q), Conforms wsch wdbBase ∧ accepts wsch [] q = true ∧
      (inferMult wsch [] none q).info.own = .UNIQUE ∧ ¬ (eval wsch wdbBase [] q).Nodup :=
  ⟨.for_ (.constSet [7, 8]) (.filter (.union (.root 0) (.root 0)) (eqQ (.path (.var 0) 1) (.var 1))),
   wdbBase_conforms, by decide +kernel⟩

/-- 6. `FOR x IN {1, 2} UNION (x UNION x)`: classified UNIQUE, the result is `{1, 1, 2, 2}`.
    UNION keeps UNIQUE when both operands carry `disjoint_union`; no schema is involved. -/
theorem C06_mult_counterexample_union_of_disjoint_flagged :
    ∃ (q : Q), accepts wsch [] q = true ∧
      (inferMult wsch [] none q).info.own = .UNIQUE ∧ ¬ (eval wsch wdbBase [] q).Nodup :=
  ⟨.for_ (.constSet [1, 2]) (.union (.var 0) (.var 0)), by decide⟩

/-- 7. `FOR x IN {1, 2, 0} UNION (FOR y IN x UNION (FOR z IN {0} UNION z))`: classified UNIQUE, the
    result is `{0, 0, 0}`.  The middle FOR resets `distinct_iterator` to None, the innermost FOR marks its
    body disjoint with respect to `z`, and both enclosing FORs accept that flag. -/
theorem C06_mult_counterexample_nested_for_flag_leak :
    ∃ (q : Q), accepts wsch [] q = true ∧
      (inferMult wsch [] none q).info.own = .UNIQUE ∧ ¬ (eval wsch wdbBase [] q).Nodup :=
  ⟨.for_ (.constSet [1, 2, 0]) (.for_ (.var 0) (.for_ (.constSet [0]) (.var 0))), by decide +kernel⟩

/-- 8. `(T0 UNION T1) UNION T0` (T0, T1 unrelated): classified UNIQUE, every T0 object occurs twice.
    The left operand has the union type `T0 | T1`; nothing descends from a union type, so
    `types_disjoint` holds against any plain type, including its own components and their subtypes
    (`{Person, Note, Robot}` with a common subtype of Person and Robot is the same defect). -/
theorem C06_mult_counterexample_union_type_operand :
    ∃ (q : Q), Conforms wsch wdbBase ∧ accepts wsch [] q = true ∧
      (inferMult wsch [] none q).info.own = .UNIQUE ∧ ¬ (eval wsch wdbBase [] q).Nodup :=
  ⟨.union (.union (.root 0) (.root 1)) (.root 0), wdbBase_conforms, by decide⟩

/-- two optional query parameters `$0`, `$1`, both passed as `{}` -/
def psch : Schema := { ptrs := [], fns := [], params := [false, false] }
def pdb : DB := { objs := [], ptrs := [], params := [none, none] }

/-- `SELECT {<optional int64>$0, <optional int64>$1}` (a ConstantSet of two optional parameters, both passed
    as `{}`): reported MANY since the repair of `__infer_const_set`; `… LIMIT 1` is AT_MOST_ONE. -/
example : Conforms psch pdb ∧ accepts psch [] (.constSet [.p 0, .p 1]) = true ∧
    noExclRule psch [] (.constSet [.p 0, .p 1]) = true ∧
    inferCard psch [] (.constSet [.p 0, .p 1]) = .MANY ∧ eval psch pdb [] (.constSet [.p 0, .p 1]) = [] ∧
    inferCard psch [] (.limitC (.constSet [.p 0, .p 1]) 1) = .AT_MOST_ONE :=
  ⟨checkDB_sound _ _ (by decide +kernel), by decide⟩

/-! ### inheritance: UNION of object types -/

/-- `T0 Named ← T1 Person ← T2 Employee; T3 Robot extending Named; T4 Cyborg extending Employee, Robot;
    T5 Note`, with `p0` a multi link Named → Note -/
def hsch : Schema :=
  { ptrs := [⟨0, false, true, some 5, false⟩], fns := [],
    descs := [[1, 2, 3, 4], [2, 4], [4], [4]] }

/-- one object of every type -/
def hdb : DB :=
  { objs := [(1, 0), (2, 1), (3, 2), (4, 3), (5, 4), (6, 5)],
    ptrs := [((0, 1), [.obj 6]), ((0, 5), [.obj 6])] }

/-- the disjointness test looks at ALL descendants: a type and its grandchild, and two siblings sharing a
    deep subtype (diamond), are not disjoint; unrelated types are, and then the union is duplicate-free
    (an instance of `C06_mult_partial`) -/
example : Conforms hsch hdb ∧
    typesDisjoint hsch (.obj [0]) (.obj [2]) = false ∧ typesDisjoint hsch (.obj [1]) (.obj [3]) = false ∧
    typesDisjoint hsch (.obj [1]) (.obj [5]) = true ∧
    (inferMult hsch [] none (.union (.root 0) (.root 2))).info.own = .DUPLICATE ∧
    (inferMult hsch [] none (.union (.root 1) (.root 3))).info.own = .DUPLICATE ∧
    eval hsch hdb [] (.union (.root 1) (.root 3)) = [.obj 2, .obj 3, .obj 5, .obj 4, .obj 5] ∧
    accepts hsch [] (.path (.union (.root 1) (.root 5)) 0) = false ∧
    multSafe hsch [] none (.union (.root 1) (.root 5)) = true ∧
    (inferMult hsch [] none (.union (.root 1) (.root 5))).info.own = .UNIQUE ∧
    eval hsch hdb [] (.path (.union (.root 0) (.root 2)) 0) = [.obj 6] :=
  ⟨checkDB_sound _ _ (by decide +kernel), by decide⟩

/-! ### non-vacuity: the hypotheses of the partial theorems are met by non-trivial queries -/

/-- `SELECT (FOR x IN T0 UNION (x.p0, count(x.p2))) …`-like query through paths, FOR, a tuple and
    DISTINCT on a database with data: accepted, no exclusive rule, in the safe fragment. -/
def exQ : Q :=
  .distinct (.union (.path (.root 0) 2) (.path (.filter (.root 0) (eqQ (.path (.var 0) 1) (.lit 7))) 2))

example : Conforms wsch wdbBase ∧ SigOK wsch ∧ accepts wsch [] exQ = true ∧
    noExclRule wsch [] exQ = true ∧ multSafe wsch [] none exQ = true ∧ EnvOK wsch wdbBase [] [] ∧
    inferCard wsch [] exQ = .MANY ∧ (inferMult wsch [] none exQ).info.own = .UNIQUE ∧
    eval wsch wdbBase [] exQ = [.obj 3] :=
  ⟨wdbBase_conforms, wsch_sig, by decide, by decide, by decide, .nil, by decide⟩

example : Γ [.ONE, .AT_LEAST_ONE, .AT_MOST_ONE] [1, 3, 0] ∧
    cartesianCardinality [.ONE, .AT_LEAST_ONE, .AT_MOST_ONE] = .MANY ∧
    unionCardinality [.ONE, .AT_LEAST_ONE, .AT_MOST_ONE] = .AT_LEAST_ONE :=
  ⟨.cons rfl (.cons (by decide) (.cons (by decide) .nil)), by decide⟩

end EdbVerif.C06
