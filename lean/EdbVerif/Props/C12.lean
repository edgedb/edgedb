/-
C12 — Statically inferred result types match evaluated values.

Objects (models, `EdbVerif/Model/Types.lean`, `TypesQL.lean`; tables GENERATED from the real std
schema, `EdbVerif/Gen/Types.lean`):

* `castableS / castDistS`   `edb/schema/casts.py::get_implicit_cast_distance`
* `commonS`                 every value `casts.find_common_castable_type` can return, over all
                            iteration orders of its Python `set`s
* `implCastable, commonType` `Type.implicitly_castable_to / find_common_implicitly_castable_type`
                            (scalars, tuples, arrays, flat object types)
* `findCallable, resolve`   `polyres.find_callable`, `func.compile_operator / compile_FunctionCall`
* `inferType`, `eval`, `hasType`   MiniQL: static types, reference evaluator, typed values

Reading guide.  `Le a b` is "a is implicitly castable to b".  Statements that mention the
generated tables are re-proved by kernel evaluation whenever the tables change.
-/
import EdbVerif.Lemmas.TypesSound
import EdbVerif.Lemmas.TypesOps
import EdbVerif.Lemmas.TypesResolve

namespace EdbVerif.C12
open EdbVerif.Types EdbVerif.Gen.Types

/-! ### common type = least upper bound -/

/-- The implicit-cast relation (`implicitly_castable_to`) is a preorder on types; it is a partial
    order on types without user-derived scalars.  (A user scalar and its concrete base are
    implicitly castable to EACH OTHER: the relation looks only at topmost concrete bases.) -/
theorem implicit_cast_order :
    (∀ a : Ty, Le a a) ∧ (∀ a b c : Ty, Le a b → Le b c → Le a c) ∧
    (∀ a b : Ty, plain a = true → plain b = true → Le a b → Le b a → a = b) :=
  ⟨Le.refl, fun _ _ _ => Le.trans, fun _ _ pa pb => Le.antisymm pa pb⟩

/-- **common_lub.**  `find_common_implicitly_castable_type a b`, when it returns `c`, returns a
    least upper bound of `a` and `b` in the implicit-cast order — scalars (std, user-derived,
    enums), tuples and arrays element-wise, object types — and it returns one whenever `a` and `b`
    have any least upper bound, the same up to mutual castability.  The real algorithm guarantees
    this only on a cast graph that is a (partial) join-semilattice in which its greedy climb cannot
    overshoot; that hypothesis on the GENERATED graph is `scalarTable` (`decide +kernel`). -/
theorem common_lub (a b c : Ty) :
    (commonType a b = some c → IsLUB a b c) ∧
    (IsLUB a b c → ∃ c', commonType a b = some c' ∧ Equiv c' c) :=
  commonType_isLUB a b c

/-- Without user-derived scalars the order is antisymmetric and the statement is an exact iff. -/
theorem common_lub_plain (a b c : Ty) (pa : plain a = true) (pc : plain c = true) :
    commonType a b = some c ↔ IsLUB a b c :=
  commonType_isLUB_plain a b c pa pc

/-- **Value soundness of the common type** (the order with "derived below base"): both operands
    CONVERT to the common type, i.e. it is reached from each operand by keeping the type or by
    an implicit cast of its concrete base to a std scalar.  In particular the common type is never
    a user-derived scalar that one of the operands is not already an instance of: `[<myint>1, 2]`
    is an `array<int64>`, not an `array<myint>`. -/
theorem common_value_sound (a b c : Ty) (h : commonType a b = some c) : Conv a c ∧ Conv b c :=
  commonType_conv a b c h

/-- Two scalars with the same concrete base — a user scalar and its base, two siblings, a
    second-level derivation and its parent, or the SAME user scalar twice — have that base as their
    common type (`if left == right: return schema, left` on the topmost concrete bases). -/
theorem common_same_base (a b : Sc) (x : Scalar) (ha : a.top = some x) (hb : b.top = some x) :
    commonType (.scalar a) (.scalar b) = some (.scalar (.base x)) := by
  simp [commonType, commonSc, ha, hb, commonScalar_self]

/-- **Tuple arity is part of the type.**  A tuple is implicitly castable only to a tuple with the
    same number of elements, and two tuples have a common type only if they have the same number of
    elements — the common type then has that many too.  (`(1, 2) ?? (1, 2, 3)` is ill-typed.) -/
theorem tuple_arity (as bs : List Ty) :
    (implCastable (.tuple as) (.tuple bs) = true → as.length = bs.length) ∧
    (∀ c, commonType (.tuple as) (.tuple bs) = some c →
      ∃ cs, c = .tuple cs ∧ as.length = bs.length ∧ cs.length = as.length) := by
  constructor
  · intro h
    simp only [implCastable] at h
    exact implCastableL_length as bs h
  · intro c h
    simp only [commonType] at h
    split at h
    · rename_i he
      cases h
      have := Ty.beqL_eq as bs he
      subst this
      exact ⟨as, rfl, rfl, rfl⟩
    · simp only [Option.map_eq_some_iff] at h
      obtain ⟨cs, hcs, rfl⟩ := h
      exact ⟨cs, rfl, commonTypeL_length as bs cs hcs⟩

/-- The scalar algorithm iterates over Python `set`s of casts; `commonS` collects the results of
    ALL iteration orders.  On the generated table there is never a choice: no upper bound and no
    result, or exactly one result, the least upper bound. -/
theorem common_set_order_irrelevant (a b : Scalar) :
    (commonS a b = [] ∧ ∀ u, ¬ (castableS a u = true ∧ castableS b u = true)) ∨
    (∃ c, commonS a b = [c] ∧ castableS a c = true ∧ castableS b c = true ∧
      ∀ u, castableS a u = true → castableS b u = true → castableS c u = true) :=
  commonS_spec a b

/-- `commonType` is symmetric: UNION / `??` / IF-ELSE / set and array constructors do not type by
    the left operand. -/
theorem common_symmetric (a b : Ty) : commonType a b = commonType b a :=
  commonType_comm a b

/-- **castDist = shortest path.**  `get_implicit_cast_distance` is the shortest-path metric of the
    generated implicit-cast graph: 0 on the diagonal, 1 along a declared cast, the triangle
    inequality holds, a distance `d+1` is realised by a last cast from a type at distance `d`, and
    the recursion bound of the model is never the reason for an answer. -/
theorem castDist_shortest_path (a b : Scalar) :
    castDistS a a = some 0 ∧
    ((a, b) ∈ implicitEdges → a ≠ b → castDistS a b = some 1) ∧
    reach (scalarFuel + 1) a b = castDistS a b ∧
    (∀ d, castDistS a b = some (d + 1) → ∃ p ∈ preds b, castDistS a p = some d) ∧
    (∀ c d1 d2, castDistS a b = some d1 → castDistS b c = some d2 →
        ∃ d, castDistS a c = some d ∧ d ≤ d1 + d2) := by
  have h := distTable
  simp only [distTableOK, List.all_eq_true, Bool.and_eq_true] at h
  obtain ⟨h0, hb⟩ := h a (Scalar.mem_all a)
  obtain ⟨⟨⟨h1, h2⟩, h3⟩, h4⟩ := hb b (Scalar.mem_all b)
  refine ⟨by simpa using h0, ?_, by simpa using h2, ?_, ?_⟩
  · intro he hne
    have : implicitEdges.contains (a, b) = true := by simpa using he
    simp only [this, Bool.not_true, Bool.false_or, Bool.or_eq_true, beq_iff_eq] at h1
    rcases h1 with h1 | h1
    · exact absurd h1 hne
    · exact h1
  · intro d hd
    rw [hd] at h3
    simp only [List.any_eq_true, beq_iff_eq] at h3
    exact h3
  · intro c d1 d2 hd1 hd2
    have := h4 c (Scalar.mem_all c)
    rw [hd1, hd2] at this
    simp only at this
    split at this
    · rename_i d hd
      exact ⟨d, hd, by simpa using this⟩
    · cases this

/-! ### overload resolution is deterministic -/

/-- **resolve_det (selection).**  `find_callable` returns exactly the successfully bound
    overloads that are minimal for (total implicit-cast distance, then total distance to the common
    parent type). -/
theorem resolve_selects_minima (cands : List Callable) (args : List Ty) (b : Bound) :
    b ∈ findCallable cands args ↔
      b ∈ boundCands cands args ∧ ∀ b' ∈ boundCands cands args, Better b b' :=
  mem_findCallable cands args b

/-- **resolve_det.**  A function call resolves to `b` only if `b` strictly beats every other
    bound overload (never two winners), and the outcome — winner, no match, or the number of
    tied candidates — is the same for every order in which the schema enumerates the overloads:
    resolution is a function of the name and the argument types. -/
theorem resolve_det (f : Fn) (args : List Ty) :
    (∀ b, resolveFn f args = .ok b →
      b ∈ boundCands (overloads f) args ∧
      ∀ b' ∈ boundCands (overloads f) args, Better b b' ∧ (Better b' b → b' = b)) ∧
    (∀ cands', (overloads f).Perm cands' → resolveFn f args = pick (findCallable cands' args)) :=
  ⟨fun b h => findCallable_singleton b (pick_eq_ok h), fun _ h => resolve_order_independent args h⟩

/-- The ambiguity condition: more than one candidate survives only when two bound overloads tie
    on both distances. -/
theorem resolve_ambiguity (cands : List Callable) (args : List Ty) (x y : Bound) (r : List Bound)
    (h : findCallable cands args = x :: y :: r) :
    x ∈ boundCands cands args ∧ y ∈ boundCands cands args ∧ x.dist = y.dist ∧ x.tdist = y.tdist := by
  have hx : x ∈ findCallable cands args := by simp [h]
  have hy : y ∈ findCallable cands args := by simp [h]
  exact ⟨((mem_findCallable ..).1 hx).1, ((mem_findCallable ..).1 hy).1, findCallable_tie hx hy⟩

/-- Operators: `compile_operator` looks only at the FIRST tuple/array overload to decide whether
    the operator is "recursive"; on the generated table all of them agree, so this too is
    independent of the enumeration order. -/
theorem operator_recursive_flag_uniform (f : Fn) :
    sameRecursive ((operOverloads f).filter fun o => o.params.all fun p => pIsTuple p.2) = true ∧
    sameRecursive ((operOverloads f).filter fun o => o.params.all fun p => pIsArray p.2) = true := by
  have h := recursiveTable
  simp only [recursiveTableOK, List.all_eq_true, Bool.and_eq_true] at h
  exact h f (Fn.mem_all f)

/-! ### the numeric operator table -/

/-- **numeric_table.**  For every arithmetic operator and every pair of numeric scalar types:
    the type overload resolution reports is the type the typed evaluator's result carries
    (`promote`: convert both operands to their least common type, then to the nearest type the
    primitive is implemented on; the primitive decides the result type), the operation is
    rejected exactly when the evaluator has no carrier for it, and resolution is never ambiguous.
    Generated obligation (`decide +kernel` over `Gen.Types`). -/
theorem numeric_table (f : Fn) (hf : f ∈ arith) (a b : Scalar) (ha : a ∈ numeric) (hb : b ∈ numeric) :
    (∀ r, promote f a b = some r →
        ∃ bd, resolve f [.scalar (.base a), .scalar (.base b)] = .ok bd ∧ bd.ret = .scalar (.base r)) ∧
    (promote f a b = none → resolve f [.scalar (.base a), .scalar (.base b)] = .noMatch) := by
  have h := numericTable
  simp only [numericTableOK, List.all_eq_true, Bool.and_eq_true] at h
  have h1 := ((h f hf).2 a ha).2 b hb
  have h2 := h1.1
  unfold isScalarRet at h2
  constructor
  · intro r hr
    rw [hr] at h2
    split at h2
    · rename_i bd x hres hx
      cases hx
      exact ⟨bd, hres, eq_of_beq h2⟩
    · rename_i hx; cases hx
    · cases h2
  · intro hn
    rw [hn] at h2
    split at h2
    · rename_i hx; cases hx
    · rename_i hres _; exact hres
    · cases h2

/-- Every arithmetic overload on numeric types declares what its primitive computes on that
    carrier: `T op T → arithResult op T` (e.g. `int64 / int64 → float64`, `bigint ^ bigint →
    decimal`), unary `± T → T`. -/
theorem arith_overloads_closed (f : Fn) (hf : f ∈ arith) (c : Callable) (hc : c ∈ operOverloads f) :
    arithOverloadOK f c = true := by
  have h := numericTable
  simp only [numericTableOK, List.all_eq_true, Bool.and_eq_true] at h
  exact (h f hf).1 c hc

/-- Comparison of two numeric types resolves (unambiguously, to `bool`) exactly when the two
    types have a common type. -/
theorem compare_table (f : Fn) (hf : f ∈ compare) (a b : Scalar) (ha : a ∈ numeric) (hb : b ∈ numeric) :
    (∃ bd, resolve f [.scalar (.base a), .scalar (.base b)] = .ok bd ∧ bd.ret = .scalar (.base .bool) ∧
        (commonScalar a b).isSome = true) ∨
    (resolve f [.scalar (.base a), .scalar (.base b)] = .noMatch ∧ commonScalar a b = none) := by
  have h := compareTable
  simp only [compareTableOK, List.all_eq_true, Bool.and_eq_true] at h
  have h1 := (h f hf a ha b hb).2
  split at h1
  · rename_i bd hres
    simp only [Bool.and_eq_true] at h1
    exact Or.inl ⟨bd, hres, eq_of_beq h1.1, h1.2⟩
  · rename_i hres
    exact Or.inr ⟨hres, by simpa using h1⟩
  · cases h1

/-! ### soundness of the inferred type -/

/-- **C12_sound (partial).**  For every query `q` of the calculus — literals, typed empty sets,
    tuples, array literals, operator and function calls from the generated table (UNION, `??`,
    IF/ELSE, DISTINCT, IN, EXISTS, arithmetic, comparison, `++`, count/sum/min/max/len/array_agg/
    array_unpack/enumerate/…), casts, FOR, FILTER, object sets, paths, shapes — every database
    conforming to the schema and every value `v` the reference evaluator produces:
    `inferType q = some τ → hasType v τ`.

    FULL statement (DESIGN §4): the same without the hypothesis `inCalc`.
    What is missing: `inCalc sch [] q` asks, at every call node, that (1) the values the primitive of
    the selected overload produces have the declared return type (`primRet f ptys = some ret`) and
    (2) every argument type CONVERTS (`convertible`: value inclusion, derived-below-base) to the
    parameter type it is converted to.  Both
    are consequences of the signature table and of `bindCand`; they are PROVED here for arithmetic and
    comparison on numeric scalars (`call_in_calculus_numeric`) and CHECKED by the driver on every
    query the real compiler accepts in the differential run (a failure is reported as
    `corr:incalc`), but not proved for arbitrary argument types. -/
theorem C12_sound_partial (sch : Schema) (db : DB) (hdb : Conforms sch db) (q : Q) (τ : Ty)
    (hc : inCalc sch [] q = true) (wt : inferType sch [] q = some τ) :
    ∀ v ∈ eval sch db [] q, hasType v τ :=
  sound sch db hdb q [] [] τ rfl hc wt

/-- The same under binders: FOR bodies, FILTER conditions and shape elements are typed in the
    environment of their bound variables. -/
theorem C12_sound_open (sch : Schema) (db : DB) (hdb : Conforms sch db) (q : Q) (Γ : List Ty)
    (env : List Val) (τ : Ty) (he : EnvOK env Γ) (hc : inCalc sch Γ q = true)
    (wt : inferType sch Γ q = some τ) : ∀ v ∈ eval sch db env q, hasType v τ :=
  sound sch db hdb q Γ env τ he hc wt

/-- Shapes: for every object `o` the shape's subject evaluates to, the values of each computed
    element inhabit the element type reported in the output descriptor (`inferShape`). -/
theorem C12_shape (sch : Schema) (db : DB) (hdb : Conforms sch db) (q : Q) (els : List Q)
    (ts : List Ty) (hc : inCalc sch [] (.shape q els) = true)
    (wt : inferShape sch [] (.shape q els) = some ts) :
    ∀ o ∈ eval sch db [] q, BagsOK (evalL sch db [o] els) ts := by
  intro o ho
  simp only [inferShape] at wt
  simp only [inCalc, Bool.and_eq_true] at hc
  split at wt
  · rename_i t hq
    simp only [hq] at hc
    have hot := sound sch db hdb q [] [] (.obj t) rfl hc.1 hq o ho
    exact soundL sch db hdb els [.obj t] [o] ts (by simp [hasTypeL, hot]) hc.2 wt
  · cases wt

/-- Run-time tags are exact: a value inhabits exactly one type, the one `typeOf` reads off. -/
theorem hasType_unique (v : Val) (t : Ty) (h : hasType v t) : typeOf v = t :=
  typeOf_of_hasType v t h

/-- The side condition of `C12_sound_partial` holds for arithmetic and comparison operators applied
    to numeric scalar types (generated obligation). -/
theorem call_in_calculus_numeric (f : Fn) (hf : f ∈ arith ∨ f ∈ compare) (a b : Scalar)
    (ha : a ∈ numeric) (hb : b ∈ numeric) : callOK f [.scalar (.base a), .scalar (.base b)] = true := by
  rcases hf with hf | hf
  · have h := numericTable
    simp only [numericTableOK, List.all_eq_true, Bool.and_eq_true] at h
    exact (((h f hf).2 a ha).2 b hb).2
  · have h := compareTable
    simp only [compareTableOK, List.all_eq_true, Bool.and_eq_true] at h
    exact (h f hf a ha b hb).1

/-! ### Non-vacuity: concrete instances -/

instance : DecidableEq Ty := fun a b =>
  if h : Ty.beq a b = true then isTrue (Ty.beq_eq a b h)
  else isFalse fun e => h (e ▸ Ty.beq_refl a)

def exSchema : Schema :=
  [⟨[.scalar (.base .str), .scalar (.base .int16), .scalar (.base .float32), .obj 0]⟩]

def exDB : DB :=
  [⟨0, 1, [[.str "a"], [.num .int16 3 0], [.num .float32 1 1], [.obj 0 2]]⟩,
   ⟨0, 2, [[.str "b"], [.num .int16 (-2) 0], [], []]⟩]

/-- `for x in (select T) union (x.p1 + x.p2, {1, 2.5}, [x.p1, 10])` -/
def exQ : Q :=
  .for_ (.objs 0) (.tuple [
    .call .op_plus [.path (.var 0) 1, .path (.var 0) 2],
    .call .op_union [.lit (.int64 1), .lit (.float64 5 1)],
    .array [.path (.var 0) 1, .lit (.int64 10)]])

example : inferType exSchema [] exQ =
    some (.tuple [.scalar (.base .float32), .scalar (.base .float64), .array (.scalar (.base .int64))]) := by
  decide +kernel

example : inCalc exSchema [] exQ = true := by decide +kernel

example : (eval exSchema exDB [] exQ).length = 2 := by decide +kernel

example : Conforms exSchema exDB := by
  intro o ho p vs hp
  simp only [exDB, List.mem_cons, List.not_mem_nil, or_false] at ho
  -- every stored bag is a literal: that its elements have the declared type is evaluated
  have typed : ∀ (l : List Val) (ty : Ty), l.all (hasTypeB · ty) = true → ∀ v ∈ l, hasType v ty :=
    fun l ty h => List.all_eq_true.1 h
  rcases ho with rfl | rfl <;>
    match p, hp with
    | 0, hp | 1, hp | 2, hp | 3, hp => cases hp; exact ⟨_, rfl, typed _ _ rfl⟩

/-- least upper bounds that exist and one that does not -/
example : commonType (.tuple [.scalar (.base .int64), .scalar (.base .str)])
    (.tuple [.scalar (.base .float32), .scalar (.base .str)]) =
    some (.tuple [.scalar (.base .float64), .scalar (.base .str)]) := by decide +kernel
example : commonType (.scalar (.base .bigint)) (.scalar (.base .float64)) = none := by decide +kernel
example : commonType (.array (.scalar (.base .int16))) (.array (.scalar (.base .decimal))) =
    some (.array (.scalar (.base .decimal))) := by decide +kernel

/-- tuples of different arity have no common type, in every polymorphic context -/
def tup2 : Ty := .tuple [.scalar (.base .int64), .scalar (.base .int64)]
def tup3 : Ty := .tuple [.scalar (.base .int64), .scalar (.base .int64), .scalar (.base .int64)]
example : commonType tup2 tup3 = none := by decide +kernel
example : (resolve .op_coalesce [tup2, tup3]).ret? = none ∧ (resolve .op_union [tup2, tup3]).ret? = none ∧
    (resolve .op_if [tup2, .scalar (.base .bool), tup3]).ret? = none ∧
    (resolve .op_eq [tup2, tup3]).ret? = none ∧ (resolve .op_in [tup2, tup3]).ret? = none := by
  decide +kernel
example : inferType [] [] (.call .op_coalesce
    [.empty tup2, .tuple [.lit (.int64 1), .lit (.int64 2), .lit (.int64 3)]]) = none := by decide +kernel
example : inferType [] [] (.array [.empty tup2, .empty tup3]) = none := by decide +kernel

/-- user scalars: `myint extending int64`, `yourint extending int64`, `posint extending myint` -/
def myint : Ty := .scalar (.derived [1] .int64)
def yourint : Ty := .scalar (.derived [2] .int64)
def posint : Ty := .scalar (.derived [3, 1] .int64)

example : commonType myint (.scalar (.base .int64)) = some (.scalar (.base .int64)) := by decide +kernel
example : commonType myint yourint = some (.scalar (.base .int64)) := by decide +kernel
example : commonType posint myint = some (.scalar (.base .int64)) := by decide +kernel
example : commonType myint myint = some (.scalar (.base .int64)) := by decide +kernel
example : commonType (.array myint) (.array myint) = some (.array myint) := by decide +kernel
example : commonType myint (.scalar (.base .float64)) = some (.scalar (.base .float64)) := by
  decide +kernel
/-- `int64` is implicitly castable to `myint` (preorder) but does not convert to it -/
example : implCastable (.scalar (.base .int64)) myint = true ∧
    convertible (.scalar (.base .int64)) myint = false ∧
    convertible myint (.scalar (.base .int64)) = true := by decide +kernel
/-- `[<myint>1, 2] : array<int64>`; `{<myint>1, <myint>2} : myint` (the equality shortcut of
    overload resolution); `[<myint>1, <myint>2] : array<int64>` (no shortcut in `infer_common_type`) -/
example : inferType [] [] (.array [.cast myint (.lit (.int64 1)), .lit (.int64 2)]) =
    some (.array (.scalar (.base .int64))) := by decide +kernel
example : inferType [] [] (.call .op_union [.cast myint (.lit (.int64 1)), .cast myint (.lit (.int64 2))]) =
    some myint := by decide +kernel
example : inferType [] [] (.array [.cast myint (.lit (.int64 1)), .cast myint (.lit (.int64 2))]) =
    some (.array (.scalar (.base .int64))) := by decide +kernel

/-- `sum(int16)`: `sum(int32)` and `sum(float32)` tie on cast distance; the parent-type distance
    decides for `int32 → int64` -/
example : (resolve .fn_sum [.scalar (.base .int16)]).ret? = some (.scalar (.base .int64)) := by
  decide +kernel
/-- `int16 / int16` is `float32`, `int32 / int32` is `float64` -/
example : (resolve .op_div [.scalar (.base .int16), .scalar (.base .int16)]).ret? =
    some (.scalar (.base .float32)) := by decide +kernel
example : (resolve .op_div [.scalar (.base .int32), .scalar (.base .int32)]).ret? =
    some (.scalar (.base .float64)) := by decide +kernel
/-- no implicit cast joins `bigint` and `float64` -/
example : (resolve .op_plus [.scalar (.base .bigint), .scalar (.base .float64)]).ret? = none := by
  decide +kernel

end EdbVerif.C12
