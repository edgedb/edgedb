/-
C04 — The schema stays referentially intact; earlier versions stay frozen.

Property theorems about `EdbVerif.Store`, the model of
`edb/schema/schema.py::FlatSchema` (six indexes, raw operations with their error
exits) and of the guarded command discipline of `edb/schema/delta.py`
(`DeleteObject._delete_finalize`).  Only statements, non-vacuity examples and
guard-necessity witnesses live here; the proofs are in `EdbVerif/Lemmas/Store*.lean`.

Reading guide.  `Inv s` = `NamesAgree s ∧ RefsToExact s ∧ TypesAgree s`: lookups by
name (three name indexes), by id and by referrer agree with the objects' own data
tuples, in both directions.  `rawOK s op` is the (decidable) guard on raw
operations: handles carry the class the schema records, `update_obj` is applied to
present objects, `delist` is not used.  `NoDangling s`: every reference held by a
present object resolves.  `Unreachable s id`: no index mentions `id`.
-/
import EdbVerif.Lemmas.StoreCmd
import EdbVerif.Lemmas.Witness

namespace EdbVerif.C04
open EdbVerif.Store

/-- Index consistency after EVERY history of raw operations from the empty schema
    (operations outside the guard are not issued; failing ones change nothing). -/
theorem store_inv (ops : List RawOp) : Inv (runRaw ops State.empty) :=
  runRaw_inv ops inv_empty

/-- One step: a guarded raw operation that succeeds keeps the invariant. -/
theorem store_inv_step (s s' : State) (op : RawOp) (hI : Inv s) (hg : rawOK s op = true)
    (h : step s op = .ok s') : Inv s' :=
  step_inv hI hg h

/-- From a consistent schema a guarded raw operation never trips over a missing index
    entry: the `KeyError` exits of `immutables.Map.delete` / `m[k]` and the `LookupError`
    of `get_by_id` in `_update_obj_name`, `_update_refs_to`, `_delete`, `set_obj_field`
    are unreachable (`ClassesOK`: the reference fields of every recorded class are
    distinct — `get_object_reference_fields()` is a set). -/
theorem store_no_internal_error (s : State) (op : RawOp) (e : Err) (hI : Inv s) (hC : ClassesOK s)
    (hg : rawOK s op = true) (hop : opClsOK op) (h : step s op = .error e) : e.internal = false :=
  step_no_internal hI hC hg hop h

/-- … and both hypotheses hold in every state a raw history reaches. -/
theorem store_reachable (ops : List RawOp) (hops : ∀ op ∈ ops, opClsOK op) :
    Inv (runRaw ops State.empty) ∧ ClassesOK (runRaw ops State.empty) :=
  ⟨runRaw_inv ops inv_empty, runRaw_classesOK ops hops inv_empty classesOK_empty⟩

/-- A rejected raw operation leaves the schema exactly as it was (by construction:
    the operations are functions into `Except Err State`; stated for the record, the
    real content is checked on the real object by the harness). -/
theorem store_err (s : State) (op : RawOp) (e : Err) (h : (apply s op).2 = some e) :
    (apply s op).1 = s := by
  unfold apply at h ⊢
  split
  · rename_i h'; rw [h'] at h; cases h
  · rfl

/-- … and so does a rejected or refused command. -/
theorem cmd_err (s : State) (cmd : Cmd) (e : Err) (h : (applyCmd s cmd).2 = some e) :
    (applyCmd s cmd).1 = s := by
  unfold applyCmd at h ⊢
  split
  · rename_i h'; rw [h'] at h; cases h
  · rfl

/-- After any sequence of create / alter / set / unset / drop commands (failing ones
    included) every reference resolves and all lookups agree with the object data. -/
theorem C04_nodangling (cmds : List Cmd) :
    NoDangling (runCmds cmds State.empty) ∧ Inv (runCmds cmds State.empty) :=
  (runCmds_keeps cmds inv_empty nodangling_empty).symm

/-- A dropped object is reachable through none of the indexes. -/
theorem C04_dropped (cmds : List Cmd) (id : Nat) (s' : State)
    (h : runCmd (runCmds cmds State.empty) (.drop id) = .ok s') : Unreachable s' id :=
  drop_unreachable (runCmds_keeps cmds inv_empty nodangling_empty).1 h

/-- … from any consistent schema. -/
theorem C04_dropped_step (s s' : State) (id : Nat) (hI : Inv s)
    (h : runCmd s (.drop id) = .ok s') : Unreachable s' id :=
  drop_unreachable hI h

/-- The drop is all-or-nothing with respect to dangling references: whatever set of
    objects it deletes, nothing that survives refers to a deleted one. -/
theorem C04_drop_step (s s' : State) (id : Nat) (hI : Inv s) (hN : NoDangling s)
    (h : runCmd s (.drop id) = .ok s') : Inv s' ∧ NoDangling s' :=
  runCmd_keeps hI hN h

/-- Garbage collection of implicit types (the conditional drop `DeleteObject(if_exists,
    if_unused)`): it never collects an object that another present object still refers
    to — the command is then a no-op … -/
theorem C04_gc_keeps_used (s : State) (id j : Nat) (c : Cls) (d : List Val) (f : Nat) (hI : Inv s)
    (hj : j ≠ id) (hrec : Rec s j c d) (hf : f ∈ c.refIdxs) (ht : id ∈ refsAt c f d) :
    runCmd s (.dropUnused id) = .ok s :=
  dropUnused_keeps_used hI hj hrec hf ht

/-- … and when it does collect, the object is reachable through no index and nothing
    dangles (`C04_nodangling` covers histories containing it as well). -/
theorem C04_gc_collects (s s' : State) (id : Nat) (hI : Inv s) (hN : NoDangling s)
    (h : runCmd s (.dropUnused id) = .ok s') :
    (s' = s ∨ Unreachable s' id) ∧ Inv s' ∧ NoDangling s' :=
  ⟨dropUnused_unreachable hI h, runCmd_keeps hI hN h⟩

/-- Frozen versions: the schema values seen along a history are not changed by
    later operations (trivial for a persistent value in Lean; the harness checks the
    real `immutables.Map`-based object by re-fingerprinting every earlier version). -/
theorem C04_frozen (ops₁ ops₂ : List RawOp) (s : State) :
    (versions (ops₁ ++ ops₂) s).take (ops₁.length + 1) = versions ops₁ s := by
  induction ops₁ generalizing s with
  | nil => cases ops₂ <;> simp [versions]
  | cons op ops ih => simp [versions, ih]

/-! ### Non-vacuity and guard necessity: concrete schemas -/

/-- an object-type-like qualified class: `name` at 0, a single reference at 1, an
    owned collection at 2 -/
def exT : Cls := { tag := 2, isGlobal := false, hasSn := false, nfields := 3, nameIdx := 0,
                   refFields := [(1, false), (2, true)], ownFields := [2] }

/-- a function-like class (short-name cache) -/
def exF : Cls := { tag := 6, isGlobal := false, hasSn := true, nfields := 2, nameIdx := 0,
                   refFields := [(1, true)], ownFields := [] }

def exMod (m : Nat) : List Val := [.nil, .nil, .name (.unqual m), .nil, .nil, .nil]

/-- module 3, a parent type 1 owning child 2 (child refers back), a function 4 -/
def exCmds : List Cmd :=
  [ .create 0 moduleCls (exMod 3),
    .create 1 exT [.name (.qual 3 0), .nil, .nil],
    .create 2 exT [.name (.qual 3 1), .ref 1, .nil],
    .alter 1 [(2, .refs [2])],
    .create 4 exF [.name (.spec 3 3 0 1), .refs [1, 2]] ]

example : (runCmds exCmds State.empty).idToData.length = 4
    ∧ (runCmds exCmds State.empty).refsTo.length = 4
    ∧ (runCmds exCmds State.empty).shortNameToId = [(exF, .qual 3 0, 4)] := by decide +kernel

/-- dropping the parent is refused while the function refers to it … -/
example : (applyCmd (runCmds exCmds State.empty) (.drop 1)).2 = some .schemaError := by decide +kernel

/-- … and succeeds, taking the owned child with it, once the function is gone -/
example : ((runCmds (exCmds ++ [.drop 4, .drop 1]) State.empty).idToData.map (·.1)) = [0] := by decide +kernel

/-- the conditional drop: child 2 is still used by function 4 (skipped), function 4 is
    used by nobody (collected) -/
example : (runCmds (exCmds ++ [.dropUnused 2]) State.empty).idToData.length = 4
    ∧ (runCmds (exCmds ++ [.dropUnused 4]) State.empty).idToData.length = 3 := by decide +kernel

/-- duplicate name, unknown module, dangling create: rejected -/
example : (applyCmd (runCmds exCmds State.empty) (.create 5 exT [.name (.qual 3 0), .nil, .nil])).2
    = some .schemaError := by decide +kernel
example : (applyCmd (runCmds exCmds State.empty) (.create 5 exT [.name (.qual 9 0), .nil, .nil])).2
    = some .unknownModule := by decide +kernel
example : (applyCmd (runCmds exCmds State.empty) (.create 5 exT [.name (.qual 3 5), .ref 7, .nil])).2
    = some .invalidReference := by decide +kernel

/-- The guard of `store_inv` cannot be dropped, 1: `delist` breaks `NamesAgree`
    (that is its purpose: `objtypes._delete_to_delist`). -/
theorem store_inv_needs_no_delist :
    ∃ s s', Inv s ∧ step s (.delist (.qual 3 0)) = .ok s' ∧ ¬ Inv s' := by
  refine ⟨runCmds (exCmds.take 2) State.empty, _, (C04_nodangling _).2, rfl, ?_⟩
  intro h
  have := h.names.name_q 1 exT [.name (.qual 3 0), .nil, .nil] (.qual 3 0) (by decide) (by decide) rfl
  revert this
  decide

/-- … and outside the guard the internal errors do occur: deleting a delisted object
    trips over the missing name entry -/
example : ∃ s', step (runCmds (exCmds.take 2) State.empty) (.delist (.qual 3 0)) = .ok s'
    ∧ (apply s' (.delete 1 exT)).2 = some .keyError := exists_ok (by decide +kernel)

/-- … 2: `update_obj` on an object that is not in the schema creates a data tuple
    without a type entry. -/
theorem store_inv_needs_present :
    ∃ s', step State.empty (.updateObj 5 exT [(1, .ref 5)]) = .ok s' ∧ ¬ Inv s' := by
  refine ⟨_, rfl, ?_⟩
  intro h
  have := h.types 5
  revert this
  decide

/-- … 3: `delete` through a handle of another class leaves that object's reverse
    references behind. -/
theorem store_inv_needs_handle_class :
    ∃ s s', Inv s ∧ step s (.delete 2 { exT with tag := 3, refFields := [] }) = .ok s' ∧ ¬ Inv s' := by
  refine ⟨runCmds (exCmds.take 3) State.empty, _, (C04_nodangling _).2, rfl, ?_⟩
  intro h
  have := (h.refs ⟨1, exT, 1, 2⟩).1 (by decide)
  obtain ⟨d, ⟨h1, _⟩, _⟩ := this
  revert h1
  decide

end EdbVerif.C04
