/-
C15 — the connection pool never oversubscribes or double-lends the backend.

Theorems about `EdbVerif.Pool`, the model of `edb/server/connpool/pool.py`
(`Model/Pool.lean`): a transition is one atomic section of the real code, and
every float/clock-derived decision is a parameter `env : Env` of the transition
(so "for all `env`" covers every quota vector, every timing).  `run` folds a
list of `(env, event)` pairs.  Nothing is assumed about the events: an event
that is not enabled (unknown task id, release by a non-holder, …) leaves the
counters alone and sets the `err` ghost field, exactly where the real code
would raise.

Reading guide (`Model/PoolSpec.lean`):
* `usage s`        = Σ_blocks (|conns| + pending_conns) + #disconnects in flight that are
                     not part of a transfer;
* `discByHolder s` = connections handed back with `release(discard=True)` whose
                     `_discard_conn` has not finished: the property's "counts as closed".
-/
import EdbVerif.Lemmas.PoolOwnOps
import EdbVerif.Lemmas.PoolPrune
import EdbVerif.Model.PoolCheck

namespace EdbVerif.C15
open EdbVerif.Pool

/-- The invariant holds initially, for every capacity. -/
theorem inv_init (max : Nat) : InvNum (init max) := init_inv max

/-- Every transition preserves it, for every environment choice. -/
theorem inv_step (s : State) (env : Env) (e : Ev) (h : InvNum s) : InvNum (step s env e) :=
  step_inv h env e

/-- C15 (numeric part) for all histories, all capacities, any number of databases. -/
theorem inv_run (max : Nat) (evs : List (Env × Ev)) : InvNum (run (init max) evs) :=
  run_inv evs _ (init_inv max)

/-- Reported usage is the true usage: `current_capacity` equals what the blocks
    and the disconnects in flight add up to.  (Before the repair 6ff8693 of `_transfer`
    this only held up to a `phantom` term, see notes/C16.md.) -/
theorem usage_exact (max : Nat) (evs : List (Env × Ev)) :
    (run (init max) evs).cur = usage (run (init max) evs) :=
  (inv_run max evs).acc

/-- Never above the maximum, not counting connections their holder handed back as broken. -/
theorem capacity (max : Nat) (evs : List (Env × Ev)) :
    (run (init max) evs).cur ≤ (run (init max) evs).max + discByHolder (run (init max) evs) :=
  (inv_run max evs).cap

/-! ### Ownership

`InvOwn` (`Model/PoolSpec.lean`) is proved for histories without
`prune_inactive_connections` / `prune_all_connections` events (`Prims.NoPruneEv`): those two
hold connections in a task-local list / drop lent connections on purpose (HA failover); the
numeric invariant above covers them, the per-step oracle of the harness checks ownership on
the real pool for them. -/

/-- `InvNum ∧ InvQ ∧ InvOwn` is preserved by every transition other than the two pruning
    entry points, for every environment choice … -/
theorem own_step (s : State) (env : Env) (e : Ev) (h : (InvNum s ∧ InvQ s) ∧ InvOwn s)
    (he : Prims.NoPruneEv e) : (InvNum (step s env e) ∧ InvQ (step s env e)) ∧ InvOwn (step s env e) :=
  primsO.step h env e he.1 he.2

/-- … hence holds along every such history, for every capacity and any number of databases. -/
theorem own_run (max : Nat) (evs : List (Env × Ev)) (hev : ∀ x ∈ evs, Prims.NoPruneEv x.2) :
    InvOwn (run (init max) evs) :=
  (runO max evs hev).2

/-- A connection is lent to at most one request at a time. -/
theorem no_double_lend (max : Nat) (evs : List (Env × Ev)) (hev : ∀ x ∈ evs, Prims.NoPruneEv x.2) :
    ((run (init max) evs).holders.map (·.conn)).Nodup :=
  (own_run max evs hev).single

/-- A lent connection is a connection of the block of the database it was requested for, and
    is marked in use there. -/
theorem lent_belongs (max : Nat) (evs : List (Env × Ev)) (hev : ∀ x ∈ evs, Prims.NoPruneEv x.2) :
    ∀ h ∈ (run (init max) evs).holders,
      ∃ b ∈ (run (init max) evs).blocks, b.name = h.name ∧ (h.conn, true) ∈ b.conns :=
  (own_run max evs hev).held

/-- An idle connection (on a stack) is a connection of that block, is not marked in use and
    is lent to nobody; no connection is twice on a stack. -/
theorem idle_is_free (max : Nat) (evs : List (Env × Ev)) (hev : ∀ x ∈ evs, Prims.NoPruneEv x.2) :
    ∀ b ∈ (run (init max) evs).blocks, b.stack.Nodup ∧ ∀ c ∈ b.stack,
      (c, false) ∈ b.conns ∧ ∀ h ∈ (run (init max) evs).holders, h.conn ≠ c := by
  intro b hb
  have h := runO max evs hev
  exact ⟨h.2.stackNd b hb, fun c hc =>
    ⟨h.2.stackIdle b hb c hc, not_lent h.1.1.toWF h.2 hb (h.2.stackIdle b hb c hc)⟩⟩

/-- A connection belongs to one block, and `conn_acquired_num` is the number of connections
    lent from the block. -/
theorem block_counters (max : Nat) (evs : List (Env × Ev)) (hev : ∀ x ∈ evs, Prims.NoPruneEv x.2) :
    (∀ b1 ∈ (run (init max) evs).blocks, ∀ b2 ∈ (run (init max) evs).blocks, ∀ c,
        c ∈ b1.ids → c ∈ b2.ids → b1.uid = b2.uid) ∧
    ∀ b ∈ (run (init max) evs).blocks,
      b.acquired = (((run (init max) evs).holders.filter (·.name == b.name)).length : Int) :=
  ⟨(own_run max evs hev).disj, (own_run max evs hev).acq⟩

/-! ### What the pruning entry points break (decide-checked witnesses)

`InvNum` holds through both (`inv_step`).  The waiter invariant holds through
`prune_all_connections` (Props/C16).  Ownership does not: -/

/-- `prune_all_connections` (HA failover) drops LENT connections from `conns` on purpose:
    after `acquire; pall` the conjunct `InvOwn.held` ("a lent connection is in its block,
    marked in use") is false — and `conn_acquired_num` stays 1 with nothing lent from the block. -/
theorem own_breaks_after_prune_all : ¬ InvOwn (run (init 1) pallRun) := fun h => by
  obtain ⟨b, hb, _, hc⟩ := h.held ⟨0, 0, 0⟩ (pallRun_state.2 ▸ List.mem_singleton.mpr rfl)
  rw [pallRun_state.1] at hb
  cases List.mem_singleton.mp hb
  cases hc

/-- `prune_inactive_connections`: while the task is suspended it holds the connections it took
    off the stack (`NoLeak` accounts for them); when it is aborted (connect retries exhausted
    while it waits in `try_acquire`) they are orphaned: `NoLeak` — "every connection that is not
    lent is idle, scheduled for discard, or in a prune task's hands" — fails, with `err = none`
    (every event enabled) and no prune task left.  None of the conjuncts of `InvOwn` fails there
    (`checkOwn = []`): the orphan is in its block, not in use, not idle, not lent — forever.
    (Finding `orphaned-by-dead-prune-task`; replayed on the real pool: corpus/C16/leak-7-*.) -/
theorem no_leak_breaks_after_aborted_prune :
    (¬ NoLeak (run (init 2) leakRun) ∧ (run (init 2) leakRun).err = none ∧
      (run (init 2) leakRun).prunes = [] ∧ checkOwn (run (init 2) leakRun) = []) ∧
    NoLeak (run (init 2) leakRun.dropLast) := by
  unfold NoLeak
  decide +kernel

/-! ### Non-vacuity -/

/-- two databases, capacity 1: acquire on 0, connect, lend, second database
    waits, release → transfer (disconnect + connect), lend. -/
def exRun : List (Env × Ev) :=
  [({}, .acq 0 0), ({}, .start 0), ({}, .cdone 0 true false), ({}, .resume 0),
   ({}, .acq 1 1), ({ avgNZ := [0, 1] }, .tick), ({}, .rel 0 false),
   ({}, .start 1), ({}, .ddone 1 true), ({}, .cdone 1 true false), ({}, .resume 1)]

example : (run (init 1) exRun).holders = [⟨1, 1, 1⟩] ∧ (run (init 1) exRun).cur = 1 ∧
    (run (init 1) exRun).err = none := by decide +kernel

example : InvOwn (run (init 1) exRun) := own_run 1 exRun (Prims.noPrune_all (by decide))

end EdbVerif.C15
