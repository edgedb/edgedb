/-
C10 — Step-by-step migration equals direct migration.

By induction over the chain from `C02_apply_diff` (model: `Model/Schema.lean`,
`migrate` = diff then apply, `migrateChain` = fold of `migrate`).  The
statements are about chains in which every step is accepted, as the property is.
-/
import EdbVerif.Lemmas.SchemaChain

namespace EdbVerif.C10
open EdbVerif.Schema

/-- **C10.**  Evolving the empty database through any chain of valid schemas
    ends in (a schema equal as a finite map to) the last one. -/
theorem C10_chain (sim : Sim) (hs : SimSound sim) (S : List Schema) (hv : ∀ s ∈ S, Valid s)
    (r : Schema) (h : migrateChain sim [] S = .ok r) (t : Schema) (ht : S.getLast? = some t) :
    Same r t :=
  chain_same hs valid_nil hv h ht

/-- The same from any valid starting point: only the last schema matters. -/
theorem C10_chain_from (sim : Sim) (hs : SimSound sim) (a : Schema) (ha : Valid a) (S : List Schema)
    (hv : ∀ s ∈ S, Valid s) (r : Schema) (h : migrateChain sim a S = .ok r)
    (t : Schema) (ht : S.getLast? = some t) : Same r t :=
  chain_same hs ha hv h ht

/-- **Path independence.**  The chain and the direct migration from the empty
    schema agree — even when the two runs use different similarity functions
    (different plans, renames vs drop+create, different tie-breaks). -/
theorem C10_path_independent (sim sim' : Sim) (hs : SimSound sim) (hs' : SimSound sim')
    (S : List Schema) (hv : ∀ s ∈ S, Valid s) (t : Schema) (ht : S.getLast? = some t)
    (r r' : Schema) (h : migrateChain sim [] S = .ok r) (h' : migrate sim' [] t = .ok r') :
    Same r r' := by
  have h1 := chain_same hs valid_nil hv h ht
  have h2 := migrate_same hs' valid_nil (hv t (List.mem_of_getLast? ht)) h'
  exact h1.trans_symm h2

/-- Two chains with the same last schema end in the same schema. -/
theorem C10_confluence (sim sim' : Sim) (hs : SimSound sim) (hs' : SimSound sim')
    (S S' : List Schema) (hv : ∀ s ∈ S, Valid s) (hv' : ∀ s ∈ S', Valid s)
    (t : Schema) (ht : S.getLast? = some t) (ht' : S'.getLast? = some t)
    (r r' : Schema) (h : migrateChain sim [] S = .ok r) (h' : migrateChain sim' [] S' = .ok r') :
    Same r r' :=
  (chain_same hs valid_nil hv h ht).trans_symm (chain_same hs' valid_nil hv' h' ht')

/-- A final migration to the empty schema removes everything. -/
theorem C10_to_empty (sim : Sim) (hs : SimSound sim) (A : Schema) (hA : Valid A) (r : Schema)
    (h : migrate sim A [] = .ok r) : r = [] :=
  (migrate_same hs hA valid_nil h).nil

/-! ### Non-vacuity -/

def exSim : Sim := fun ctx y x =>
  if renameObj ctx.renames y = x ∧ y.name = x.name then 1000
  else if y.name = x.name then 800 else if y.data = x.data then 700 else 300

def s1 : Schema := [⟨1, "Foo", 1, []⟩, ⟨2, "name", 5, [(1, "Foo")]⟩]
def s2 : Schema := [⟨1, "Foo", 1, []⟩, ⟨1, "Bar", 2, [(1, "Foo")]⟩, ⟨2, "name", 5, [(1, "Bar")]⟩]
def s3 : Schema := [⟨1, "Baz", 2, []⟩, ⟨2, "name", 5, [(1, "Baz")]⟩, ⟨2, "n2", 5, [(1, "Baz")]⟩]

/-- create, re-parent, rename + drop of the old base: all steps accepted, the end is `s3`
    as a finite map (the association list comes out in a different order) -/
example : (migrateChain exSim [] [s1, s2, s3]).toOption =
    some [⟨2, "name", 5, [(1, "Baz")]⟩, ⟨1, "Baz", 2, []⟩, ⟨2, "n2", 5, [(1, "Baz")]⟩] := by decide +kernel

example : (∀ s ∈ [s1, s2, s3], Valid s) := by
  intro s hs
  simp only [List.mem_cons, List.not_mem_nil, or_false] at hs
  rcases hs with rfl | rfl | rfl <;> exact ⟨by decide +kernel, by decide +kernel⟩

example : (migrate exSim s3 []).toOption = some [] := by decide +kernel

end EdbVerif.C10
