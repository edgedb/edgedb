/-
C09 — Compiler session state follows transaction and savepoint semantics.

Level 1 (this section): the compiler-side `CompilerConnectionState` machine
(`EdbVerif.Tx.step`, the model of `edb/server/compiler/dbstate.py`) refines the
PostgreSQL-style block-with-savepoint-stack `Spec` for EVERY history of
START / COMMIT / ROLLBACK / DECLARE n / RELEASE n / ROLLBACK TO n / payload updates,
repeated names and rejected statements included.

Reading guide.  `abs c` reads the current `Transaction` object of `c` as a `Spec`
(`base` = `_state0`, `cur` = `_current`, `frames` = `_savepoints` innermost first,
`explicit` = `not _implicit`).  `cls` forgets the savepoint id a DECLARE returns.
`Reachable c` = produced from a fresh connection state by some history.
The compiler's implicit transaction is an open block whose baseline is `base`
(autocommit outside a block is a server-level fact: a fresh state per compile; level 2).
-/
import EdbVerif.Lemmas.TxPool
import EdbVerif.Lemmas.TxDetached
import EdbVerif.Lemmas.TxClient

namespace EdbVerif.C09
open EdbVerif.Tx

/-! ## Level 1 -/

/-- Refinement: after any history the abstraction of the implementation state is the
    spec state, and every call was accepted / rejected (with the same error class)
    exactly as the spec says. -/
theorem refines (t0 : Nat) (pl : Payload) (h : List Ev) :
    abs (run (ConState.init t0 pl) h).1 = some ((Spec.init pl).run h).1 ∧
    (run (ConState.init t0 pl) h).2.map cls = ((Spec.init pl).run h).2 :=
  Tx.refines t0 pl h

/-- One more event from any reachable state: abstraction and result class commute with
    the spec step, and the state stays reachable. -/
theorem refines_step (c : ConState) (hr : Reachable c) (p : Spec) (ha : abs c = some p) (e : Ev) :
    abs (step c e).1 = some (p.step e).1 ∧ cls (step c e).2 = (p.step e).2 ∧
      Reachable (step c e).1 :=
  Tx.reachable_step c hr p ha e

/-- A rejected statement leaves the state as it was.  (In the model this is how `step` is
    built — every `raise` in `dbstate.py` precedes the first write; the differential run
    compares the whole real object graph before / after every rejected real call.) -/
theorem rejected_unchanged (c : ConState) (e : Ev) (err : Err)
    (h : (step c e).2 = .error err) : (step c e).1 = c :=
  Tx.step_rejected_unchanged c e err h

/-- ROLLBACK is always accepted, restores the baseline, leaves the block and drops every
    savepoint. -/
theorem rollback_restores (c : ConState) (hr : Reachable c) (p : Spec) (ha : abs c = some p) :
    abs (step c .rollback).1 = some { base := p.base, explicit := false, cur := p.base, frames := [] } ∧
    cls (step c .rollback).2 = .ok () := by
  have := Tx.reachable_step c hr p ha .rollback
  exact ⟨this.1, this.2.1⟩

/-- … and the baseline is the payload the block was started on: whatever savepoint
    commands and updates `h` ran inside a block started on a clean state (`cur = base`, as
    every START is in the composed system), ROLLBACK brings back the payload seen at START. -/
theorem rollback_restores_tx_start (c : ConState) (hr : Reachable c) (p : Spec)
    (ha : abs c = some p) (hclean : p.cur = p.base) (hout : p.explicit = false)
    (h : List Ev) (hin : ∀ e ∈ h, e.inner = true) :
    abs (run c (.start :: h ++ [.rollback])).1 =
      some { base := p.cur, explicit := false, cur := p.cur, frames := [] } := by
  rw [(Tx.reachable_run c hr p ha _).1, Spec.run_start_inner_rollback p h hin, hclean]

/-- ROLLBACK TO n inside a block, n declared: the payload saved by the innermost `n` is
    current again, `n` itself stays, every savepoint declared after it is gone. -/
theorem rollback_to_restores (c : ConState) (hr : Reachable c) (p : Spec) (ha : abs c = some p)
    (n : Nat) (f : Frame) (rest : List Frame)
    (hb : p.explicit = true) (hf : findFrame n p.frames = some (f :: rest)) :
    abs (step c (.rollbackTo n)).1 = some { p with cur := f.2, frames := f :: rest } ∧
    cls (step c (.rollbackTo n)).2 = .ok () := by
  have := Tx.reachable_step c hr p ha (.rollbackTo n)
  rw [Spec.step_rollbackTo_found p n f rest hb hf] at this
  exact ⟨this.1, this.2.1⟩

/-- RELEASE n inside a block, n declared: the current payload is kept, the innermost `n`
    and every savepoint declared after it are gone. -/
theorem release_keeps (c : ConState) (hr : Reachable c) (p : Spec) (ha : abs c = some p)
    (n : Nat) (f : Frame) (rest : List Frame)
    (hb : p.explicit = true) (hf : findFrame n p.frames = some (f :: rest)) :
    abs (step c (.release n)).1 = some { p with frames := rest } ∧
    cls (step c (.release n)).2 = .ok () := by
  have := Tx.reachable_step c hr p ha (.release n)
  rw [Spec.step_release_found p n f rest hb hf] at this
  exact ⟨this.1, this.2.1⟩

/-- COMMIT inside a block makes the current payload the new baseline. -/
theorem commit_baseline (c : ConState) (hr : Reachable c) (p : Spec) (ha : abs c = some p)
    (hb : p.explicit = true) :
    abs (step c .commit).1 = some { base := p.cur, explicit := false, cur := p.cur, frames := [] } ∧
    cls (step c .commit).2 = .ok () := by
  have := Tx.reachable_step c hr p ha .commit
  simp only [Spec.step, hb] at this
  exact ⟨this.1, this.2.1⟩

/-- Outside a block, savepoint commands and COMMIT are rejected (and change nothing);
    inside a block START is rejected, and so are RELEASE / ROLLBACK TO of an unknown name. -/
theorem outside_block_rejected (c : ConState) (hr : Reachable c) (p : Spec) (ha : abs c = some p) :
    (p.explicit = false →
      (step c .commit = (c, .error .notInTx)) ∧
      (∀ n, step c (.declare n) = (c, .error .spOutsideBlock)) ∧
      (∀ n, step c (.release n) = (c, .error .spOutsideBlock)) ∧
      (∀ n, step c (.rollbackTo n) = (c, .error .spOutsideBlock))) ∧
    (p.explicit = true →
      (step c .start = (c, .error .alreadyInTx)) ∧
      (∀ n, findFrame n p.frames = none →
        step c (.release n) = (c, .error .noSavepoint) ∧
        step c (.rollbackTo n) = (c, .error .noSavepoint))) := by
  have key := Tx.reachable_rejected c hr p ha
  refine ⟨fun ho => ⟨?_, ?_, ?_, ?_⟩, fun hi => ⟨?_, ?_⟩⟩
  · exact key _ _ (by simp [Spec.step, ho])
  · exact fun n => key _ _ (by simp [Spec.step, ho])
  · exact fun n => key _ _ (by simp [Spec.step, ho])
  · exact fun n => key _ _ (by simp [Spec.step, ho])
  · exact key _ _ (by simp [Spec.step, hi])
  · exact fun n hn => ⟨key _ _ (by simp [Spec.step, hi, hn]), key _ _ (by simp [Spec.step, hi, hn])⟩

/-! ### Non-vacuity (level 1): a concrete history with repeated names and rejections -/

/-- START; SAVEPOINT 1; ddl; SAVEPOINT 1; alias; RELEASE 1; ROLLBACK TO 1; COMMIT; COMMIT -/
def exH : List Ev :=
  [.start, .declare 1, .upd (.schema 5 6), .declare 1, .upd (.aliases 7), .release 1,
   .rollbackTo 1, .commit, .commit]

example : Reachable (run (ConState.init 100 ⟨1, 2, 3, 4⟩) exH).1 := ⟨100, ⟨1, 2, 3, 4⟩, exH, rfl⟩

example : abs (run (ConState.init 100 ⟨1, 2, 3, 4⟩) exH).1 =
      some { base := ⟨1, 2, 3, 4⟩, explicit := false, cur := ⟨1, 2, 3, 4⟩, frames := [] } ∧
    (run (ConState.init 100 ⟨1, 2, 3, 4⟩) exH).2.map cls =
      [.ok (), .ok (), .ok (), .ok (), .ok (), .ok (), .ok (), .ok (), .error .notInTx] := by
  decide +kernel

/-- inside the block, after the second SAVEPOINT 1: hypotheses of `rollback_to_restores` /
    `release_keeps` are satisfiable -/
example : let c := (run (ConState.init 100 ⟨1, 2, 3, 4⟩) (exH.take 5)).1
    ∃ p f rest, abs c = some p ∧ p.explicit = true ∧ findFrame 1 p.frames = some (f :: rest) ∧
      rest ≠ [] :=
  ⟨{ base := ⟨1, 2, 3, 4⟩, explicit := true, cur := ⟨5, 6, 7, 4⟩,
     frames := [(1, ⟨5, 6, 3, 4⟩), (1, ⟨1, 2, 3, 4⟩)] }, (1, ⟨5, 6, 3, 4⟩), [(1, ⟨1, 2, 3, 4⟩)],
   by decide, by decide, by decide, by decide⟩

/-! ## Level 2: the protocol

`Server.step` is one client statement through the server model (`dbview.pyx` +
`execute.pyx` + the binary protocol's error handling) and the compiler (`Compiler.compile` /
`compile_in_tx`, `sync_tx`, the unit's `tx_id / sp_id / sp_name / tx_commit / …` fields),
with the environment's choices `cf` (the statement's own compilation fails) and `bf` (the
backend fails) and the pickle transport of the compiler pool (every call works on a private
unpickled copy of `_last_comp_state`; the pool's REUSE_LAST_STATE_MARKER shortcut is the subject
of the last section).  `PSpec` is the
PostgreSQL-style session; `PSpec.covers` is the envelope:

* the backend may fail on DDL / alias / config statements, queries and COMMIT — a failed COMMIT
  ending the block (`stay = false`) — but not on START / savepoint commands (see the
  counterexamples below), and not on ROLLBACK or on a COMMIT that leaves the backend in the
  block (`stay = true`): those detach the compiler's current `Transaction` object from the id
  the server keeps sending; the spec says what must happen then (only ROLLBACK / ROLLBACK TO
  are accepted and they must work); `detached_rescue` proves the two steps that matter,
  `detached_later_savepoint_counterexample` shows where it fails, the harness checks the rest on
  the real code (corpus/C09/regressions.json);
* compilation may fail anywhere;
* no RELEASE removes a savepoint whose name is also carried by a savepoint that stays.

`SOut.agrees`: same outcome class (ok / rejected / failed-in-backend), and — unless the
block was already aborted — every statement that was not rejected was compiled against
exactly the payload the spec exposes at that point. -/

/-- Protocol refinement for every history inside the envelope (any fresh-state clock values
    `t0`, any savepoint names, repeated or not, any interleaving of rejected / failed
    statements): the outputs agree statement by statement, and at the end the server is in a
    block iff the spec is, is "aborted" iff the spec is, and its baseline (database schema,
    global schema, session aliases and config) is the spec's. -/
theorem protocol_refines (pl : Payload) (h : List SEv)
    (hcov : (PSpec.init pl).coversAll h = true) :
    let S' := (Server.runAll (Server.init pl) h).1
    let p' := ((PSpec.init pl).run h).1
    agreesAll (Server.runAll (Server.init pl) h).2 ((PSpec.init pl).run h).2 ∧
    S'.inTx = p'.inTx ∧ (S'.inTx = true → S'.txErr = p'.failed) ∧
    p'.base = ⟨S'.uschema, S'.gschema, S'.aliases, S'.config⟩ := by
  have := Tx.runAll_refines (Tx.Rel.init pl) h hcov
  exact ⟨this.2, this.1.observable⟩

/-- One more statement from any state coupled to a spec state (the inductive step; `Rel` is
    the coupling invariant of `Lemmas/TxProto.lean`). -/
theorem protocol_step (S : Server) (p : PSpec) (hR : Rel S p) (e : SEv) (hcov : p.covers e = true) :
    Rel (S.step e).1 (p.step e).1 ∧
    (S.step e).2.agrees { cls := (p.step e).2, exposed := p.exposed, healthy := p.healthy } :=
  Tx.stepOk_all hR e hcov

/-- Pickle transport: when the compiler raises, the server keeps the state it had
    (`_last_comp_state` is only assigned from a successful call's result). -/
theorem pickle_rejected_keeps_state (S : Server) (e : SEv)
    (h : (S.step e).2.unit = none) : (S.step e).1.last = S.last := by
  rw [step_eq_afterCompile] at h ⊢
  cases hr : (S.compileOn S.last e).res with
  | error err => exact S.compileFailed_last
  | ok u => rw [hr] at h; cases h

/-! ### Non-vacuity (level 2) -/

/-- out-of-block DDL; START; SAVEPOINT 0; SAVEPOINT 1; alias; SAVEPOINT 1 (shadows); config fails
    in the backend; a query is refused; ROLLBACK TO 1 (the inner one, rescues the block);
    ROLLBACK TO 1 again; RELEASE 0 (takes both `1`s with it: no same-named savepoint stays);
    COMMIT; SAVEPOINT outside a block is rejected. -/
def exP : List SEv :=
  [ { stmt := .upd (.schema 5 6) }, { stmt := .start, t0 := 100 }, { stmt := .declare 0 },
    { stmt := .declare 1 }, { stmt := .upd (.aliases 7) }, { stmt := .declare 1 },
    { stmt := .upd (.config 8), bf := true }, { stmt := .query }, { stmt := .rollbackTo 1 },
    { stmt := .rollbackTo 1 }, { stmt := .release 0 }, { stmt := .commit }, { stmt := .declare 2 } ]

example : (PSpec.init ⟨1, 2, 3, 4⟩).coversAll exP = true := by decide

example : ((PSpec.init ⟨1, 2, 3, 4⟩).run exP).2.map (·.cls) =
    [.ok, .ok, .ok, .ok, .ok, .ok, .failed, .rejected, .ok, .ok, .ok, .ok, .rejected] ∧
    ((PSpec.init ⟨1, 2, 3, 4⟩).run exP).1 = PSpec.out ⟨5, 6, 7, 4⟩ := by decide +kernel

/-! ### COMMIT / ROLLBACK failing while the backend stays in the block (detached transaction)

After `ROLLBACK TO a` the server's transaction id is the savepoint's.  The compiler compiles
COMMIT (or ROLLBACK) — `commit_tx` / `rollback_tx` swap in a fresh implicit `Transaction` — the
backend fails and stays in the block (`SEv.detaching`).  The next `compile_in_tx` must bring the
old explicit transaction back (`sync_tx → sync_to_savepoint: self._current_tx = sp.tx`):
ROLLBACK TO works, savepoint/COMMIT/START are refused because the block is aborted, ROLLBACK
leaves.  Proved: the two steps that matter (below).  Tested only: longer stays in the detached
state and the `_try_compile_rollback` escape (server id not a savepoint id). -/

/-- From any healthy coupled state inside a block whose server-side id is a savepoint id
    (`hsp`: an earlier ROLLBACK TO) with no savepoint declared since (`hH`; without it the
    statement is false, see `detached_later_savepoint_counterexample`): the detaching failure
    agrees with the spec (compiled against the exposed payload, outcome failed, block aborted),
    the rescue statement — ROLLBACK, or ROLLBACK TO any name — is accepted or refused exactly as
    the spec says, and an accepted rescue lands in a coupled state again. -/
theorem detached_rescue (S : Server) (p : PSpec) (hR : Rel S p) (hin : S.inTx = true)
    (hf : p.failed = false) (e1 : SEv) (hd : e1.detaching = true)
    (hsp : ∃ q ∈ S.sps, q.spid = S.txid) (hH : ∀ q ∈ S.sps, q.spid ≤ S.txid)
    (e2 : SEv) (he2 : e2.stmt = .rollback ∨ ∃ n, e2.stmt = .rollbackTo n) :
    (S.step e1).2.agrees { cls := (p.step e1).2, exposed := p.exposed, healthy := p.healthy } ∧
    ((S.step e1).1.step e2).2.agrees
      { cls := ((p.step e1).1.step e2).2, exposed := (p.step e1).1.exposed,
        healthy := (p.step e1).1.healthy } ∧
    (((S.step e1).1.step e2).2.outcome = .ok →
      Rel ((S.step e1).1.step e2).1 ((p.step e1).1.step e2).1) :=
  Tx.detached_rescue hR hin hf e1 hd hsp hH e2 he2

/-- Without `hH` it is false, on the real code too (key `proto:detached-later-savepoint`):
    `START; SAVEPOINT 1; ROLLBACK TO 1; query; SAVEPOINT 2; COMMIT [fails, backend stays in the
    block]; ROLLBACK TO 2`.  PostgreSQL still has savepoint 2.  `sync_to_savepoint(id of 1)`
    re-attaches the old transaction but purges every savepoint with a larger id from it and from
    the log, so the compiler refuses the rescue. -/
def cexDetachedLater : List SEv :=
  [ { stmt := .start }, { stmt := .declare 1 }, { stmt := .rollbackTo 1 }, { stmt := .query },
    { stmt := .declare 2 }, { stmt := .commit, bf := true, stay := true }, { stmt := .rollbackTo 2 } ]

theorem detached_later_savepoint_counterexample :
    ((Server.runAll (Server.init ⟨1, 2, 3, 4⟩) cexDetachedLater).2.getLast?.map (·.outcome)) =
      some (.rejected .inTxError) ∧
    (((PSpec.init ⟨1, 2, 3, 4⟩).run cexDetachedLater).2.getLast?.map (·.cls)) = some .ok := by
  decide +kernel

/-- Without `hsp` (no ROLLBACK TO yet in the block: the server's id is the START id, the
    `_try_compile_rollback` escape serves the rescue without looking at the state) the MODEL
    accepts `ROLLBACK TO` of a released name that the server's stack still lists.  This is a
    limit of the model, not a finding: the real backend refuses that SQL before
    `rollback_tx_to_savepoint` runs, and the model's backend never refuses a statement by
    itself.  (The escape with a live name, and ROLLBACK, agree with the spec — tested.) -/
example :
    let h : List SEv := [ { stmt := .start }, { stmt := .declare 1 }, { stmt := .release 1 },
      { stmt := .commit, bf := true, stay := true }, { stmt := .rollbackTo 1 } ]
    ((Server.runAll (Server.init ⟨1, 2, 3, 4⟩) h).2.getLast?.map (·.outcome)) = some .ok ∧
    (((PSpec.init ⟨1, 2, 3, 4⟩).run h).2.getLast?.map (·.cls)) = some .rejected := by
  decide +kernel

def exDetachedCommit : List SEv :=
  [ { stmt := .start }, { stmt := .declare 1 }, { stmt := .upd (.schema 5 6) }, { stmt := .rollbackTo 1 },
    { stmt := .upd (.aliases 7) }, { stmt := .commit, bf := true, stay := true },
    { stmt := .declare 2 }, { stmt := .start }, { stmt := .commit }, { stmt := .rollbackTo 1 },
    { stmt := .declare 2 }, { stmt := .upd (.config 8) }, { stmt := .commit }, { stmt := .query } ]

def exDetachedRollback : List SEv :=
  [ { stmt := .start }, { stmt := .declare 1 }, { stmt := .upd (.schema 5 6) }, { stmt := .rollbackTo 1 },
    { stmt := .upd (.aliases 7) }, { stmt := .rollback, bf := true },
    { stmt := .declare 2 }, { stmt := .rollbackTo 1 }, { stmt := .upd (.config 8) }, { stmt := .rollback },
    { stmt := .query } ]

example : agreesAll (Server.runAll (Server.init ⟨1, 2, 3, 4⟩) exDetachedCommit).2
      ((PSpec.init ⟨1, 2, 3, 4⟩).run exDetachedCommit).2 ∧
    ((PSpec.init ⟨1, 2, 3, 4⟩).run exDetachedCommit).2.map (·.cls) =
      [.ok, .ok, .ok, .ok, .ok, .failed, .rejected, .rejected, .rejected, .ok, .ok, .ok, .ok, .ok] ∧
    ((PSpec.init ⟨1, 2, 3, 4⟩).run exDetachedCommit).1 = PSpec.out ⟨1, 2, 3, 8⟩ := by decide +kernel

example : agreesAll (Server.runAll (Server.init ⟨1, 2, 3, 4⟩) exDetachedRollback).2
      ((PSpec.init ⟨1, 2, 3, 4⟩).run exDetachedRollback).2 ∧
    ((PSpec.init ⟨1, 2, 3, 4⟩).run exDetachedRollback).1 = PSpec.out ⟨1, 2, 3, 4⟩ := by decide +kernel

/-! ### Outside the envelope: counterexamples (each is replayed on the real classes by the
harness, keys `proto:*`) -/

/-- RELEASE of a shadowing savepoint, no fault anywhere:
    `START; SAVEPOINT a; ddl X; SAVEPOINT a; ddl Y; RELEASE a; ROLLBACK TO a; query`.
    PostgreSQL is back at the first `a` (before X).  The server never pops its savepoint stack
    on RELEASE, finds the released inner `a` on top, reports its id as the transaction id, and
    the next `compile_in_tx` re-synchronises the compiler to it (the log still has it): the
    query is compiled against a schema that contains X. -/
def cexShadow : List SEv :=
  [ { stmt := .start }, { stmt := .declare 1 }, { stmt := .upd (.schema 5 6) }, { stmt := .declare 1 },
    { stmt := .upd (.schema 7 8) }, { stmt := .release 1 }, { stmt := .rollbackTo 1 }, { stmt := .query } ]

theorem protocol_release_shadowed_counterexample :
    ((Server.runAll (Server.init ⟨1, 2, 3, 4⟩) cexShadow).2.getLast?.map
        (fun o => (o.outcome, o.against))) = some (.ok, some ⟨5, 6, 3, 4⟩) ∧
    (((PSpec.init ⟨1, 2, 3, 4⟩).run cexShadow).2.getLast?.map
        (fun o => (o.cls, o.exposed))) = some (.ok, ⟨1, 2, 3, 4⟩) ∧
    ¬ agreesAll (Server.runAll (Server.init ⟨1, 2, 3, 4⟩) cexShadow).2
        ((PSpec.init ⟨1, 2, 3, 4⟩).run cexShadow).2 := by
  decide +kernel

/-- A RELEASE that compiled but failed in the backend: the compiler has forgotten the
    savepoint, PostgreSQL has not — the ROLLBACK TO that would rescue the block is refused. -/
def cexRelease : List SEv :=
  [ { stmt := .start }, { stmt := .declare 1 }, { stmt := .release 1, bf := true }, { stmt := .rollbackTo 1 } ]

theorem protocol_release_fault_counterexample :
    ((Server.runAll (Server.init ⟨1, 2, 3, 4⟩) cexRelease).2.getLast?.map (·.outcome)) =
      some (.rejected .inTxError) ∧
    (((PSpec.init ⟨1, 2, 3, 4⟩).run cexRelease).2.getLast?.map (·.cls)) = some .ok := by
  decide +kernel

/-- A SAVEPOINT that compiled but failed in the backend, after a ROLLBACK TO the same name:
    the compiler rolls back to its phantom savepoint (which contains the DDL), the server's
    transaction id does not move, nothing re-synchronises. -/
def cexDeclare : List SEv :=
  [ { stmt := .start }, { stmt := .declare 1 }, { stmt := .rollbackTo 1 }, { stmt := .upd (.schema 5 6) },
    { stmt := .declare 1, bf := true }, { stmt := .rollbackTo 1 }, { stmt := .query } ]

theorem protocol_declare_fault_counterexample :
    ((Server.runAll (Server.init ⟨1, 2, 3, 4⟩) cexDeclare).2.getLast?.map
        (fun o => (o.outcome, o.against))) = some (.ok, some ⟨5, 6, 3, 4⟩) ∧
    (((PSpec.init ⟨1, 2, 3, 4⟩).run cexDeclare).2.getLast?.map
        (fun o => (o.cls, o.exposed))) = some (.ok, ⟨1, 2, 3, 4⟩) := by
  decide +kernel

/-- A START TRANSACTION that failed in the backend leaves the server "in an aborted
    transaction" (`dbv.start()` ran before the failure): the next statement is refused although
    PostgreSQL is not in a block. -/
def cexStart : List SEv := [ { stmt := .start, bf := true }, { stmt := .query } ]

theorem protocol_start_fault_counterexample :
    ((Server.runAll (Server.init ⟨1, 2, 3, 4⟩) cexStart).2.getLast?.map (·.outcome)) =
      some (.rejected .inTxError) ∧
    (((PSpec.init ⟨1, 2, 3, 4⟩).run cexStart).2.getLast?.map (·.cls)) = some .ok := by
  decide +kernel

/-! ### Session state sent by the client (`decode_state`)

Every Execute message carries the client's session state; the server installs its aliases / config
into its view before parsing (also inside a block) and sends them to `compile_in_tx` as
`request.modaliases / session_config`, which applies them to the compiler state ("session
differences") BEFORE `sync_tx`.  `CEv.cs = none`: the client echoes what the server reported (the
assumption of everything above). -/

/-- A client-side change of the session state is honoured — the statement sent along is compiled
    with it, the coupling is kept — whenever the compiler state the server holds is already at
    the server's transaction id (`Server.settled`: no `sync_to_savepoint` pending), or outside a
    block. -/
theorem client_state_settled (S : Server) (p : PSpec) (hR : Rel S p) (hs : S.settled) (e : CEv)
    (hcov : (p.clientState e.cs).covers e.ev = true) :
    Rel (S.stepC e).1 (p.stepC e).1 ∧
    (S.stepC e).2.agrees { cls := (p.stepC e).2, exposed := (p.clientState e.cs).exposed,
                           healthy := (p.clientState e.cs).healthy } :=
  Tx.stepOk_client hR hs e hcov

/-- Right after a ROLLBACK TO it is not (key `proto:client-state-after-rollback-to`):
    `START; SAVEPOINT 1; ROLLBACK TO 1; <query, sent with new aliases 7>; <query>`.
    `compile_in_tx` applies the request's aliases to `_current` and then `sync_tx` →
    `sync_to_savepoint` replaces `_current` by the savepoint's state: the first statement after
    the ROLLBACK TO is compiled with the savepoint's aliases (3), not the client's (7); the
    second one is right again (the differences are re-applied, no sync pending). -/
def cexClientState : List CEv :=
  [ { ev := { stmt := .start } }, { ev := { stmt := .declare 1 } }, { ev := { stmt := .rollbackTo 1 } },
    { cs := some (7, 4), ev := { stmt := .query } }, { ev := { stmt := .query } } ]

theorem client_state_after_rollback_to_counterexample :
    (Server.runAllC (Server.init ⟨1, 2, 3, 4⟩) cexClientState).2.map (·.against) =
      [some ⟨1, 2, 3, 4⟩, some ⟨1, 2, 3, 4⟩, some ⟨1, 2, 3, 4⟩, some ⟨1, 2, 3, 4⟩, some ⟨1, 2, 7, 4⟩] ∧
    ((PSpec.init ⟨1, 2, 3, 4⟩).runC cexClientState).2.map (·.exposed) =
      [⟨1, 2, 3, 4⟩, ⟨1, 2, 3, 4⟩, ⟨1, 2, 3, 4⟩, ⟨1, 2, 7, 4⟩, ⟨1, 2, 7, 4⟩] := by
  decide +kernel

/-! ## The compiler pool's REUSE_LAST_STATE_MARKER transport

`Sys` adds one pool worker to the server: its `LAST_STATE` object (`wobj`) and the pool's
`worker._last_pickled_state` (`wtok`, identity of a bytes object as a token).  The marker is sent
when `wtok` is the bytes object the server holds; the worker then compiles on `wobj` in place.
`PoolVer.fixed` is the pool as it is now (commit ae526a3: `_last_pickled_state = None` when a call
raises, `LAST_STATE` assigned after pickling); `PoolVer.buggy` is the pool before it. -/

/-- With the fixed pool, every `compile_in_tx` — marker or not — works on a state equal to the
    bytes the server holds (`Sys.cin` = `_last_comp_state`), along any history. -/
theorem reuse_fixed_compiles_on_callers_state (pl : Payload) (h : List SEv) :
    let y := (Sys.runAll .fixed (Sys.init pl) h).1
    y.cin = y.srv.last :=
  Sys.cin_eq _ (Tx.Sys.runAll_fixed _ (Tx.Sys.init_coherent pl) h).2.2

/-- … in particular after a rejected script (the one shape of statement that is rejected
    *after* it has written to the state object): the server keeps its bytes and the next
    statement is compiled on exactly those. -/
theorem reuse_fixed_rejected_script (y : Sys) (ss : List Stmt) (y' : Sys) (o : SOut)
    (hs : y.stepScript .fixed ss = some (y', o)) :
    y'.srv.last = y.srv.last ∧ y'.cin = y'.srv.last := by
  have := Tx.Sys.stepScript_fixed y ss y' o hs
  exact ⟨this.1, this.2.2⟩

/-- Hence the fixed pool is observationally the pickle transport … -/
theorem reuse_fixed_is_pickle (pl : Payload) (h : List SEv) :
    (Sys.runAll .fixed (Sys.init pl) h).1.srv = (Server.runAll (Server.init pl) h).1 ∧
    (Sys.runAll .fixed (Sys.init pl) h).2 = (Server.runAll (Server.init pl) h).2 := by
  have := Tx.Sys.runAll_fixed (Sys.init pl) (Tx.Sys.init_coherent pl) h
  exact ⟨this.1, this.2.1⟩

/-- … and the protocol refinement holds for it on the same envelope. -/
theorem protocol_refines_reuse (pl : Payload) (h : List SEv)
    (hcov : (PSpec.init pl).coversAll h = true) :
    agreesAll (Sys.runAll .fixed (Sys.init pl) h).2 ((PSpec.init pl).run h).2 := by
  rw [(reuse_fixed_is_pickle pl h).2]
  exact (protocol_refines pl h hcov).1

/-- The pool BEFORE the fix: the script `RELEASE SAVEPOINT 1; <query>` inside a block is refused
    by `_make_query_unit` *after* `release_savepoint` has written to the state.  The old pool
    kept `_last_pickled_state`, so the rescuing `ROLLBACK TO 1` went out with the marker, was
    compiled on the worker's mutated `LAST_STATE` (savepoint gone) and was refused; with the
    fixed pool it is compiled on the server's bytes and accepted. -/
theorem reuse_script_counterexample_poolBuggy :
    let pre : List SEv := [{ stmt := .start }, { stmt := .declare 1 }]
    let script : List Stmt := [.release 1, .query]
    (∀ v, ((Sys.runAll v (Sys.init ⟨1, 2, 3, 4⟩) pre).1.stepScript v script).map
        (·.2.outcome) = some (.rejected .txInScript)) ∧
    ((((Sys.runAll .buggy (Sys.init ⟨1, 2, 3, 4⟩) pre).1.stepScript .buggy script).map
        (fun r => (r.1.step .buggy { stmt := .rollbackTo 1 }).2.outcome)) =
          some (.rejected .inTxError)) ∧
    ((((Sys.runAll .fixed (Sys.init ⟨1, 2, 3, 4⟩) pre).1.stepScript .fixed script).map
        (fun r => (r.1.step .fixed { stmt := .rollbackTo 1 }).2.outcome)) = some .ok) := by
  refine ⟨fun v => by cases v <;> decide, by decide, by decide⟩

end EdbVerif.C09
